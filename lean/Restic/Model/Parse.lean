import Restic.Model.Strconv
import Restic.Model.CheckSubset
/-
Models of restic's command-line value parsers (C49), over byte strings. Core Lean only.

  internal/data/duration.go       nextNumber, ParseDuration, Duration.String
  internal/ui/format.go           ParseBytes (with the 64x64 -> 128 bit multiply and its overflow test)
  cmd/restic/cmd_forget.go        ForgetPolicyCount.Set
  internal/options/options.go     splitKeyValue, Parse
  cmd/restic/cmd_check.go         checkFlags (n/t branch from Model/CheckSubset, percentage, size)
  internal/backend/shell_split.go shellSplitter.isSplitChar, SplitShellStrings

Go panics are the explicit outcome `Out.panic`. `strings.TrimSpace`, `strings.ToLower` and
`unicode.IsSpace` are modelled for ASCII (bytes ≥ 0x80 are ordinary characters); the generators
produce no non-ASCII white space or upper-case letters. Floats (`parsePercentage`) enter as an
oracle classification computed by the harness with `strconv.ParseFloat`.
-/
namespace Restic.Model.Parse
open Restic.Model.Strconv

inductive PErr where
  | noNumber | noUnit | invalidUnit        -- ParseDuration
  | esyntax | range                        -- strconv errors
  | emptyString                            -- ParseBytes("")
  | negative                               -- ErrNegativePolicyCount
  | emptyKey | dupKey                      -- options.Parse
  | unknownOption | badDuration            -- options.Apply
  | unterminatedSingle | unterminatedDouble | emptyCommand   -- SplitShellStrings
deriving Repr, DecidableEq

inductive Out (α : Type) where
  | ok (v : α)
  | err (e : PErr)
  | panic
deriving Repr, DecidableEq

def ofNumErr : NumErr → PErr
  | .esyntax => .esyntax
  | .erange => .range

/-! ### white space, case -/

/-- ASCII white space: '\t' '\n' '\v' '\f' '\r' ' ' (`unicode.IsSpace` / `strings.TrimSpace` on ASCII) -/
def isSpace (c : UInt8) : Bool := c == 9 || c == 10 || c == 11 || c == 12 || c == 13 || c == 32

def trimSpace (s : Str) : Str := ((s.dropWhile isSpace).reverse.dropWhile isSpace).reverse

def toLowerAscii (c : UInt8) : UInt8 := if 65 ≤ c && c ≤ 90 then c + 32 else c

/-! ### durations -/

/-- `data.Duration` (fields are Go `int`) -/
structure Duration where
  hours : Int
  days : Int
  months : Int
  years : Int
deriving Repr, DecidableEq

def Duration.zero : Duration := ⟨0, 0, 0, 0⟩

/-- the optional leading '-' of `nextNumber`: (negative, rest) -/
def splitMinus (s : Str) : Bool × Str :=
  match s with
  | 45 :: r => (true, r)
  | _ => (false, s)

/-- `nextNumber`. `legacy = true` is the code before the fix of F1 (`panic(err)` when `Atoi` fails),
    `legacy = false` the code after it (`return 0, input, err`). -/
def nextNumber (legacy : Bool) (input : Str) : Out (Int × Str) :=
  if input = [] then .ok (0, []) else
  let negative := (splitMinus input).1
  let input := (splitMinus input).2
  -- the loop collects leading digits in n; rest = input[i:] at the first non-digit ("" if none)
  let n := input.takeWhile isDigit
  let rest := input.dropWhile isDigit
  if n = [] then .err .noNumber
  else match atoi n with
    | .error e => if legacy then .panic else .err (ofNumErr e)
    | .ok num => .ok (if negative then -num else num, rest)

/-- the `for s != ""` loop of `ParseDuration`; every iteration consumes at least the unit character,
    so `fuel = len(s) + 1` is never exhausted (`Restic.Props.C49.duration_total`); running out of fuel is
    reported as `panic` so that it cannot hide behind a default -/
def parseDurationLoop (legacy : Bool) : Nat → Duration → Str → Out Duration
  | 0, _, _ => .panic
  | fuel + 1, d, s =>
    if s = [] then .ok d else
    match nextNumber legacy s with
    | .panic => .panic
    | .err e => .err e
    | .ok (num, s') =>
      match s' with
      | [] => .err .noUnit
      | u :: s'' =>
        if u = 121 then parseDurationLoop legacy fuel { d with years := num } s''        -- 'y'
        else if u = 109 then parseDurationLoop legacy fuel { d with months := num } s''  -- 'm'
        else if u = 100 then parseDurationLoop legacy fuel { d with days := num } s''    -- 'd'
        else if u = 104 then parseDurationLoop legacy fuel { d with hours := num } s''   -- 'h'
        else .err .invalidUnit

/-- `data.ParseDuration` -/
def parseDuration (legacy : Bool) (s : Str) : Out Duration :=
  let s := trimSpace s
  parseDurationLoop legacy (s.length + 1) Duration.zero s

/-- decimal digits of a natural number, most significant first (`%d`) -/
def toDec (n : Nat) : Str :=
  if n < 10 then [UInt8.ofNat (48 + n)] else toDec (n / 10) ++ [UInt8.ofNat (48 + n % 10)]

/-- `fmt.Sprintf("%d", i)` -/
def fmtInt (i : Int) : Str := if i < 0 then 45 :: toDec i.natAbs else toDec i.toNat

/-- `Duration.String` -/
def durationString (d : Duration) : Str :=
  (if d.years ≠ 0 then fmtInt d.years ++ [121] else []) ++
  (if d.months ≠ 0 then fmtInt d.months ++ [109] else []) ++
  (if d.days ≠ 0 then fmtInt d.days ++ [100] else []) ++
  (if d.hours ≠ 0 then fmtInt d.hours ++ [104] else [])

/-! ### byte sizes -/

/-- the unit switch of `ParseBytes` on the last character -/
def unitOf (c : UInt8) : Option Nat :=
  if c = 98 ∨ c = 66 then some 1                                        -- 'b', 'B'
  else if c = 107 ∨ c = 75 then some 1024                               -- 'k', 'K'
  else if c = 109 ∨ c = 77 then some (1024 * 1024)                      -- 'm', 'M'
  else if c = 103 ∨ c = 71 then some (1024 * 1024 * 1024)               -- 'g', 'G'
  else if c = 116 ∨ c = 84 then some (1024 * 1024 * 1024 * 1024)        -- 't', 'T'
  else none

def two63 : Nat := 9223372036854775808

/-- `hi, lo := bits.Mul64(uint64(value), unit); value = int64(lo); if hi != 0 || value < 0 { ErrRange }`
    with the 64-bit conversions spelled out: `uint64(value)` is `value mod 2^64`, and `int64(lo)` is
    negative exactly when `lo ≥ 2^63` (otherwise it equals `lo`) -/
def mul64Check (value : Int) (unit : Nat) : Out Int :=
  let prod := (value % (two64 : Int)).toNat * unit
  let hi := prod / two64
  let lo := prod % two64
  if hi ≠ 0 then .err .range
  else if lo ≥ two63 then .err .range
  else .ok (lo : Int)

/-- `ui.ParseBytes` -/
def parseBytes (s : Str) : Out Int :=
  match s.getLast? with
  | none => .err .emptyString
  | some last =>
    let numStr := match unitOf last with | some _ => s.dropLast | none => s
    let unit := match unitOf last with | some u => u | none => 1
    match parseInt 64 numStr with
    | .error e => .err (ofNumErr e)
    | .ok value => mul64Check value unit

/-! ### forget policy counts -/

def unlimited : Str := [117, 110, 108, 105, 109, 105, 116, 101, 100]   -- "unlimited"

/-- `ForgetPolicyCount.Set` -/
def policyCountSet (s : Str) : Out Int :=
  if s = unlimited then .ok (-1)
  else match parseInt 64 s with
    | .error e => .err (ofNumErr e)
    | .ok v => if v < 0 then .err .negative else .ok v

/-! ### extended options -/

/-- `strings.Cut(s, "=")` -/
def cutEq (s : Str) : Str × Str := (s.takeWhile (· != 61), (s.dropWhile (· != 61)).drop 1)

/-- `splitKeyValue` -/
def splitKeyValue (s : Str) : Str × Str :=
  let (k, v) := cutEq s
  ((trimSpace k).map toLowerAscii, trimSpace v)

/-- the loop of `options.Parse`; the map is an association list (keys unique) -/
def optionsLoop : List (Str × Str) → List Str → Out (List (Str × Str))
  | acc, [] => .ok acc
  | acc, o :: os =>
    let (k, v) := splitKeyValue o
    if k = [] then .err .emptyKey
    else match acc.lookup k with
      | some v' => if v' ≠ v then .err .dupKey else optionsLoop acc os
      | none => optionsLoop (acc ++ [(k, v)]) os

/-- `options.Parse` -/
def optionsParse (opts : List Str) : Out (List (Str × Str)) := optionsLoop [] opts

/-! ### applying extended options to a config struct (`Options.Apply`) -/

/-- what `Apply` switches on: `Type.Name()` of the field ("string", "int", "uint", "bool", "Duration");
    any other name makes `Apply` panic ("type … not handled") -/
inductive Kind where
  | str | int | uint | bool | dur | other
deriving Repr, DecidableEq

/-- value stored in the field -/
inductive Val where
  | str (s : Str)
  | int (i : Int)
  | uint (n : Nat)
  | bool (b : Bool)
  | dur (ns : Int)
deriving Repr, DecidableEq

/-- `strconv.ParseBool` -/
def parseBool (s : Str) : Option Bool :=
  if s = [49] ∨ s = [116] ∨ s = [84] ∨ s = [116, 114, 117, 101] ∨ s = [84, 82, 85, 69] ∨ s = [84, 114, 117, 101] then some true
  else if s = [48] ∨ s = [102] ∨ s = [70] ∨ s = [102, 97, 108, 115, 101] ∨ s = [70, 65, 76, 83, 69] ∨ s = [70, 97, 108, 115, 101] then some false
  else none

/-- one iteration of the `for key, value := range o` loop of `Apply` for a known key: convert the
    value according to the field's type. `durOracle` = result of `time.ParseDuration(value)` in ns
    (stdlib, not modelled). -/
def applyOne (k : Kind) (value : Str) (durOracle : Option Int) : Out Val :=
  match k with
  | .str => .ok (.str value)
  | .int =>
    (match parseInt0 32 value with
     | .error e => .err (ofNumErr e)
     | .ok vi => .ok (.int vi))                    -- SetInt(vi)
  | .uint =>
    (match parseUint0 32 value with
     | .error e => .err (ofNumErr e)
     | .ok vi => .ok (.uint vi))                   -- SetUint(vi)
  | .bool =>
    (match parseBool value with
     | none => .err .esyntax
     | some b => .ok (.bool b))
  | .dur =>
    (match durOracle with
     | none => .err .badDuration
     | some d => .ok (.dur d))
  | .other => .panic

/-- `Options.Apply` on a struct whose tagged fields are `fields` (tag, kind): every option must name
    a field and convert; the options are visited in map order (here: list order), the first failure
    aborts -/
def applyAll (fields : List (Str × Kind)) (dur : Str → Option Int) : List (Str × Str) → Out (List (Str × Val))
  | [] => .ok []
  | (key, value) :: rest =>
    match fields.lookup key with
    | none => .err .unknownOption
    | some k =>
      match applyOne k value (dur value) with
      | .panic => .panic
      | .err e => .err e
      | .ok v =>
        match applyAll fields dur rest with
        | .ok vs => .ok ((key, v) :: vs)
        | r => r

/-- C49 for one applied option: never a panic (for the field types restic's config structs use);
    a string is stored verbatim; an `int` / `uint` option is accepted exactly when the value is a
    Go integer literal (optional sign only for `int`) whose number fits 32 bits of the field's
    signedness, and then exactly that number is stored; bools per `strconv.ParseBool` -/
def specApply (k : Kind) (value : Str) (durOracle : Option Int) (res : Out Val) : Bool :=
  match k with
  | .other => true
  | .str => res == .ok (.str value)
  | .int =>
    let x : Option Int := (numeral (splitSign value).2).map fun n => if (splitSign value).1 then -(n : Int) else (n : Int)
    (match x, res with
     | some x, .ok (.int y) => x == y && -2147483648 ≤ y && y < 2147483648
     | some x, .err _ => !(-2147483648 ≤ x && x < 2147483648)
     | none, .err _ => true
     | _, _ => false)
  | .uint =>
    (match numeral value, res with
     | some n, .ok (.uint m) => n == m && m < 4294967296
     | some n, .err _ => !(n < 4294967296)
     | none, .err _ => true
     | _, _ => false)
  | .bool =>
    (match parseBool value, res with
     | some b, .ok (.bool b') => b == b'
     | none, .err _ => true
     | _, _ => false)
  | .dur =>
    (match durOracle, res with
     | some d, .ok (.dur d') => d == d'
     | none, .err _ => true
     | _, _ => false)

/-! ### check --read-data-subset (all branches of checkFlags) -/

/-- what `strconv.ParseFloat(s[:len(s)-1], 64)` and the two float comparisons of `checkFlags`
    yield (oracle computed by the harness) -/
inductive Pct where
  | parseErr | le0 | gt100 | inRange | nan
deriving Repr, DecidableEq

inductive FlagOut where
  | accept
  | together        -- --read-data and --read-data-subset
  | invalidValue | badRange | tTooLarge | pctRange | sizeRange
deriving Repr, DecidableEq

/-- `checkFlags`. `legacyNaN = true`: the comparison `percentage <= 0.0 || percentage > 100.0` of
    the code before the fix (false for NaN, so NaN is accepted); `false`: after the fix. -/
def checkFlags (legacyNaN : Bool) (maxBuckets : Nat) (readData : Bool) (s : Str) (pct : Pct) : FlagOut :=
  if readData ∧ s ≠ [] then .together
  else if s = [] then .accept
  else match CheckSubset.checkFlagsNT maxBuckets s with
    | .accept _ _ => .accept
    | .invalidValue => .invalidValue
    | .badRange => .badRange
    | .tTooLarge => .tTooLarge
    | .notIntSlice =>
      if s.getLast? = some 37 then          -- strings.HasSuffix(s, "%")
        match pct with
        | .parseErr => .invalidValue
        | .le0 => .pctRange
        | .gt100 => .pctRange
        | .inRange => .accept
        | .nan => if legacyNaN then .accept else .pctRange
      else match parseBytes s with
        | .ok v => if v ≤ 0 then .sizeRange else .accept
        | _ => .invalidValue

/-! ### shell splitting -/

/-- `shellSplitter` (0 = no quote) -/
structure Splitter where
  quote : UInt8
  lastChar : UInt8
deriving Repr, DecidableEq

/-- `shellSplitter.isSplitChar` -/
def isSplitChar (s : Splitter) (c : UInt8) : Splitter × Bool :=
  if s.lastChar ≠ 92 ∧ s.quote ≠ 0 ∧ c = s.quote then ({ s with quote := 0 }, true)            -- quote ended
  else if s.lastChar ≠ 92 ∧ s.quote = 0 ∧ (c = 34 ∨ c = 39) then ({ s with quote := c }, true)  -- quote starts
  else
    let s := { s with lastChar := c }
    if s.quote ≠ 0 then (s, false)               -- within quote
    else (s, c = 92 || isSpace c)                -- outside quote

/-- the field loop of `SplitShellStrings` (derived from strings.FieldsFunc): `cur` is the field
    being collected (`fieldStart >= 0`), `acc` the finished fields -/
def splitLoop : Splitter → Option Str → List Str → Str → Splitter × List Str
  | st, cur, acc, [] => (st, match cur with | some f => acc ++ [f] | none => acc)
  | st, cur, acc, c :: cs =>
    let (st', split) := isSplitChar st c
    if split then
      match cur with
      | some f => splitLoop st' none (acc ++ [f]) cs
      | none => splitLoop st' none acc cs
    else splitLoop st' (some (cur.getD [] ++ [c])) acc cs

/-- `backend.SplitShellStrings` -/
def splitShellStrings (data : Str) : Out (List Str) :=
  let (st, strs) := splitLoop ⟨0, 0⟩ none [] data
  if st.quote = 39 then .err .unterminatedSingle
  else if st.quote = 34 then .err .unterminatedDouble
  else if strs = [] then .err .emptyCommand
  else .ok strs

/-! ### Executable statements of the property (evaluated by the driver on the implementation's output) -/

/-- one `number unit` item of a duration string -/
structure Item where
  neg : Bool
  digits : Str
  unit : UInt8
deriving Repr, DecidableEq

def Item.render (i : Item) : Str := (if i.neg then [45] else []) ++ i.digits ++ [i.unit]

def Item.value (i : Item) : Int := if i.neg then -(decVal i.digits : Int) else decVal i.digits

def Item.valid (i : Item) : Bool :=
  i.digits ≠ [] && allDigits i.digits && decVal i.digits < two63 &&
  (i.unit == 121 || i.unit == 109 || i.unit == 100 || i.unit == 104)

def Duration.assign (d : Duration) (i : Item) : Duration :=
  if i.unit = 121 then { d with years := i.value }
  else if i.unit = 109 then { d with months := i.value }
  else if i.unit = 100 then { d with days := i.value }
  else if i.unit = 104 then { d with hours := i.value }
  else d

/-- the value a list of items denotes: the last value per unit -/
def denote (items : List Item) : Duration := items.foldl Duration.assign Duration.zero

/-- greedy tokeniser used only by the specification: `none` when the string is not of the form
    `(-?digits unit)*` -/
def tokenize : Nat → Str → Option (List Item)
  | 0, _ => none
  | fuel + 1, s =>
    if s = [] then some [] else
    let neg := (splitMinus s).1
    let r := (splitMinus s).2
    let ds := r.takeWhile isDigit
    match r.dropWhile isDigit with
    | [] => none
    | u :: rest =>
      match tokenize fuel rest with
      | none => none
      | some items => some (⟨neg, ds, u⟩ :: items)

/-- C49 for durations, on an observed outcome: never a panic; accepted exactly the strings of the
    documented form whose numbers fit an `int`, with the value they denote -/
def specDuration (s : Str) (res : Out Duration) : Bool :=
  let t := trimSpace s
  match res with
  | .panic => false
  | .ok d =>
    (match tokenize (t.length + 1) t with
     | some items => items.all Item.valid && d == denote items
     | none => false)
  | .err _ =>
    (match tokenize (t.length + 1) t with
     | some items => !items.all Item.valid
     | none => true)

/-- the numeral a size string denotes: optional sign, digits, optional unit suffix -/
def sizeDenotes (s : Str) : Option Int :=
  match s.getLast? with
  | none => none
  | some last =>
    let numStr := match unitOf last with | some _ => s.dropLast | none => s
    let unit := match unitOf last with | some u => u | none => 1
    let neg := (splitSign numStr).1
    let ds := (splitSign numStr).2
    if ds ≠ [] ∧ allDigits ds then some ((if neg then -(decVal ds : Int) else decVal ds) * unit) else none

/-- C49 for sizes: accepted exactly when the string denotes a value in `0 ≤ v < 2^63` (after the
    multiplication), with that value; never a panic -/
def specBytes (s : Str) (res : Out Int) : Bool :=
  match res with
  | .panic => false
  | .ok v => (match sizeDenotes s with | some x => x == v && 0 ≤ v && v < two63 | none => false)
  | .err _ => (match sizeDenotes s with
      | some x => !(0 ≤ x && x < two63)
      | none => true)

/-- C49 for policy counts -/
def specCount (s : Str) (res : Out Int) : Bool :=
  let denotes : Option Int :=
    if s = unlimited then some (-1) else
    let neg := (splitSign s).1
    let ds := (splitSign s).2
    if ds ≠ [] ∧ allDigits ds then some (if neg then -(decVal ds : Int) else decVal ds) else none
  match res with
  | .panic => false
  | .ok v => (match denotes with | some x => x == v && (v == -1 && s == unlimited || 0 ≤ v && v < two63) | none => false)
  | .err _ => (match denotes with | some x => s != unlimited && !(0 ≤ x && x < two63) | none => true)

/-- C49 for extended options: accepted iff no key is empty and equal keys carry equal values; the
    resulting map holds exactly the given pairs (first `=` splits, keys lower-cased, both trimmed) -/
def specOptions (ins : List Str) (res : Out (List (Str × Str))) : Bool :=
  let kvs := ins.map splitKeyValue
  let consistent := kvs.all (fun kv => kv.1 ≠ []) &&
    kvs.all (fun kv => kvs.all fun kv' => kv.1 != kv'.1 || kv.2 == kv'.2)
  match res with
  | .panic => false
  | .ok m => consistent && kvs.all (fun kv => m.lookup kv.1 == some kv.2) && m.all (fun kv => kvs.contains kv)
  | .err _ => !consistent

/-- `strings.FieldsFunc(data, isSpace)` -/
def fieldsSpace : Option Str → Str → List Str
  | cur, [] => (match cur with | some f => [f] | none => [])
  | cur, c :: cs =>
    if isSpace c then (match cur with | some f => f :: fieldsSpace none cs | none => fieldsSpace none cs)
    else fieldsSpace (some (cur.getD [] ++ [c])) cs

def plainChar (c : UInt8) : Bool := c != 34 && c != 39 && c != 92

/-- C49 for shell strings: never a panic; fields are never empty, an accepted command has at least
    one field; a string without quotes and backslashes splits exactly at white space -/
def specShell (data : Str) (res : Out (List Str)) : Bool :=
  match res with
  | .panic => false
  | .ok strs => strs ≠ [] && strs.all (· ≠ []) && (!data.all plainChar || strs == fieldsSpace none data)
  | .err e => !data.all plainChar || (fieldsSpace none data == [] && e == .emptyCommand)

/-- does a `--read-data-subset` value denote an acceptable subset: `n/t` with `1 ≤ n ≤ t ≤ max`,
    a percentage in `(0, 100]` (float oracle), or a size (with unit suffix) above 0 -/
def flagDenotes (maxBuckets : Nat) (s : Str) (pct : Pct) : Bool :=
  match CheckSubset.stringToIntSlice s with
  | .ok [n, t] => 1 ≤ n && n ≤ t && t ≤ maxBuckets
  | .ok _ => false
  | .error _ =>
    if s.getLast? = some 37 then pct == .inRange
    else match sizeDenotes s with | some v => 0 < v && v < two63 | none => false

/-- C49 for check subsets: a value is accepted exactly when it denotes an acceptable subset (and
    `--read-data` is not given as well); no value makes the check panic -/
def specFlags (maxBuckets : Nat) (readData : Bool) (s : Str) (pct : Pct) (res : FlagOut) : Bool :=
  (res == .accept) == (s = [] || (!readData && flagDenotes maxBuckets s pct))

end Restic.Model.Parse
