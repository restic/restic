import Restic.Gen.Consts
/-
Model of the pack file format (C06): `Packer.Add`, `Packer.Finalize`, `makeHeader`,
`verifyHeader`, `HeaderFull`, `readRecords`, `readHeader`, `List`, `parseHeaderEntry` of
internal/repository/pack/pack.go. Core Lean only, byte exact (`List UInt8`).

Encryption is a parameter (`Crypto`). Layout constants are the regenerated facts of `Restic.Gen`
(`pack_entrySize`, `pack_plainEntrySize`, `pack_headerSize`, `pack_headerLengthSize`,
`pack_MaxHeaderSize`, `pack_eagerEntries`, `pack_minFileSize`, `crypto_Extension`, `crypto_ivSize`,
`restic_DataBlob`, `restic_TreeBlob`, `restic_idSize`). Go run-time panics (slice bounds) are the
explicit outcome `Res.panic`, never defaulted away.
-/
namespace Restic.Model.Pack
open Restic.Gen

abbrev Bytes := List UInt8

/-- `pack.Blob`: `type` is the numeric `restic.BlobType`, `id` the 32 bytes of `restic.ID` -/
structure Blob where
  type : Nat
  id : Bytes
  length : Nat
  offset : Nat
  ulen : Nat
deriving DecidableEq, Repr

inductive Err where
  | fileTooShort        -- readHeader: "file is too short"
  | hlenZero            -- readRecords: "header length is zero"
  | hlenTooShort        -- "header length is too short"
  | hlenLargerThanFile  -- "header is larger than file"
  | hlenLargerThanMax   -- "header is larger than maxHeaderSize"
  | readAt              -- the ReaderAt returned an error (short read)
  | headerTooShort      -- List: "invalid header, too short"
  | openFailed          -- k.Open failed (MAC)
  | entryShort          -- parseHeaderEntry: "buffer of size %d too short"
  | invalidType         -- parseHeaderEntry: "invalid type %d"
  | invalidBlobType     -- makeHeader: "invalid blob type %v"
  | verifyDecode        -- verifyHeader: "header decoding failed"
  | verifySize          -- verifyHeader: "unexpected header size"
  | verifyCount         -- verifyHeader: "pack header size mismatch"
  | verifyEntry         -- verifyHeader: "pack header entry mismatch"
deriving DecidableEq, Repr

inductive Res (α : Type) where
  | ok (a : α)
  | err (e : Err)
  | panic
deriving DecidableEq, Repr

/-- `sealB nonce p` = what `k.Seal(dst, nonce, p, nil)` appends; `openB nonce c` = `k.Open` -/
structure Crypto where
  sealB : Bytes → Bytes → Bytes
  openB : Bytes → Bytes → Option Bytes

/-! ### little-endian uint32 -/

/-- `binary.LittleEndian.PutUint32(_, uint32(n))` (the conversion to uint32 truncates) -/
def le32 (n : Nat) : Bytes :=
  [UInt8.ofNat (n % 256), UInt8.ofNat (n / 256 % 256), UInt8.ofNat (n / 65536 % 256),
   UInt8.ofNat (n / 16777216 % 256)]

/-- `binary.LittleEndian.Uint32` of a 4-byte slice -/
def unle32 : Bytes → Nat
  | [a, b, c, d] => a.toNat + 256 * b.toNat + 65536 * c.toNat + 16777216 * d.toNat
  | _ => 0

/-! ### Go slicing: out-of-range is a panic (`none`) -/

/-- `p[lo:hi]` -/
def slice? (p : Bytes) (lo hi : Nat) : Option Bytes :=
  if lo ≤ hi ∧ hi ≤ p.length then some ((p.take hi).drop lo) else none

/-- `p[lo:]` -/
def from? (p : Bytes) (lo : Nat) : Option Bytes :=
  if lo ≤ p.length then some (p.drop lo) else none

/-! ### writing -/

/-- the type byte chosen by the `switch` in `makeHeader`; `none` = "invalid blob type" -/
def typeByte (b : Blob) : Option UInt8 :=
  if b.type = restic_DataBlob ∧ b.ulen = 0 then some 0
  else if b.type = restic_TreeBlob ∧ b.ulen = 0 then some 1
  else if b.type = restic_DataBlob ∧ b.ulen ≠ 0 then some 2
  else if b.type = restic_TreeBlob ∧ b.ulen ≠ 0 then some 3
  else none

/-- one iteration of the loop of `makeHeader` -/
def encEntry (b : Blob) : Option Bytes :=
  match typeByte b with
  | none => none
  | some tb => some (tb :: (le32 b.length ++ ((if b.ulen ≠ 0 then le32 b.ulen else []) ++ b.id)))

/-- `makeHeader` -/
def makeHeader : List Blob → Option Bytes
  | [] => some []
  | b :: bs =>
    match encEntry b with
    | none => none
    | some e =>
      match makeHeader bs with
      | none => none
      | some r => some (e ++ r)

/-! ### reading -/

/-- `rd.ReadAt(buf[:n], off)` on a reader over `file`: a short read is an error -/
def readAt (file : Bytes) (off n : Nat) : Option Bytes :=
  if off + n ≤ file.length then some ((file.drop off).take n) else none

/-- `readRecords(rd, size, bufsize)`: raw header bytes and total header length -/
def readRecords (file : Bytes) (size bufsize : Nat) : Res (Bytes × Nat) :=
  let bufsize := if bufsize > size then size else bufsize
  match readAt file (size - bufsize) bufsize with
  | none => .err .readAt
  | some b =>
    if b.length < pack_headerLengthSize then .panic else      -- b[len(b)-headerLengthSize:] out of range
    let hlen := unle32 (b.drop (b.length - pack_headerLengthSize))
    let b := b.take (b.length - pack_headerLengthSize)
    if hlen = 0 then .err .hlenZero
    else if hlen < crypto_Extension then .err .hlenTooShort
    else if hlen + pack_headerLengthSize > size then .err .hlenLargerThanFile
    else if hlen + pack_headerLengthSize > pack_MaxHeaderSize then .err .hlenLargerThanMax
    else
      let total := (hlen + pack_headerLengthSize) % 4294967296
      if total < bufsize then
        -- truncate to the beginning of the pack header: b[len(b)-int(hlen):]
        if hlen ≤ b.length then .ok (b.drop (b.length - hlen), total) else .panic
      else .ok (b, total)

/-- `readHeader(rd, size)` -/
def readHeader (file : Bytes) (size : Nat) : Res Bytes :=
  if size < pack_minFileSize then .err .fileTooShort else
  let eagerSize := pack_eagerEntries * pack_entrySize + pack_headerSize
  match readRecords file size eagerSize with
  | .err e => .err e
  | .panic => .panic
  | .ok (b, c) =>
    if c ≤ eagerSize then .ok b   -- eager read sufficed
    else
      match readRecords file size c with
      | .err e => .err e
      | .panic => .panic
      | .ok (b, _) => .ok b

/-- `copy(b.ID[:], p)`: the first `idSize` bytes, zero padded (the array is zero initialised) -/
def copyID (p : Bytes) : Bytes :=
  p.take restic_idSize ++ List.replicate (restic_idSize - p.length) 0

/-- `parseHeaderEntry(p)`: the blob (offset not set) and the entry size -/
def parseHeaderEntry (p : Bytes) : Res (Blob × Nat) :=
  let l := p.length
  if l < pack_plainEntrySize then .err .entryShort else
  match p with
  | [] => .panic
  | tpe :: _ =>
    let ty : Option Nat :=
      if tpe = 0 ∨ tpe = 2 then some restic_DataBlob
      else if tpe = 1 ∨ tpe = 3 then some restic_TreeBlob
      else none
    match ty with
    | none => .err .invalidType
    | some ty =>
      match slice? p 1 5, from? p 5 with
      | some lb, some p =>
        let length := unle32 lb
        if tpe = 2 ∨ tpe = 3 then
          if l < pack_entrySize then .err .entryShort else
          match slice? p 0 4, from? p 4 with
          | some ub, some p =>
            .ok ({ type := ty, id := copyID p, length := length, offset := 0, ulen := unle32 ub }, pack_entrySize)
          | _, _ => .panic
        else
          .ok ({ type := ty, id := copyID p, length := length, offset := 0, ulen := 0 }, pack_plainEntrySize)
      | _, _ => .panic

/-- the `for len(buf) > 0` loop of `List`; `fuel` bounds the iterations (each consumes at least one
byte, see `Proofs.C06.parseLoop_no_panic`), running out of fuel is reported as `panic` -/
def parseLoop : Nat → Bytes → Nat → Res (List Blob)
  | _, [], _ => .ok []
  | 0, _ :: _, _ => .panic
  | fuel + 1, buf@(_ :: _), pos =>
    match parseHeaderEntry buf with
    | .err e => .err e
    | .panic => .panic
    | .ok (entry, sz) =>
      match from? buf sz with
      | none => .panic
      | some rest =>
        match parseLoop fuel rest (pos + entry.length) with
        | .err e => .err e
        | .panic => .panic
        | .ok es => .ok ({ entry with offset := pos } :: es)

/-- `List(k, rd, size)`: entries and header size -/
def list (k : Crypto) (file : Bytes) (size : Nat) : Res (List Blob × Nat) :=
  match readHeader file size with
  | .err e => .err e
  | .panic => .panic
  | .ok buf =>
    if buf.length < crypto_Extension then .err .headerTooShort else
    let hdrSize := (pack_headerLengthSize + buf.length) % 4294967296
    match slice? buf 0 crypto_ivSize, from? buf crypto_ivSize with
    | some nonce, some ct =>
      match k.openB nonce ct with
      | none => .err .openFailed
      | some plain =>
        match parseLoop plain.length plain 0 with
        | .err e => .err e
        | .panic => .panic
        | .ok es => .ok (es, hdrSize)
    | _, _ => .panic

/-! ### the packer -/

/-- `verifyHeader(k, header, expected)` -/
def verifyHeader (k : Crypto) (header : Bytes) (expected : List Blob) : Res Unit :=
  match list k header header.length with
  | .err _ => .err .verifyDecode
  | .panic => .panic
  | .ok (decoded, hdrSize) =>
    if hdrSize ≠ header.length % 4294967296 then .err .verifySize
    else if decoded.length ≠ expected.length then .err .verifyCount
    else if (decoded.zip expected).all (fun p => p.1 == p.2) then .ok ()
    else .err .verifyEntry

/-- `Finalize` up to the write: the bytes appended to the pack (`nonce` = `NewRandomNonce()`) -/
def finalize (k : Crypto) (nonce : Bytes) (blobs : List Blob) : Res Bytes :=
  match makeHeader blobs with
  | none => .err .invalidBlobType
  | some header =>
    let enc := nonce ++ k.sealB nonce header
    let enc := enc ++ le32 enc.length
    match verifyHeader k enc blobs with
    | .err e => .err e
    | .panic => .panic
    | .ok () => .ok enc

/-- state of a `Packer`: blobs added, bytes counted, bytes written to `wr` -/
structure Packer where
  blobs : List Blob := []
  bytes : Nat := 0
  out : Bytes := []
deriving Repr

/-- `Packer.Add(t, id, data, uncompressedLength)` (successful write) -/
def Packer.add (p : Packer) (t : Nat) (id data : Bytes) (ulen : Nat) : Packer :=
  { blobs := p.blobs ++ [{ type := t, id := id, length := data.length, offset := p.bytes, ulen := ulen }]
    bytes := p.bytes + data.length
    out := p.out ++ data }

/-- what `Add` returns: bytes written plus the size of the header entry -/
def addResult (data : Bytes) (ulen : Nat) : Nat :=
  data.length + (if ulen ≠ 0 then pack_entrySize else pack_plainEntrySize)

/-- `Packer.Finalize` -/
def Packer.finalize (p : Packer) (k : Crypto) (nonce : Bytes) : Res Packer :=
  match Pack.finalize k nonce p.blobs with
  | .err e => .err e
  | .panic => .panic
  | .ok h => .ok { p with bytes := p.bytes + h.length, out := p.out ++ h }

/-- `Packer.HeaderFull` for a packer holding `n` blobs -/
def headerFull (n : Nat) : Bool :=
  decide (pack_headerSize + (n + 1) * pack_entrySize > pack_MaxHeaderSize)

/-- `CalculateHeaderSize(blobs)` -/
def calculateHeaderSize (bs : List Blob) : Nat :=
  bs.foldl (fun s b => s + (if b.ulen ≠ 0 then pack_entrySize else pack_plainEntrySize)) pack_headerSize

/-! ### Executable statement of the property -/

/-- the listing expected for a sequence of `Add`s: same types, ids, stored and uncompressed
lengths, offsets = running sum of the stored lengths -/
def expectedListing : Nat → List (Nat × Bytes × Nat × Nat) → List Blob
  | _, [] => []
  | pos, (t, id, len, ulen) :: rest =>
    { type := t, id := id, length := len, offset := pos, ulen := ulen } :: expectedListing (pos + len) rest

/-- C06, first half, on observed behaviour: `adds` = (type, id, stored length, uncompressed length)
of every `Add`; `fileLen` = size of the finalized pack; `listed`/`hdrSize` = what `List` returned.
The listing must be exactly the blobs added, and the reported header size must be what the file
holds besides the blob data. -/
def specListing (adds : List (Nat × Bytes × Nat × Nat)) (fileLen : Nat) (listed : List Blob) (hdrSize : Nat) : Bool :=
  listed == expectedListing 0 adds &&
  hdrSize + (adds.foldl (fun s a => s + a.2.2.1) 0) == fileLen &&
  hdrSize == calculateHeaderSize listed

/-- C06, second half, on observed behaviour: `expect` is what the construction of the file
dictates (`some (entries, hdrSize)` for a file that carries an authentic well-formed header, `none`
for a truncated / extended / damaged one), `got` is what `List` returned. A malformed pack must be
rejected with an error: never a panic, never a listing; an intact one must list exactly. -/
def specMalformed (expect : Option (List Blob × Nat)) (got : Res (List Blob × Nat)) : Bool :=
  match got, expect with
  | .panic, _ => false
  | .ok r, some e => r == e
  | .ok _, none => false
  | .err _, some _ => false
  | .err _, none => true

/-- offsets are the running sum of the stored lengths (what `Add` maintains) -/
def offsetsOK : Nat → List Blob → Bool
  | _, [] => true
  | pos, b :: bs => b.offset == pos && offsetsOK (pos + b.length) bs

/-- can this blob list be represented in a pack header at all? (non-empty, types data/tree,
32-byte ids, 32-bit lengths, cumulative offsets, header within `MaxHeaderSize`) -/
def representable (bs : List Blob) : Bool :=
  !bs.isEmpty &&
  bs.all (fun b => (b.type == restic_DataBlob || b.type == restic_TreeBlob) && b.id.length == restic_idSize &&
    decide (b.length < 4294967296) && decide (b.ulen < 4294967296)) &&
  offsetsOK 0 bs &&
  decide (calculateHeaderSize bs ≤ pack_MaxHeaderSize)

/-- C06 for `Finalize`: a packer whose blobs cannot be represented must not produce a pack
(`finOk` = Finalize returned nil); a representable one must be finalized. -/
def specFinalize (bs : List Blob) (finOk : Bool) : Bool :=
  finOk == representable bs

end Restic.Model.Pack
