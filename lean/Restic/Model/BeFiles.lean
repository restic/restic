/-
A small model of a restic backend as a finite map from handles to contents, and of the backend
operations ("events") that reach it. Used by C30, C31 and C39. Core Lean only.

Contents are opaque tokens (the harness sends a digest of the bytes), names are strings.
-/
namespace Restic.Model.BeFiles

/-- backend file types (`backend.FileType`) -/
inductive FType where
  | data | key | lock | snapshot | index | config
deriving DecidableEq, Repr, Inhabited

def FType.ofString : String → Option FType
  | "data" => some .data
  | "key" => some .key
  | "lock" => some .lock
  | "snapshot" => some .snapshot
  | "index" => some .index
  | "config" => some .config
  | _ => none

def FType.toString : FType → String
  | .data => "data" | .key => "key" | .lock => "lock"
  | .snapshot => "snapshot" | .index => "index" | .config => "config"

structure Handle where
  t : FType
  name : String
deriving DecidableEq, Repr, Inhabited

abbrev Content := String

/-- the backend state: association list, first binding wins; `none` = no such file -/
abbrev State := List (Handle × Content)

def get (st : State) (h : Handle) : Option Content :=
  match st with
  | [] => none
  | (h', c) :: rest => if h' = h then some c else get rest h

def erase (st : State) (h : Handle) : State := st.filter (fun p => p.1 ≠ h)

def put (st : State) (h : Handle) (c : Content) : State := (h, c) :: erase st h

/-- operations that reach a backend (`backend.Backend` interface) -/
inductive Ev where
  | save (h : Handle) (c : Content)
  | remove (h : Handle)
  | load (h : Handle)
  | stat (h : Handle)
  | list (t : FType)
deriving DecidableEq, Repr, Inhabited

def Ev.mutating : Ev → Bool
  | .save _ _ => true
  | .remove _ => true
  | _ => false

/-- the handle a mutating event writes to -/
def Ev.target : Ev → Option Handle
  | .save h _ => some h
  | .remove h => some h
  | _ => none

def apply (st : State) : Ev → State
  | .save h c => put st h c
  | .remove h => erase st h
  | _ => st

def applyAll (st : State) (evs : List Ev) : State := evs.foldl apply st

/-- two states hold the same files with the same contents -/
def sameFiles (a b : State) : Prop := ∀ h, get a h = get b h

end Restic.Model.BeFiles
