import Restic.Model.Filter
/-
Model of path selection by include / exclude patterns in `restic rewrite` (C27) and
`restic restore` (C20). Core Lean only.

* `PatList`, `listOn`: what `filter.RejectByPattern` / `IncludeByPattern` and their
  case-insensitive variants compute for one item (internal/filter/include.go, exclude.go);
* C27: `gatherExcludeFilters` / `gatherIncludeFilters` (cmd/restic/cmd_rewrite.go),
  `TreeRewriter.RewriteTree` as used by `NewSnapshotSizeRewriter` (node cache disabled,
  `KeepEmptyDirectory`, null ID ⇒ drop, file count / size accounting) (internal/walker/rewriter.go);
* C20: `selectExcludeFilter` / `selectIncludeFilter` (cmd/restic/cmd_restore.go),
  `traverseTreeInner` with its `childMayBeSelected` pruning and the `leaveDir` condition,
  `removeUnexpectedFiles` (internal/restorer/restorer.go).

Snapshot trees are a nested inductive type; an item is addressed by the list of node names from the
root (`names`); the filter sees `path.Join("/", names…)` split into components (`itemComps`).
-/
namespace Restic.Model.Select
open Restic.Model.Filter

inductive Node where
  | file (name : Str) (size : Nat)       -- regular file
  | other (name : Str) (socket : Bool)   -- symlink, device, fifo, socket (neither directory nor regular file);
                                         -- sockets are never restored
  | dir (name : Str) (children : List Node)
deriving Repr, BEq

def Node.name : Node → Str
  | .file n _ => n
  | .other n _ => n
  | .dir n _ => n

def Node.isDir : Node → Bool
  | .dir _ _ => true
  | _ => false

/-- one list of patterns as produced by `CollectPatterns` -/
structure PatList where
  insensitive : Bool
  pats : List Pattern
deriving Repr

/-- `strings.ToLower` on ASCII -/
def lowerChar (c : Char) : Char :=
  if 'A'.toNat ≤ c.toNat ∧ c.toNat ≤ 'Z'.toNat then Char.ofNat (c.toNat + 32) else c
def lowerStr (s : Str) : Str := s.map lowerChar

/-- components the filter sees for the item with node names `names` below the root: the path
    string is `"/" + names joined by "/"`; for the root itself it is "/", which `splitPath` turns
    into `["/", ""]`. -/
def itemComps (names : List Str) : List Str :=
  if names = [] then [slash, []] else slash :: names

/-- `IncludeByPattern(…)(item)` / `RejectByPattern(…)(item)` (+ insensitive variants): the answer of
    `ListWithChild` / `List`; on an error a warning is printed and the answer is (false, false).
    (`panic`/`fuel` are impossible for parsed patterns: `Restic.Props.C28.list_total`.) -/
def listOn (glob : Glob) (l : PatList) (checkChild : Bool) (names : List Str) : Bool × Bool :=
  let comps := itemComps names
  let comps := if l.insensitive then comps.map lowerStr else comps
  if l.pats.length = 0 then (false, false) else
  match listStrs glob l.pats checkChild comps with
  | .ok r => r
  | _ => (false, false)

/-! ### option collection: `ExcludePatternOptions.CollectPatterns` / `IncludePatternOptions.CollectPatterns` -/

/-- `unicode.IsSpace` on ASCII -/
def isSpace (c : Char) : Bool :=
  c = ' ' || c = '\t' || c = '\n' || c = '\r' || c = Char.ofNat 11 || c = Char.ofNat 12

/-- `strings.TrimSpace` -/
def trimSpace (s : Str) : Str := ((s.dropWhile isSpace).reverse.dropWhile isSpace).reverse

/-- `readPatternsFromFiles`: every line trimmed; empty lines and comment lines skipped
    (`os.Expand` is the identity on lines without `$`; generated lines contain none) -/
def readPatternLines (files : List (List Str)) : List Str :=
  files.flatten.filterMap fun line =>
    let t := trimSpace line
    if t = [] then none else if t.head? = some '#' then none else some t

/-- the four option slices of one kind (exclude or include) -/
structure PatternOpts where
  pats : List Str               -- --exclude / --include values
  ipats : List Str              -- --iexclude / --iinclude values
  files : List (List Str)       -- lines of every --exclude-file / --include-file, in order
  ifiles : List (List Str)      -- lines of every --iexclude-file / --iinclude-file
deriving Repr

/-- `Empty()` -/
def PatternOpts.isEmpty (o : PatternOpts) : Bool :=
  o.pats.isEmpty && o.ipats.isEmpty && o.files.isEmpty && o.ifiles.isEmpty

/-- `ValidatePatterns(patterns) == nil` -/
def validateAll (clean : Str → Str) (glob : Glob) (raw : List Str) : Bool :=
  match parsePatterns clean raw with
  | .ok ps => ps.all (validPattern glob)
  | _ => false

def parsedOr (clean : Str → Str) (raw : List Str) : List Pattern :=
  match parsePatterns clean raw with
  | .ok ps => ps
  | _ => []          -- impossible: `preparePattern` only fails on the empty string, which is skipped

/-- case-sensitive patterns after `opts.Excludes = append(opts.Excludes, patternsFromFiles...)` -/
def PatternOpts.sens (o : PatternOpts) : List Str :=
  if o.files.isEmpty then o.pats else o.pats ++ readPatternLines o.files

/-- case-insensitive patterns after `opts.InsensitiveExcludes = append(…, patternsFromIFiles...)` -/
def PatternOpts.insens (o : PatternOpts) : List Str :=
  if o.ifiles.isEmpty then o.ipats else o.ipats ++ readPatternLines o.ifiles

/-- `CollectPatterns`: patterns from files are validated and appended to the list of THEIR kind
    (case-sensitive files to `pats`, case-insensitive files to `ipats`), then each non-empty list is
    validated and becomes one matching function; the insensitive one (patterns lower-cased) comes
    first. `none` = Fatal error. -/
def collectPatterns (clean : Str → Str) (glob : Glob) (o : PatternOpts) : Option (List PatList) :=
  if !o.files.isEmpty && !validateAll clean glob (readPatternLines o.files) then none
  else if !o.ifiles.isEmpty && !validateAll clean glob (readPatternLines o.ifiles) then none
  else if !o.insens.isEmpty && !validateAll clean glob o.insens then none
  else if !o.sens.isEmpty && !validateAll clean glob o.sens then none
  else some ((if o.insens.isEmpty then [] else [⟨true, parsedOr clean (o.insens.map lowerStr)⟩]) ++
             (if o.sens.isEmpty then [] else [⟨false, parsedOr clean o.sens⟩]))

/-! ### C27: rewrite -/

/-- `gatherExcludeFilters.exSelectByName` -/
def exSelect (glob : Glob) : List PatList → List Str → Bool
  | [], _ => true
  | l :: ls, names => if (listOn glob l false names).1 then false else exSelect glob ls names

/-- `gatherIncludeFilters.inSelectByName` -/
def inSelect (glob : Glob) : List PatList → List Str → Bool → Bool
  | [], _, _ => false
  | l :: ls, names, isDir =>
    let r := listOn glob l true names
    if isDir then (if r.1 || r.2 then true else inSelect glob ls names isDir)
    else if r.1 then true else inSelect glob ls names isDir

/-- `gatherIncludeFilters.inSelectByNameDir` (= keepEmptyDirectory) -/
def inSelectDir (glob : Glob) : List PatList → List Str → Bool
  | [], _ => false
  | l :: ls, names => if (listOn glob l true names).1 then true else inSelectDir glob ls names

/-- `SnapshotSize` accumulated by `NewSnapshotSizeRewriter` -/
structure Stats where
  count : Nat
  size : Nat
deriving Repr, DecidableEq

mutual
/-- one iteration of the loop in `RewriteTree`: `sel` = `RewriteNode` keeps the node,
    `keep` = `KeepEmptyDirectory`. `none` = node dropped. -/
def rwNode (sel : List Str → Bool → Bool) (keep : List Str → Bool) (names : List Str) :
    Node → Stats → Option Node × Stats
  | .file n sz, st =>
    if sel (names ++ [n]) false then (some (.file n sz), ⟨st.count + 1, st.size + sz⟩) else (none, st)
  | .other n s, st =>
    if sel (names ++ [n]) false then (some (.other n s), st) else (none, st)
  | .dir n ch, st =>
    if sel (names ++ [n]) true then
      -- newID := t.RewriteTree(path, subtree); null ID ⇒ continue
      match rwList sel keep (names ++ [n]) ch st with
      | (res, st') =>
        if res.isEmpty && !keep (names ++ [n]) then (none, st') else (some (.dir n res), st')
    else (none, st)
/-- the loop of `RewriteTree` over the nodes of one tree -/
def rwList (sel : List Str → Bool → Bool) (keep : List Str → Bool) (names : List Str) :
    List Node → Stats → List Node × Stats
  | [], st => ([], st)
  | c :: cs, st =>
    match rwNode sel keep names c st with
    | (none, st1) => rwList sel keep names cs st1
    | (some c', st1) =>
      match rwList sel keep names cs st1 with
      | (r, st2) => (c' :: r, st2)
end

/-- `RewriteTree(ctx, repo, uploader, "/", *sn.Tree)`: `none` = null tree ID -/
def rewriteRoot (sel : List Str → Bool → Bool) (keep : List Str → Bool) (root : List Node) :
    Option (List Node) × Stats :=
  match rwList sel keep [] root ⟨0, 0⟩ with
  | (res, st) => if res.isEmpty && !keep [] then (none, st) else (some res, st)

inductive RewriteMode where
  | exclude
  | include
deriving Repr, DecidableEq

inductive RewriteResult where
  | fatal                                        -- option check failed
  | unchanged                                    -- "not modified"
  | changed (tree : List Node) (st : Stats)      -- new snapshot saved
deriving Repr

/-- decision logic of `runRewrite` / `rewriteSnapshot` / `filterAndReplaceSnapshot` for pattern
    options only (`nEx`, `nIn` = number of exclude / include flag values given; `lists` = non-empty
    lists after `CollectPatterns`; `allValid` = `ValidatePatterns` passed; `origSummary` = the
    (TotalFilesProcessed, TotalBytesProcessed) pair of the snapshot's summary, if any and if the
    summary has no other content that differs). -/
def runRewrite (glob : Glob) (nEx nIn : Nat) (allValid : Bool) (exLists inLists : List PatList)
    (root : List Node) (origSummary : Option Stats) : RewriteResult :=
  if nEx = 0 ∧ nIn = 0 then .fatal
  else if nEx > 0 ∧ nIn > 0 then .fatal
  else if !allValid then .fatal
  else
    let r := if inLists.length > 0
      then rewriteRoot (fun p d => inSelect glob inLists p d) (fun p => inSelectDir glob inLists p) root
      else rewriteRoot (fun p _ => exSelect glob exLists p) (fun _ => true) root
    match r with
    | (none, _) => .unchanged       -- include mode: keepEmptySnapshot
    | (some t, st) =>
      if t == root && origSummary = some st then .unchanged else .changed t st

/-! #### executable statement of C27 -/

/-- one item of a tree: names-path from the root, kind, size (0 unless a regular file) -/
structure Entry where
  path : List Str
  isDir : Bool
  isFile : Bool
  size : Nat
  sock : Bool       -- a socket node (restore skips it, its name still protects a target entry from --delete)
deriving DecidableEq, Repr

mutual
/-- the item of a node and everything below it -/
def entriesNode (names : List Str) : Node → List Entry
  | .file n sz => [⟨names ++ [n], false, true, sz, false⟩]
  | .other n s => [⟨names ++ [n], false, false, 0, s⟩]
  | .dir n ch => ⟨names ++ [n], true, false, 0, false⟩ :: entriesList (names ++ [n]) ch
/-- every item of a tree -/
def entriesList (names : List Str) : List Node → List Entry
  | [] => []
  | c :: cs => entriesNode names c ++ entriesList names cs
end

/-- every item of a tree -/
def entries (names : List Str) (l : List Node) : List Entry := entriesList names l

theorem entries_nil (names : List Str) : entries names [] = [] := rfl
theorem entries_file (names : List Str) (n : Str) (sz : Nat) (rest : List Node) :
    entries names (.file n sz :: rest) = ⟨names ++ [n], false, true, sz, false⟩ :: entries names rest := rfl
theorem entries_other (names : List Str) (n : Str) (s : Bool) (rest : List Node) :
    entries names (.other n s :: rest) = ⟨names ++ [n], false, false, 0, s⟩ :: entries names rest := rfl
theorem entries_dir (names : List Str) (n : Str) (ch rest : List Node) :
    entries names (.dir n ch :: rest) =
      ⟨names ++ [n], true, false, 0, false⟩ :: (entries (names ++ [n]) ch ++ entries names rest) := rfl

def isFileNode : Node → Bool
  | .file _ _ => true
  | _ => false

mutual
def filesNode (names : List Str) : Node → List (List Str × Nat)
  | .file n sz => [(names ++ [n], sz)]
  | .other _ _ => []
  | .dir n ch => filesList (names ++ [n]) ch
def filesList (names : List Str) : List Node → List (List Str × Nat)
  | [] => []
  | c :: cs => filesNode names c ++ filesList names cs
end

/-- regular files of a tree with their sizes -/
def files (names : List Str) (l : List Node) : List (List Str × Nat) := filesList names l

theorem files_nil (names : List Str) : files names [] = [] := rfl
theorem files_file (names : List Str) (n : Str) (sz : Nat) (rest : List Node) :
    files names (.file n sz :: rest) = (names ++ [n], sz) :: files names rest := rfl
theorem files_other (names : List Str) (n : Str) (s : Bool) (rest : List Node) :
    files names (.other n s :: rest) = files names rest := rfl
theorem files_dir (names : List Str) (n : Str) (ch rest : List Node) :
    files names (.dir n ch :: rest) = files (names ++ [n]) ch ++ files names rest := rfl

/-- all proper, non-empty prefixes of a names-path -/
def ancestors (p : List Str) : List (List Str) :=
  (List.range p.length).filterMap fun k => if k = 0 then none else some (p.take k)

/-- C27 for exclude patterns, on observed trees (`new` = listing of the rewritten snapshot):
    an item survives iff neither it nor one of its ancestors matches. -/
def specExcludeOK (bad : List Str → Bool) (orig new : List Node) : Bool :=
  let eo := entries [] orig
  let en := entries [] new
  eo.all (fun e => en.contains e == (!bad e.path && (ancestors e.path).all fun a => !bad a)) &&
  en.all (fun e => eo.contains e)

/-- C27 for include patterns: a non-directory survives iff it matches; a directory survives iff it
    matches or something below it survives; nothing is invented. -/
def specIncludeOK (matched : List Str → Bool) (orig new : List Node) : Bool :=
  let eo := entries [] orig
  let en := entries [] new
  eo.all (fun e =>
    if e.isDir then
      en.contains e == (matched e.path || en.any fun f => f.path.length > e.path.length && f.path.take e.path.length == e.path)
    else en.contains e == matched e.path) &&
  en.all (fun e => eo.contains e)

/-- summary statistics = regular files of the new tree -/
def specSummaryOK (new : List Node) (st : Stats) : Bool :=
  st.count = (files [] new).length && st.size = ((files [] new).map (·.2)).sum

/-! ### C20: restore -/

/-- `selectExcludeFilter` -/
def selectExclude (glob : Glob) (lists : List PatList) (names : List Str) (isDir : Bool) : Bool × Bool :=
  let selected := exSelect glob lists names      -- loop with break at the first match
  (selected, selected && isDir)

/-- the loop of `selectIncludeFilter` -/
def selectIncludeLoop (glob : Glob) (names : List Str) : List PatList → Bool → Bool → Bool × Bool
  | [], s, c => (s, c)
  | l :: ls, s, c =>
    let r := listOn glob l true names
    let s' := s || r.1
    let c' := c || r.2
    if s' && c' then (s', c') else selectIncludeLoop glob names ls s' c'

/-- `selectIncludeFilter` -/
def selectInclude (glob : Glob) (lists : List PatList) (names : List Str) (isDir : Bool) : Bool × Bool :=
  let r := selectIncludeLoop glob names lists false false
  (r.1, r.2 && isDir)

/-- option handling of `runRestore`: both kinds collected (Fatal on an invalid pattern), include and
    exclude are mutually exclusive, without patterns everything is selected. `none` = Fatal. -/
def restoreFilter (clean : Str → Str) (glob : Glob) (ex inc : PatternOpts) :
    Option (List Str → Bool → Bool × Bool) :=
  match collectPatterns clean glob ex, collectPatterns clean glob inc with
  | some exL, some inL =>
    if !exL.isEmpty && !inL.isEmpty then none
    else if !exL.isEmpty then some (selectExclude glob exL)
    else if !inL.isEmpty then some (selectInclude glob inL)
    else some fun _ _ => (true, true)
  | _, _ => none

/-- what the visitor is told during one tree pass -/
inductive Ev where
  | enter (p : List Str)                          -- enterDir (first pass: ensureDir)
  | visit (p : List Str) (isFile : Bool)          -- visitNode on a selected non-directory
  | leave (p : List Str) (expected : Option (List Str))   -- leaveDir with the names of the tree, `none` = nil slice
  | skipped (p : List Str) (expected : Option (List Str)) -- skippedDir: traversed, nothing restored inside
deriving Repr, DecidableEq

mutual
/-- body of the loop of `traverseTreeInner` for one node: events and the node's contribution to
    `hasRestored` -/
def trNode (sel : List Str → Bool → Bool × Bool) (names : List Str) : Node → List Ev × Bool
  | .file n _ => if (sel (names ++ [n]) false).1 then ([.visit (names ++ [n]) true], true) else ([], false)
  | .other n s =>
    -- sockets cannot be restored: `continue` before SelectFilter (the name is already in `filenames`)
    if s then ([], false)
    else if (sel (names ++ [n]) false).1 then ([.visit (names ++ [n]) false], true) else ([], false)
  | .dir n ch =>
    let s := sel (names ++ [n]) true
    let evEnter := if s.1 then [Ev.enter (names ++ [n])] else []
    match (if s.2 then (match trList sel (names ++ [n]) ch with | (e, r) => (e, r, some (ch.map Node.name)))
           else ([], false, none)) with
    | (evs, childHasRestored, filenames) =>
      let evLeave := if s.1 || childHasRestored then [Ev.leave (names ++ [n]) filenames]
        else if s.2 then [Ev.skipped (names ++ [n]) filenames] else []
      (evEnter ++ evs ++ evLeave, s.1 || childHasRestored)
def trList (sel : List Str → Bool → Bool × Bool) (names : List Str) : List Node → List Ev × Bool
  | [] => ([], false)
  | c :: cs =>
    match trNode sel names c, trList sel names cs with
    | (e1, r1), (e2, r2) => (e1 ++ e2, r1 || r2)
end

/-- `traverseTree`: the root is always entered; `leaveDir` if something was restored, `skippedDir`
    otherwise -/
def traverse (sel : List Str → Bool → Bool × Bool) (root : List Node) : List Ev :=
  match trList sel [] root with
  | (evs, hasRestored) =>
    [Ev.enter []] ++ evs ++ (if hasRestored then [Ev.leave [] (some (root.map Node.name))]
                             else [Ev.skipped [] (some (root.map Node.name))])

/-- the traversal as it was before the fix of finding C20:delete:selected-stale-entry-survives:
    no `skippedDir` callback -/
def traverseOld (sel : List Str → Bool → Bool × Bool) (root : List Node) : List Ev :=
  (traverse sel root).filter fun | .skipped _ _ => false | _ => true

mutual
def dirListingsNode (names : List Str) : Node → List (List Str × List Str)
  | .dir n ch => (names ++ [n], ch.map Node.name) :: dirListingsList (names ++ [n]) ch
  | .file _ _ => []
  | .other _ _ => []
def dirListingsList (names : List Str) : List Node → List (List Str × List Str)
  | [] => []
  | c :: cs => dirListingsNode names c ++ dirListingsList names cs
end

/-- every directory of the snapshot (the root included) with the names in its tree -/
def dirListings (root : List Node) : List (List Str × List Str) :=
  ([], root.map Node.name) :: dirListingsList [] root

/-- is `a` a prefix of `b` (`b` lies in or below `a`)? -/
def isPrefix (a b : List Str) : Bool := a.length ≤ b.length && b.take a.length == a

/-- paths that exist below the target after the first pass creations: every entered directory and
    every visited node, with all their ancestors (`MkdirAll`) -/
def created (evs : List Ev) : List (List Str) :=
  evs.flatMap fun
    | .enter p => (List.range (p.length + 1)).map p.take
    | .visit p _ => (List.range (p.length + 1)).map p.take
    | .leave _ _ => []
    | .skipped _ _ => []

/-- the directory and name list handed to `removeUnexpectedFiles` by the second pass -/
def delDir : Ev → Option (List Str × Option (List Str))
  | .leave p e => some (p, e)
  | .skipped p e => some (p, e)
  | _ => none

/-- `removeUnexpectedFiles` for all `leaveDir` / `skippedDir` calls: `pre` = entries that existed in the target
    before the restore (names-paths relative to the target). Returns the top-most removed entries. -/
def deletedTops (sel : List Str → Bool → Bool × Bool) (evs : List Ev) (pre : List (List Str)) : List (List Str) :=
  evs.flatMap fun ev =>
    match delDir ev with
    | some (p, expected) =>
      pre.filter fun e =>
        e.length = p.length + 1 && isPrefix p e &&
        !((expected.getD []).contains (e.getLast?.getD [])) &&
        (sel e false).1
    | none => []

/-- the set of names-paths below the target after `restore [--delete]` (as a membership test) -/
def afterRestore (sel : List Str → Bool → Bool × Bool) (root : List Node) (delete : Bool)
    (pre : List (List Str)) (p : List Str) : Bool :=
  let evs := traverse sel root
  let del := if delete then deletedTops sel evs pre else []
  (created evs).contains p || (pre.contains p && !(del.any fun d => isPrefix d p))

/-! #### executable statement of C20 -/

/-- all items of the snapshot that the traversal can reach: every ancestor directory lets the
    traversal descend (`childMayBeSelected`) -/
def reachable (sel : List Str → Bool → Bool × Bool) (p : List Str) : Bool :=
  (ancestors p).all fun a => (sel a true).2

/-- C20, include/exclude part, on the observed target (`has p` = path exists after the restore into
    an empty target): a non-directory of the snapshot is written iff it is selected (and, for exclude
    patterns, no ancestor is excluded); a directory exists iff it is selected-and-reachable or
    holds a written item; nothing else exists. -/
def specRestoreOK (sel : List Str → Bool → Bool × Bool) (exclude : Bool) (root : List Node)
    (target : List (List Str)) : Bool :=
  let es := entries [] root
  let want (e : Entry) : Bool :=
    !e.sock &&      -- sockets cannot be restored
    (if exclude then (sel e.path e.isDir).1 && (ancestors e.path).all fun a => (sel a true).1
     else (sel e.path e.isDir).1)
  let written := es.filter want
  es.all (fun e =>
    target.contains e.path == (want e || (e.isDir && written.any fun w => isPrefix e.path w.path))) &&
  target.all (fun p => p == [] || es.any fun e => e.path == p)

/-- C20, `--delete` part: a pre-existing entry whose path is part of the snapshot still exists
    afterwards; one that is not part of the snapshot listing of its (snapshot) directory is gone iff it — or the top-most non-snapshot directory holding it — is
    selected; `full = true` demands this in every snapshot directory the traversal reaches,
    `full = false` only in directories that were left with `leaveDir` (something restored inside
    or the directory itself selected). -/
def specDeleteOK (sel : List Str → Bool → Bool × Bool) (root : List Node) (full : Bool)
    (pre : List (List Str)) (target : List (List Str)) : Bool :=
  let es := entries [] root
  let evs := traverse sel root
  let snapDirs : List (List Str) := [] :: (es.filter (·.isDir)).map (·.path)
  pre.all fun e =>
    -- the top-most ancestor-or-self of `e` that is not in the snapshot, and its parent directory
    match ((List.range (e.length + 1)).filterMap fun k =>
        let q := e.take k
        if k > 0 ∧ !(es.any fun x => x.path == q) ∧ snapDirs.contains (e.take (k - 1)) then some q else none).head? with
    | none => target.contains e   -- part of the snapshot (sockets included): restore may replace it, never lose it
    | some top =>
      let parent := top.take (top.length - 1)
      let considered := if full then reachable sel top
        else evs.any fun | .leave p _ => p == parent | .skipped p _ => p == parent | _ => false
      let gone := !target.contains e
      if considered then gone == (sel top false).1
      else !gone

end Restic.Model.Select
