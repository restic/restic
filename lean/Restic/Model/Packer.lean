/-!
# Model of `internal/repository/packer_manager.go` (+ the parts of `pack.Packer` it uses)

Close transcription of `packerManager.SaveBlob / pickPacker / forgetPacker / mergePackers / Flush`
and of the uploader pipeline (`packerUploader`, `Repository.savePacker`, `flushPackUploader`) as
atomic steps.  `packerManager.SaveBlob` and `Flush` run entirely under `r.pm` (a mutex), so every
call is one atomic step; concurrency of savers is the order of the steps (a schedule), the random
choice of `pickPacker` is an explicit oracle argument `idx`.

Conventions: `Packer.blobs` is kept newest first (Go appends; the order of `Add` is the reverse);
`Packer.bytes` is Go's `p.bytes`, `Packer.n` is `len(p.blobs)` (both are separately maintained
fields so that the compiled model runs in linear time; `Restic.Proofs.C44.WF` ties them to `blobs`).
Pointer identity of `*packer` is modelled by a serial number assigned at `newPacker`.
Not modelled: I/O errors of the temp file, a cancelled context (both abort the session).
-/
namespace Restic.Model.Packer

inductive BlobType | data | tree
deriving DecidableEq, Repr, Inhabited

structure Blob where
  tpe : BlobType
  id : Nat
  len : Nat      -- length of the ciphertext handed to SaveBlob
  ulen : Nat     -- uncompressedLength, 0 = not compressed
deriving DecidableEq, Repr, Inhabited

/-- layout constants of `internal/repository/pack` (regenerated into `Restic.Gen`) -/
structure Cfg where
  headerSize : Nat        -- headerLengthSize + crypto.Extension
  entrySize : Nat
  plainEntrySize : Nat
  maxHeaderSize : Nat     -- MaxHeaderSize
  maxHeaderEntries : Nat  -- MaxHeaderEntries
  headerOverhead : Nat    -- Packer.HeaderOverhead()
deriving Repr

structure Packer where
  serial : Nat
  blobs : List Blob
  bytes : Nat
  n : Nat
deriving DecidableEq, Repr, Inhabited

/-- `newPacker` -/
def Packer.new (serial : Nat) : Packer := ⟨serial, [], 0, 0⟩

/-- `Packer.Add` (no write error) -/
def Packer.add (p : Packer) (b : Blob) : Packer :=
  { p with blobs := b :: p.blobs, bytes := p.bytes + b.len, n := p.n + 1 }

/-- `CalculateEntrySize(b.IsCompressed())` -/
def entryBytes (c : Cfg) (b : Blob) : Nat := if b.ulen = 0 then c.plainEntrySize else c.entrySize

/-- `hdrFull k` : `HeaderFull()` of a packer holding `k` blobs -/
def hdrFull (c : Cfg) (k : Nat) : Bool := decide (c.headerSize + (k + 1) * c.entrySize > c.maxHeaderSize)

def Packer.headerFull (c : Cfg) (p : Packer) : Bool := hdrFull c p.n

/-- number of bytes `Finalize` appends: encrypted header + length field -/
def Packer.headerBytes (c : Cfg) (p : Packer) : Nat := c.headerSize + (p.blobs.map (entryBytes c)).sum

/-- the self check of `Finalize` (`verifyHeader` → `readRecords`) accepts the header iff it is not
    larger than `MaxHeaderSize` -/
def Packer.finalizeOK (c : Cfg) (p : Packer) : Bool := decide (p.headerBytes c ≤ c.maxHeaderSize)

/-- `p.Merge(other)`: re-`Add`s the blobs of `other` in their order of `Add` -/
def Packer.merge (p other : Packer) : Packer := other.blobs.foldr (fun b acc => acc.add b) p

structure PM where
  packSize : Nat
  slots : List (Option Packer)     -- r.packers
  next : Nat                       -- serial of the next new packer
  queued : List Packer             -- everything handed to queueFn so far, newest first
deriving Repr

def PM.init (packSize packerCount : Nat) : PM := ⟨packSize, List.replicate packerCount none, 0, []⟩

inductive SaveOut
  | ok (size : Nat) (queued : Option Packer)
  | panic
deriving Repr, DecidableEq

/-- result of `pickPacker`: the packer, the slot it lives in (none: separate packer for an
    oversized blob) and the manager state after a possible `newPacker` -/
structure Pick where
  p : Packer
  home : Option Nat
  pm : PM

def PM.pickPacker (pm : PM) (len idx : Nat) : Option Pick :=
  if len ≥ pm.packSize then
    some ⟨Packer.new pm.next, none, { pm with next := pm.next + 1 }⟩
  else
    match pm.slots[idx]? with
    | none => none      -- index out of range: Go would panic; randomInt(len(r.packers)) never does that
    | some (some p) => some ⟨p, some idx, pm⟩
    | some none =>
      some ⟨Packer.new pm.next, some idx,
        { pm with next := pm.next + 1, slots := pm.slots.set idx (some (Packer.new pm.next)) }⟩

/-- `forgetPacker`: every slot holding this packer (pointer comparison = serial) is cleared -/
def forget (slots : List (Option Packer)) (serial : Nat) : List (Option Packer) :=
  slots.map fun s => match s with
    | some q => if q.serial = serial then none else some q
    | none => none

/-- `packerManager.SaveBlob` -/
def PM.saveBlob (c : Cfg) (pm : PM) (b : Blob) (idx : Nat) : PM × SaveOut :=
  match pm.pickPacker b.len idx with
  | none => (pm, .panic)
  | some ⟨p, home, pm⟩ =>
    let p' := p.add b
    let size := b.len + entryBytes c b
    if p'.bytes < pm.packSize ∧ ¬ p'.headerFull c = true then
      -- "pack is not full enough": the packer stays where it is (Go mutated it in place). A packer
      -- without a slot would be dropped here; the first branch of `Restic.Proofs.C44.saveBlob_cases` shows this never happens.
      match home with
      | some i => ({ pm with slots := pm.slots.set i (some p') }, .ok size none)
      | none => (pm, .ok size none)
    else
      ({ pm with slots := forget pm.slots p'.serial, queued := p' :: pm.queued },
        .ok (size + c.headerOverhead) (some p'))

/-- loop body of `mergePackers`; `acc = (pendingPackers newest first, p)` -/
def mergeStep (c : Cfg) (packSize : Nat) (acc : List Packer × Option Packer) (s : Option Packer) :
    List Packer × Option Packer :=
  match s with
  | none => acc
  | some q =>
    match acc.2 with
    | none => (acc.1, some q)
    | some p =>
      if p.bytes + q.bytes < packSize ∧ p.n + q.n ≤ c.maxHeaderEntries then (acc.1, some (p.merge q))
      else (p :: acc.1, some q)

/-- `mergePackers` (result newest first) -/
def PM.mergePackers (c : Cfg) (pm : PM) : List Packer :=
  let r := pm.slots.foldl (mergeStep c pm.packSize) ([], none)
  match r.2 with
  | none => r.1
  | some p => p :: r.1

/-- `packerManager.Flush` -/
def PM.flush (c : Cfg) (pm : PM) : PM :=
  { pm with slots := pm.slots.map (fun _ => none), queued := pm.mergePackers c ++ pm.queued }

/-! ### histories of one manager -/

inductive Op
  | save (b : Blob) (idx : Nat)
  | flush
deriving Repr

structure Run where
  pm : PM
  accepted : List Blob     -- blobs for which SaveBlob returned without error, newest first
  panics : Nat

def runOp (c : Cfg) (r : Run) : Op → Run
  | .save b idx =>
    match r.pm.saveBlob c b idx with
    | (pm, .ok _ _) => { r with pm := pm, accepted := b :: r.accepted }
    | (pm, .panic) => { r with pm := pm, panics := r.panics + 1 }
  | .flush => { r with pm := r.pm.flush c }

def run (c : Cfg) (packSize packerCount : Nat) (ops : List Op) : Run :=
  ops.foldl (runOp c) ⟨PM.init packSize packerCount, [], 0⟩

/-! ### executable statement of C44 (manager level) -/

def slotPackers (pm : PM) : List Packer := pm.slots.filterMap id

def sumLen (bs : List Blob) : Nat := (bs.map (·.len)).sum

def BlobType.code : BlobType → Nat
  | .data => 0
  | .tree => 1

/-- lexicographic order on (type, id, len, ulen); only used to compare multisets by sorting -/
def Blob.le (a b : Blob) : Bool :=
  decide (a.tpe.code < b.tpe.code ∨ (a.tpe.code = b.tpe.code ∧ (a.id < b.id ∨ (a.id = b.id ∧
    (a.len < b.len ∨ (a.len = b.len ∧ a.ulen ≤ b.ulen))))))

/-- same multiset of blobs (sorting makes the check n log n; `sameBlobs_iff` links it to `Perm`) -/
def sameBlobs (a b : List Blob) : Bool := a.mergeSort Blob.le == b.mergeSort Blob.le

/-- "no further blob once the target size is reached": when the last blob was added the pack was
    below the pack size and its header not full (by monotonicity this covers every earlier Add) -/
def noAddAfterFull (c : Cfg) (packSize : Nat) (blobs : List Blob) : Bool :=
  match blobs with
  | [] => false
  | _ :: rest => decide (sumLen rest < packSize) && !hdrFull c rest.length

def distinct (l : List Nat) : Bool :=
  let s := l.mergeSort (· ≤ ·)
  (s.zip s.tail).all fun (a, b) => a != b

/-- The manager-level reading of C44 for the packers handed to the uploader after a final Flush:
    every accepted blob occurrence is in exactly one of them (same multiset, packers pairwise
    different), no type mix, no Add after full, header within `MaxHeaderSize`. -/
def specOK (c : Cfg) (packSize : Nat) (tpe : BlobType) (accepted : List Blob) (queued : List Packer) : Bool :=
  sameBlobs (queued.flatMap (·.blobs)) accepted
  && distinct (queued.map (·.serial))
  && queued.all (fun p => p.blobs.all (·.tpe == tpe))
  && queued.all (fun p => noAddAfterFull c packSize p.blobs)
  && queued.all (fun p => p.finalizeOK c)

/-! ### the upload session (both managers, uploader, index) -/

inductive Ev
  | queue (t : BlobType) (serial : Nat)     -- handed to packerUploader.QueuePacker
  | upload (t : BlobType) (serial : Nat)    -- savePacker: be.Save returned
  | index (t : BlobType) (serial : Nat)     -- savePacker: idx.StorePack returned
deriving DecidableEq, Repr

structure Sess where
  pm : BlobType → PM                    -- r.treePM / r.dataPM
  chan : List (BlobType × Packer)       -- queued, not yet written to the backend
  uploaded : List (BlobType × Packer)   -- written to the backend, StorePack pending
  indexed : List (BlobType × Packer)    -- StorePack done
  log : List Ev                         -- newest first
  accepted : List Blob                  -- newest first

def Sess.init (packSize packerCount : Nat) : Sess :=
  ⟨fun _ => PM.init packSize packerCount, [], [], [], [], []⟩

inductive Act
  | save (b : Blob) (idx : Nat)   -- saveAndEncrypt → pm.SaveBlob (dispatch on the blob type)
  | flush (t : BlobType)          -- flushPackUploader: treePM.Flush / dataPM.Flush
  | upload (k : Nat)              -- an uploader goroutine finishes be.Save of the k-th waiting packer
  | store (k : Nat)               -- an uploader goroutine finishes idx.StorePack of the k-th uploaded pack
deriving Repr

/-- replace the manager of type `t` -/
def Sess.upd (s : Sess) (t : BlobType) (pm : PM) : BlobType → PM := fun t' => if t' = t then pm else s.pm t'

def Sess.step (c : Cfg) (s : Sess) : Act → Sess
  | .save b idx =>
    -- saveAndEncrypt: `switch t { case TreeBlob: pm = r.treePM; case DataBlob: pm = r.dataPM }`
    match (s.pm b.tpe).saveBlob c b idx with
    | (pm, .ok _ none) => { s with pm := s.upd b.tpe pm, accepted := b :: s.accepted }
    | (pm, .ok _ (some q)) =>
      { s with pm := s.upd b.tpe pm, accepted := b :: s.accepted, chan := s.chan ++ [(b.tpe, q)],
               log := .queue b.tpe q.serial :: s.log }
    | (_, .panic) => s
  | .flush t =>
    let pend := ((s.pm t).mergePackers c).reverse
    { s with pm := s.upd t ((s.pm t).flush c),
             chan := s.chan ++ pend.map (fun q => (t, q)),
             log := (pend.map (fun q => Ev.queue t q.serial)).reverse ++ s.log }
  | .upload k =>
    match s.chan[k]? with
    | none => s
    | some (t, q) => { s with chan := s.chan.eraseIdx k, uploaded := s.uploaded ++ [(t, q)],
                              log := .upload t q.serial :: s.log }
  | .store k =>
    match s.uploaded[k]? with
    | none => s
    | some (t, q) => { s with uploaded := s.uploaded.eraseIdx k, indexed := s.indexed ++ [(t, q)],
                              log := .index t q.serial :: s.log }

def Sess.run (c : Cfg) (packSize packerCount : Nat) (acts : List Act) : Sess :=
  acts.foldl (Sess.step c) (Sess.init packSize packerCount)

/-- event order on the newest-first log: a packer is queued at most once, uploaded only after it was
    queued and at most once, indexed only after it was uploaded and at most once -/
def orderOK : List Ev → Bool
  | [] => true
  | e :: older =>
    orderOK older && match e with
      | .queue t s => !older.contains (.queue t s)
      | .upload t s => older.contains (.queue t s) && !older.contains (.upload t s)
      | .index t s => older.contains (.upload t s) && !older.contains (.index t s)

end Restic.Model.Packer
