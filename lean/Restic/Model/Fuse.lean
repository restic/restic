/-
Model of reading a file through the FUSE mount (C46): `file.Open` (the `cumsize` prefix sums
built from the index sizes of the content blobs) and `openFile.Read` (`sort.Search` for the
first blob, then the copy loop) of internal/fuse/file.go; `sort.Search` itself is transcribed
from the Go standard library (binary search). Core Lean only.

A file is a list of content entries `(size, blob)`: `size` is what `LookupBlobSize` reports for
the blob id, `blob` is what `getBlobAt` (blob cache + `LoadBlob`) returns for it (`none` = the
load failed). The Go code uses `size` for `cumsize` and `blob` for the bytes; the two agree for
a healthy repository (the file shape `mkFile blobs` in the theorems), but the transcription does not
assume it: a slice expression that would be out of range is the outcome `panic`.
-/
namespace Restic.Model.Fuse

/-- `cumsize` of `file.Open`: `cumsize[0] = 0`, `cumsize[i+1] = cumsize[i] + size i`
    (`acc` is the running `bytes` variable). The result has one more element than `sizes`. -/
def cumsizeFrom (acc : Nat) : List Nat → List Nat
  | [] => [acc]
  | s :: ss => acc :: cumsizeFrom (acc + s) ss

def cumsize (sizes : List Nat) : List Nat := cumsizeFrom 0 sizes

/-- the loop of Go's `sort.Search(n, f)`: `for i < j { h := (i+j)/2; if !f(h) { i = h+1 } else { j = h } }`.
    `fuel` bounds the number of iterations (`j - i` decreases strictly; `search` passes `n`). -/
def searchLoop (f : Nat → Bool) : Nat → Nat → Nat → Nat
  | 0, i, _ => i
  | fuel + 1, i, j =>
    if i < j then
      let h := (i + j) / 2
      if !f h then searchLoop f fuel (h + 1) j else searchLoop f fuel i h
    else i

/-- `sort.Search(n, f)` -/
def search (n : Nat) (f : Nat → Bool) : Nat := searchLoop f n 0 n

inductive ReadRes (α : Type) where
  | ok (data : List α)     -- `resp.Data`, nil error
  | err                    -- `getBlobAt` failed, Read returns the error
  | panic                  -- a slice expression / index out of range
deriving Repr, DecidableEq, BEq

/-- The copy loop of `openFile.Read`, started at blob `startContent` (the list is
    `Content[startContent:]`): `offset` is the number of bytes to skip in the first blob,
    `remaining` = `remainingBytes`, `acc` = `resp.Data[:readBytes]`. -/
def copyLoop {α : Type} : List (Option (List α)) → Nat → Nat → List α → ReadRes α
  | [], _, _, acc => .ok acc                        -- i < len(f.cumsize)-1 is false
  | b :: bs, offset, remaining, acc =>
    if remaining = 0 then .ok acc                   -- remainingBytes > 0 is false
    else match b with
      | none => .err
      | some blob =>
        if offset > blob.length then .panic         -- blob[offset:] out of range
        else
          let blob' := if offset > 0 then blob.drop offset else blob
          let copied := min remaining blob'.length  -- copy(dst, blob)
          copyLoop bs 0 (remaining - copied) (acc ++ blob'.take copied)

/-- `openFile.Read` on a handle whose table is `cs` (`f.cumsize`) and whose content entries load
    as `blobs`; `off` is `uint64(req.Offset)`, `n` is `req.Size`. -/
def readWith {α : Type} (cs : List Nat) (blobs : List (Option (List α))) (off n : Nat) : ReadRes α :=
  -- `f.node.Size` after Open is the sum of the index sizes = last element of cumsize
  if cs.getLastD 0 = 0 then .ok []
  else
    match search cs.length (fun i => decide (cs.getD i 0 > off)) with
    | 0 => .panic                                    -- f.cumsize[-1]
    | s + 1 =>                                       -- startContent = s
      match cs[s]? with
      | none => .panic
      | some c => copyLoop (blobs.drop s) (off - c) n []

/-- `file.Open` followed by `openFile.Read` -/
def readAt {α : Type} (file : List (Nat × Option (List α))) (off n : Nat) : ReadRes α :=
  readWith (cumsize (file.map (·.1))) (file.map (·.2)) off n

/-! ### `file.Open` with its early returns

The Go `file` node is immutable (root, node, inode): `Open` builds the table in a local slice and
only a successful Open hands it to the new handle. So an Open is a function of the index sizes
(`none` = id not found) and of the point at which the context gets cancelled — not of earlier
Opens. `cancelAt = some c`: `ctx.Err()` is non-nil from the check at the top of iteration `c`
on (`some 0` = already cancelled when Open starts). -/

inductive OpenRes where
  | ok (cumsize : List Nat)
  | cancelled            -- `return nil, ctx.Err()`
  | notFound             -- "id … not found in repository"
deriving Repr, DecidableEq

/-- `ctx.Err() != nil` at the top of iteration `i` -/
def cancelledAt (cancelAt : Option Nat) (i : Nat) : Bool :=
  match cancelAt with
  | some c => decide (c ≤ i)
  | none => false

/-- the loop of `file.Open` from iteration `i`, `bytes` so far, `acc` = `cumsize[:i+1]` -/
def openLoop (cancelAt : Option Nat) : Nat → List (Option Nat) → Nat → List Nat → OpenRes
  | _, [], _, acc => .ok acc
  | i, sz :: rest, bytes, acc =>
    if cancelledAt cancelAt i then .cancelled
    else match sz with
      | none => .notFound
      | some s => openLoop cancelAt (i + 1) rest (bytes + s) (acc ++ [bytes + s])

def openNode (sizes : List (Option Nat)) (cancelAt : Option Nat) : OpenRes :=
  openLoop cancelAt 0 sizes 0 [0]

/-- a sequence of Opens of the same node: each attempt has its own view of the index and its own
    cancellation point; there is no state carried from one attempt to the next -/
def openSeq (attempts : List (List (Option Nat) × Option Nat)) : List OpenRes :=
  attempts.map fun a => openNode a.1 a.2

/-- `uint64(req.Offset)` for an `int64` offset -/
def offsetOfInt (o : Int) : Nat := if o < 0 then (o + 18446744073709551616).toNat else o.toNat

/-! ### Executable statement of the property -/

/-- C46: the data returned for `(off, n)` is exactly that range of the file's content (the
    concatenation of its blobs), empty past the end. -/
def specOK {α : Type} [BEq α] (blobs : List (List α)) (off n : Nat) (out : List α) : Bool :=
  out == (blobs.flatten.drop off).take n

/-- a file whose index sizes are the lengths of the blobs and whose blobs all load -/
def mkFile {α : Type} (blobs : List (List α)) : List (Nat × Option (List α)) :=
  blobs.map fun b => (b.length, some b)

end Restic.Model.Fuse
