/-
Model of restic's content-defined chunking of one file (C17): `fileChunkState.readNextChunk`,
the chunk loop of `fileSaver.saveFile` and the per-worker reuse of chunker and chunk state in
`fileSaver.worker` (internal/archiver/file_saver.go). The splitter (`restic.Chunker`, implemented by
github.com/restic/chunker) is a parameter; its concrete transcription is `Restic.Model.Rabin`.
Core Lean only.
-/
namespace Restic.Model.Chunk

abbrev Bytes := List UInt8

/-- `restic.Chunker`: `Reset()` puts the chunker into `init`; `NextSplitPoint(buf)` returns -1
    (`none`) or the index before which to split `buf`, and updates the chunker. -/
structure Splitter (σ : Type) where
  init : σ
  next : σ → Bytes → Option Nat × σ

/-- The source file as seen through `io.ReadFull`: the bytes still to be delivered and whether
    the reader ends with a read error (EIO …) instead of `io.EOF`. How the underlying `Read`
    calls are cut into short reads is absorbed by `io.ReadFull` (validated in the T2 run). -/
structure Reader where
  data : Bytes
  failAtEnd : Bool

inductive RErr | nil | eof | unexpectedEOF | other
deriving DecidableEq, Repr

/-- `io.ReadFull(rd, buf)` with `len(buf) = n`: (bytes read, error, reader afterwards) -/
def readFull (rd : Reader) (n : Nat) : Bytes × RErr × Reader :=
  if n ≤ rd.data.length then (rd.data.take n, .nil, { rd with data := rd.data.drop n })
  else if rd.failAtEnd then (rd.data, .other, { rd with data := [] })
  else if rd.data.isEmpty then ([], .eof, rd)
  else (rd.data, .unexpectedEOF, { rd with data := [] })

/-- `fileChunkState`: `buf` is `readBuf[0:bmax]` (so `bmax = buf.length`) -/
structure CState where
  buf : Bytes
  bpos : Nat
  closed : Bool
deriving Repr

/-- `fileChunkState.reset` -/
def CState.reset (_ : CState) : CState := { buf := [], bpos := 0, closed := false }

/-- result of one `readNextChunk` call -/
inductive Next
  | chunk (data : Bytes)          -- (data, nil)
  | eof                           -- (nil, io.EOF)
  | error                         -- (nil, err) for a read error
  | badSplit (k avail : Nat)      -- the splitter answered 0 or more than it was given: outside the
                                  -- library contract (Go: empty chunk without progress / stale buffer
                                  -- bytes / slice panic); made explicit, never defaulted
  | spin                          -- ReadFull returned (0, nil): only with an empty read buffer; Go loops forever
deriving Repr

/-- the top of the loop body of `readNextChunk`: refill `readBuf` when it is used up.
    `inl` = the function returns here, `inr` = continue with the split below. -/
def refill (bufSize : Nat) (cs : CState) (rd : Reader) (data : Bytes) :
    (Next × CState × Reader) ⊕ (CState × Reader) :=
  if cs.bpos ≥ cs.buf.length then
    let r := readFull rd bufSize
    let got := r.1
    let rd' := r.2.2
    -- if err == io.ErrUnexpectedEOF { err = nil }
    let err := if r.2.1 = .unexpectedEOF then RErr.nil else r.2.1
    if err = .eof ∧ cs.closed = false then
      -- s.closed = true; if len(data) > 0 { return data, nil }; then `if err != nil { return nil, err }`
      if data ≠ [] then .inl (.chunk data, { cs with closed := true }, rd')
      else .inl (.eof, { cs with closed := true }, rd')
    else if err = .eof then .inl (.eof, cs, rd')
    else if err = .other then .inl (.error, cs, rd')
    else if got.isEmpty then .inl (.spin, cs, rd')
    else .inr ({ cs with buf := got, bpos := 0 }, rd')
  else .inr (cs, rd)

/-- whatever `io.ReadFull` reports, what it returns and what it leaves in the reader make up what was there -/
theorem readFull_data (rd : Reader) (n : Nat) :
    rd.data = (readFull rd n).1 ++ (readFull rd n).2.2.data ∧ (readFull rd n).2.2.failAtEnd = rd.failAtEnd := by
  fun_cases readFull rd n
  · exact ⟨(List.take_append_drop n _).symm, rfl⟩
  · exact ⟨(List.append_nil _).symm, rfl⟩
  · exact ⟨rfl, rfl⟩
  · exact ⟨(List.append_nil _).symm, rfl⟩

theorem refill_inr {bufSize : Nat} {cs : CState} {rd : Reader} {data : Bytes} {cs' : CState} {rd' : Reader}
    (h : refill bufSize cs rd data = .inr (cs', rd')) :
    (cs.bpos < cs.buf.length ∧ cs' = cs ∧ rd' = rd) ∨
    (cs.buf.length ≤ cs.bpos ∧ cs'.bpos = 0 ∧ cs'.buf ≠ [] ∧ cs'.closed = cs.closed ∧
      rd.data = cs'.buf ++ rd'.data ∧ rd'.failAtEnd = rd.failAtEnd) := by
  revert h
  fun_cases refill bufSize cs rd data
  -- of the seven ways out of `refill`, only the last two continue with the split
  case case6 hb _ _ _ _ _ _ _ hne =>
    intro h
    obtain ⟨rfl, rfl⟩ := Prod.mk.inj (Sum.inr.inj h)
    exact .inr ⟨hb, rfl, fun h0 => hne (List.isEmpty_iff.mpr h0), rfl, readFull_data rd bufSize⟩
  case case7 hb =>
    intro h; cases h
    exact .inl ⟨Nat.lt_of_not_le hb, rfl, rfl⟩
  all_goals exact fun h => nomatch h

/-- `fileChunkState.readNextChunk(rd, chnker, data)`; `data` is the accumulator (`data[:0]` at the
    call). Returns the outcome and the updated chunk state, reader and chunker. -/
def readNextChunk {σ : Type} (sp : Splitter σ) (bufSize : Nat) (cs : CState) (rd : Reader) (st : σ)
    (data : Bytes) : Next × CState × Reader × σ :=
  match h : refill bufSize cs rd data with
  | .inl (r, cs', rd') => (r, cs', rd', st)
  | .inr (cs', rd') =>
    let piece := cs'.buf.drop cs'.bpos            -- s.readBuf[s.bpos:s.bmax]
    match sp.next st piece with
    | (some k, st') =>
      if k = 0 ∨ piece.length < k then (.badSplit k piece.length, cs', rd', st')
      else (.chunk (data ++ piece.take k), { cs' with bpos := cs'.bpos + k }, rd', st')
    | (none, st') =>
      readNextChunk sp bufSize { cs' with bpos := cs'.buf.length } rd' st' (data ++ piece)
termination_by 2 * rd.data.length + (if cs.bpos < cs.buf.length then 1 else 0)
decreasing_by
  rcases refill_inr h with ⟨h1, h2, h3⟩ | ⟨h1, _, h3, _, h5, _⟩
  · subst h2; subst h3; simp [h1]
  · have : 0 < cs'.buf.length := List.length_pos_iff.mpr h3
    have h6 : rd.data.length = cs'.buf.length + rd'.data.length := by rw [h5]; simp
    simp
    split <;> omega

/-- outcome of chunking one file -/
inductive Out
  | ok (chunks : List Bytes)
  | error                         -- read error: saveFile calls completeError, no node
  | badSplit (k avail : Nat)
  | spin
  | fuel                          -- never happens (theorem `saveFile_ne_fuel`)
deriving Repr

/-- the `for { … readNextChunk … }` loop of `saveFile`; `acc` are the chunks handed to
    `SaveBlobAsync` so far, in `node.Content` order -/
def chunkLoop {σ : Type} (sp : Splitter σ) (bufSize : Nat) :
    Nat → CState → Reader → σ → List Bytes → Out × CState × σ
  | 0, cs, _, st, _ => (.fuel, cs, st)
  | fuel + 1, cs, rd, st, acc =>
    match readNextChunk sp bufSize cs rd st [] with
    | (.chunk d, cs', rd', st') => chunkLoop sp bufSize fuel cs' rd' st' (acc ++ [d])
    | (.eof, cs', _, st') => (.ok acc, cs', st')
    | (.error, cs', _, st') => (.error, cs', st')
    | (.badSplit k a, cs', _, st') => (.badSplit k a, cs', st')
    | (.spin, cs', _, st') => (.spin, cs', st')

/-- `saveFile` as far as chunking is concerned: `chnker.Reset(); chunkState.reset()`, then the loop.
    The chunker and chunk state of the worker come in and go out (they are reused for the next file). -/
def saveFile {σ : Type} (sp : Splitter σ) (bufSize : Nat) (cs : CState) (_st : σ) (file : Reader) :
    Out × CState × σ :=
  chunkLoop sp bufSize (file.data.length + 2) cs.reset file sp.init []

/-- `fileSaver.worker`: one chunker and one chunk state serve all files of the worker in turn -/
def worker {σ : Type} (sp : Splitter σ) (bufSize : Nat) : CState → σ → List Reader → List Out
  | _, _, [] => []
  | cs, st, f :: fs =>
    let r := saveFile sp bufSize cs st f
    r.1 :: worker sp bufSize r.2.1 r.2.2 fs

/-! ### several workers at once

`newFileSaver` starts `fileWorkers` goroutines; each runs `worker`, i.e. owns ONE chunker obtained
from `chunkerFactory.NewChunker()` and ONE `fileChunkState`. The goroutines interleave arbitrarily.
The model: one `WState` per worker, a schedule (list of worker indices) says whose turn it is, a
turn is one `readNextChunk` call of that worker's chunk loop. Nothing is shared between workers —
that the factory really hands out independent chunkers is tied by T1 (`NewChunker` calls
`chunker.NewBase`) and by the `conc` correspondence stream. -/

/-- a worker in the middle of `saveFile` -/
structure WState (σ : Type) where
  cs : CState
  rd : Reader
  st : σ
  acc : List Bytes
  out : Option Out       -- `some` once the file is finished

/-- one iteration of the chunk loop of one worker -/
def wstep {σ : Type} (sp : Splitter σ) (bufSize : Nat) (w : WState σ) : WState σ :=
  match w.out with
  | some _ => w
  | none =>
    match readNextChunk sp bufSize w.cs w.rd w.st [] with
    | (.chunk d, cs', rd', st') => { cs := cs', rd := rd', st := st', acc := w.acc ++ [d], out := none }
    | (.eof, cs', rd', st') => { cs := cs', rd := rd', st := st', acc := w.acc, out := some (.ok w.acc) }
    | (.error, cs', rd', st') => { cs := cs', rd := rd', st := st', acc := w.acc, out := some .error }
    | (.badSplit k a, cs', rd', st') => { cs := cs', rd := rd', st := st', acc := w.acc, out := some (.badSplit k a) }
    | (.spin, cs', rd', st') => { cs := cs', rd := rd', st := st', acc := w.acc, out := some .spin }

/-- a worker that has just taken `file` from the job channel: `saveFile` resets chunker and chunk state -/
def wstart {σ : Type} (sp : Splitter σ) (cs : CState) (_st : σ) (file : Reader) : WState σ :=
  { cs := cs.reset, rd := file, st := sp.init, acc := [], out := none }

/-- the pool: the worker named by each schedule entry takes one turn -/
def runPool {σ : Type} (sp : Splitter σ) (bufSize : Nat) (sched : List Nat) (ws : List (WState σ)) : List (WState σ) :=
  sched.foldl (fun ws i => ws.modify i (wstep sp bufSize)) ws

/-- chunks of a file that is read without error, from a fresh worker -/
def chunks {σ : Type} (sp : Splitter σ) (bufSize : Nat) (file : Bytes) : Out :=
  (saveFile sp bufSize { buf := [], bpos := 0, closed := false } sp.init { data := file, failAtEnd := false }).1

/-! ## Specification side -/

/-- Reference chunking: hand the whole remaining file to the splitter at once. -/
def refChunks {σ : Type} (sp : Splitter σ) (st : σ) (file : Bytes) : List Bytes :=
  if file = [] then [] else
  match sp.next st file with
  | (none, _) => [file]
  | (some k, st') =>
    if _h : 0 < k ∧ k ≤ file.length then file.take k :: refChunks sp st' (file.drop k) else [file]
termination_by file.length
decreasing_by simp; omega

def allButLast {α : Type} : List α → List α
  | [] => []
  | [_] => []
  | a :: b :: r => a :: allButLast (b :: r)

/-- Executable statement of C17 for one file and the chunk list some implementation produced:
    lossless, every chunk but the last within [min,max], the last one non-empty and ≤ max. -/
def specOK (min max : Nat) (file : Bytes) (cs : List Bytes) : Bool :=
  cs.flatten == file &&
  (allButLast cs).all (fun c => min ≤ c.length && c.length ≤ max) &&
  cs.all (fun c => 0 < c.length && c.length ≤ max)

/-- the same statement on chunk *sizes* (used when the harness reports sizes and checks the
    concatenation itself) -/
def sizesOK (min max fileLen : Nat) (sizes : List Nat) : Bool :=
  sizes.sum == fileLen &&
  (allButLast sizes).all (fun c => min ≤ c && c ≤ max) &&
  sizes.all (fun c => 0 < c && c ≤ max)

/-- cut positions (absolute offsets of the chunk ends) -/
def cutsOf (sizes : List Nat) : List Nat :=
  (sizes.foldl (fun (acc : Nat × List Nat) s => (acc.1 + s, acc.2 ++ [acc.1 + s])) (0, [])).2

/-- Edit locality, executable: `old`/`new` are the chunk lists of `p ++ x ++ t` and `p ++ y ++ t`.
    (1) chunks of `old` that end at or before `|p|` and are not the last chunk are chunks of `new`;
    (2) if both have a cut at the same offset inside the common tail `t`, all later chunks agree. -/
def commonPrefixLen : List Bytes → List Bytes → Nat
  | a :: as, b :: bs => if a == b then commonPrefixLen as bs + 1 else 0
  | _, _ => 0

def stablePrefixCount (plen : Nat) (cs : List Bytes) : Nat :=
  let rec go (off : Nat) : List Bytes → Nat
    | [] => 0
    | [_] => 0
    | c :: r => if off + c.length ≤ plen then go (off + c.length) r + 1 else 0
  go 0 cs

def editLocalOK (plen : Nat) (old new : List Bytes) : Bool :=
  stablePrefixCount plen old ≤ commonPrefixLen old new

/-- the chunks following an exact cut at absolute offset `cut` (`none`: no cut there) -/
def chunksAfter : Nat → List Bytes → Option (List Bytes)
  | 0, cs => some cs
  | _ + 1, [] => none
  | n + 1, c :: r => if c.length ≤ n + 1 then chunksAfter (n + 1 - c.length) r else none

/-- (2) of edit locality, executable: whenever `old` has a cut at offset `c` inside the common tail
    (`c ≥ plen + xlen`) and `new` has a cut at the corresponding offset `c - xlen + ylen`, the chunk
    lists after these cuts are equal. -/
def resyncOK (plen xlen ylen : Nat) (old new : List Bytes) : Bool :=
  (cutsOf (old.map List.length)).all fun c =>
    if plen + xlen ≤ c then
      match chunksAfter c old, chunksAfter (c - xlen + ylen) new with
      | some a, some b => a == b
      | _, _ => true
    else true

end Restic.Model.Chunk
