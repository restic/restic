import Restic.Model.Dump
import Restic.Gen.Source
/-!
# C45 — dump writes exactly the snapshot's content

Theorems about `Restic.Model.Dump` (transcription of `printFromTree`, `DumpTree`, `sendTrees`,
`sendNodes`, `writeNode`, `dumpNodeTar`), for all trees, all blob tables and all schedules of the
loader goroutines.
-/

namespace Restic.Props.C45
open Restic.Model.SnapTree Restic.Model.Dump

theorem writeNode_eq (blobs : Blobs) : ∀ (ids : List Nat),
    writeNode blobs ids = if ids.all (fun i => (blobs i).isSome) then some (contentOf blobs ids) else none
  | [] => rfl
  | id :: rest => by
    rw [writeNode, writeNode_eq blobs rest, List.all_cons]
    cases hb : blobs id with
    | none => rfl
    | some b =>
      cases rest.all (fun i => (blobs i).isSome)
      · rfl
      · simp [contentOf, hb]

/-- `write_node_exact` (functional form): whenever `writeNode` succeeds, the bytes written are the
    concatenation of the blobs in content order (repeated blobs included) -/
theorem write_node_exact (blobs : Blobs) : ∀ (ids : List Nat) (out : Bytes),
    writeNode blobs ids = some out → out = contentOf blobs ids := by
  intro ids out h
  rw [writeNode_eq] at h
  split at h
  · exact (Option.some.inj h).symm
  · cases h

theorem write_node_total (blobs : Blobs) : ∀ (ids : List Nat), (∀ i ∈ ids, (blobs i).isSome) →
    ∃ out, writeNode blobs ids = some out :=
  fun ids h => ⟨_, (writeNode_eq blobs ids).trans (if_pos (List.all_eq_true.mpr h))⟩

def Inv (bs : List Bytes) (s : Sched) : Prop :=
  s.w ≤ s.q ∧ s.q ≤ bs.length ∧ s.out = (bs.take s.w).flatten

theorem step_inv (limit : Nat) (bs : List Bytes) (s s' : Sched) (st : Step) (hi : Inv bs s)
    (h : step limit bs s st = some s') : Inv bs s' := by
  obtain ⟨h1, h2, h3⟩ := hi
  cases st with
  | queue =>
    obtain ⟨hc, e⟩ := Option.ite_none_right_eq_some.mp h
    cases e
    exact ⟨by simp only; omega, by simp only; omega, h3⟩
  | finish i =>
    obtain ⟨-, e⟩ := Option.ite_none_right_eq_some.mp h
    cases e
    exact ⟨h1, h2, h3⟩
  | write =>
    obtain ⟨hc, e⟩ := Option.ite_none_right_eq_some.mp h
    cases e
    refine ⟨by simp only; omega, h2, ?_⟩
    have hlt : s.w < bs.length := by omega
    have e : bs.take (s.w + 1) = bs.take s.w ++ [bs[s.w]] := by
      rw [List.take_add_one]; simp [List.getElem?_eq_getElem hlt]
    rw [h3, e, List.flatten_append]
    simp [List.getD, List.getElem?_eq_getElem hlt]

/-- `write_node_exact` for every schedule: whatever order the loaders finish in and however the main
    loop, the loaders and the writer interleave, in every reachable state the output is the
    concatenation of the first `w` blobs, in content order. -/
theorem sched_safe (limit : Nat) (bs : List Bytes) : ∀ (steps : List Step) (s s' : Sched),
    Inv bs s → run limit bs s steps = some s' → Inv bs s'
  | [], s, s', hi, h => by simp [run] at h; exact h ▸ hi
  | st :: rest, s, s', hi, h => by
    simp only [run] at h
    cases hs : step limit bs s st with
    | none => simp [hs] at h
    | some s1 =>
      simp only [hs] at h
      exact sched_safe limit bs rest s1 s' (step_inv limit bs s s1 st hi hs) h

theorem sched_complete (limit : Nat) (bs : List Bytes) (steps : List Step) (s' : Sched)
    (h : run limit bs ⟨0, [], 0, []⟩ steps = some s') (hw : s'.w = bs.length) : s'.out = bs.flatten := by
  obtain ⟨_, _, h3⟩ := sched_safe limit bs steps _ s' ⟨Nat.le_refl _, Nat.zero_le _, by simp⟩ h
  rw [h3, hw, List.take_length]

/-- the schedule model and the functional `writeNode` agree: any complete run over the blobs of a
    content list writes `contentOf` -/
theorem sched_matches_writeNode (limit : Nat) (blobs : Blobs) (ids : List Nat) (steps : List Step) (s' : Sched)
    (h : run limit (ids.map fun i => (blobs i).getD []) ⟨0, [], 0, []⟩ steps = some s')
    (hw : s'.w = ids.length) : s'.out = contentOf blobs ids := by
  have := sched_complete limit _ steps s' h (by simpa using hw)
  simpa [contentOf] using this

/-- no deadlock: as long as not everything is written, some goroutine can take a step -/
theorem sched_progress (limit : Nat) (bs : List Bytes) (s : Sched) (hi : Inv bs s) (hw : s.w < bs.length) :
    ∃ st s', step limit bs s st = some s' := by
  obtain ⟨h1, h2, _⟩ := hi
  by_cases hq : s.w = s.q
  · exact ⟨.queue, _, by simp only [step]; rw [if_pos ⟨by omega, by omega⟩]⟩
  · by_cases hd : s.w ∈ s.done
    · exact ⟨.write, _, by simp only [step]; rw [if_pos ⟨by omega, hd⟩]⟩
    · exact ⟨.finish s.w, _, by simp only [step]; rw [if_pos ⟨by omega, hd⟩]⟩

theorem mapOpt_map {α β : Type} (f : α → Option β) (g : α → β) : ∀ (l : List α) (r : List β),
    (∀ a ∈ l, ∀ b, f a = some b → b = g a) → mapOpt f l = some r → r = l.map g
  | [], r, _, h => by simp [mapOpt] at h; simp [← h]
  | a :: as, r, hf, h => by
    simp only [mapOpt] at h
    cases ha : f a with
    | none => simp [ha] at h
    | some b =>
      cases hr : mapOpt f as with
      | none => simp [ha, hr] at h
      | some bs =>
        simp only [ha, hr, Option.some.injEq] at h
        have e1 := hf a List.mem_cons_self b ha
        have e2 := mapOpt_map f g as bs (fun x hx => hf x (List.mem_cons_of_mem _ hx)) hr
        simp [← h, e1, e2]

mutual
theorem sendBelowT_eq : ∀ (pre : List Name) (t : Tree), shapeT t = true →
    sendBelowT pre t = (nodesT pre t).filter (fun pm => dumpable pm.2.type)
  | pre, .mk m kids, h => by
    simp only [shapeT, Bool.and_eq_true, Bool.or_eq_true, beq_iff_eq, List.isEmpty_iff] at h
    simp only [sendBelowT, nodesT, List.filter_cons]
    by_cases hd : m.type = .dir
    · simp only [hd, if_true]
      rw [sendBelowL_eq (pre ++ [m.name]) kids h.2]
      simp [dumpable]
    · have hk : kids = [] := h.1.resolve_left hd
      subst hk
      by_cases hdump : dumpable m.type = true <;> simp [hd, hdump, nodesL]
theorem sendBelowL_eq : ∀ (pre : List Name) (ts : List Tree), shapeL ts = true →
    sendBelowL pre ts = (nodesL pre ts).filter (fun pm => dumpable pm.2.type)
  | pre, [], _ => by simp [sendBelowL, nodesL]
  | pre, t :: ts, h => by
    simp only [shapeL, Bool.and_eq_true] at h
    simp only [sendBelowL, nodesL, List.filter_append, sendBelowT_eq pre t h.1, sendBelowL_eq pre ts h.2]
end

/-- at the top level `sendNodes` does what the walker's visitor does below: a directory is dumpable,
    so the two guards agree -/
theorem sendNodes_eq (root : List Name) : ∀ t, sendNodes root t = sendBelowT root t
  | .mk m kids => by
    simp only [sendNodes, sendBelowT]
    by_cases hd : dumpable m.type = true
    · simp [hd]
    · have : m.type ≠ .dir := fun e => hd (by simp [dumpable, e])
      simp [hd, this]

theorem sendTrees_below (root : List Name) : ∀ ts, sendTrees root ts = sendBelowL root ts
  | [] => rfl
  | t :: ts => by rw [sendTrees, List.flatMap_cons, sendNodes_eq, ← sendTrees, sendTrees_below root ts, sendBelowL]

/-- `sendTrees` sends exactly the files, directories and symlinks below the dumped directory, each
    once, in tree order -/
theorem sendTrees_eq (root : List Name) : ∀ (ts : List Tree), shapeL ts = true →
    sendTrees root ts = (nodesL root ts).filter (fun pm => dumpable pm.2.type) :=
  fun ts h => (sendTrees_below root ts).trans (sendBelowL_eq root ts h)

theorem kindOf_eq (t : NType) :
    kindOf t = match t with | .dir => Kind.dir | .symlink => Kind.symlink | _ => Kind.reg := by
  cases t <;> rfl

theorem entryOf_expected (blobs : Blobs) (p : List Name) (m : Meta) (e : Entry)
    (h : entryOf blobs p m = some e) :
    e = { path := p, slash := m.type == .dir,
          kind := (match m.type with | .dir => Kind.dir | .symlink => Kind.symlink | _ => Kind.reg),
          mode := tarMode m.mode,
          link := if m.type = .symlink then m.target else [],
          size := if m.type = .file then m.size else 0,
          data := if m.type = .file then contentOf blobs m.content else [] } := by
  unfold entryOf at h
  cases hw : writeNode blobs (if m.type = .file then m.content else []) with
  | none => rw [hw] at h; cases h
  | some d =>
    have hdata : d = if m.type = .file then contentOf blobs m.content else [] := by
      rw [write_node_exact blobs _ d hw]
      by_cases hf : m.type = .file
      · rw [if_pos hf, if_pos hf]
      · rw [if_neg hf, if_neg hf]; rfl
    rw [hw] at h
    simp only at h
    by_cases hsz : m.type = .file ∧ d.length ≠ m.size
    · rw [if_pos hsz] at h; cases h
    · rw [if_neg hsz] at h
      cases h
      rw [kindOf_eq, hdata]

/-- **`dump_entries`.** If `DumpTree` succeeds on a directory-shaped tree, the archive members are
    exactly `expectedEntries`: in tree order one member for each file, directory and symlink below
    the dumped directory, with its type, permission bits (setuid / setgid / sticky), link target and
    content — and no member for any other node type (`no_other_types`). -/
theorem dump_entries (blobs : Blobs) (root : List Name) (nodes : List Tree) (es : List Entry)
    (hs : shapeL nodes = true) (h : dumpTree blobs root nodes = some es) :
    specOK blobs root nodes es = true := by
  unfold dumpTree at h
  rw [sendTrees_eq root nodes hs] at h
  simp only [specOK, expectedEntries, beq_iff_eq]
  refine mapOpt_map (fun pm : List Name × Meta => entryOf blobs pm.1 pm.2) _ _ es ?_ h
  intro pm hpm e he
  exact entryOf_expected blobs pm.1 pm.2 e he

/-- every member stems from a file, directory or symlink node -/
theorem no_other_types (blobs : Blobs) (root : List Name) (nodes : List Tree) (es : List Entry)
    (hs : shapeL nodes = true) (h : dumpTree blobs root nodes = some es) :
    ∀ e ∈ es, ∃ pm ∈ nodesL root nodes, dumpable pm.2.type = true ∧ e.path = pm.1 := by
  have hsp := dump_entries blobs root nodes es hs h
  simp only [specOK, expectedEntries, beq_iff_eq] at hsp
  intro e he
  rw [hsp] at he
  obtain ⟨pm, hpm, rfl⟩ := List.mem_map.mp he
  exact ⟨pm, (List.mem_filter.mp hpm).1, (List.mem_filter.mp hpm).2, rfl⟩

/-- the children of the directory a path leads to; `none` when a component is missing or not a directory -/
def resolveDir : List Name → List Tree → Option (List Tree)
  | [], ts => some ts
  | c :: rest, ts => match findFirst ts c with
    | some (.mk m kids) => if m.type == .dir then resolveDir rest kids else none
    | none => none

theorem shape_mem {ts : List Tree} {m : Meta} {kids : List Tree} (hs : shapeL ts = true)
    (hm : Tree.mk m kids ∈ ts) : shapeL kids = true := by
  induction ts with
  | nil => cases hm
  | cons t ts ih =>
    simp only [shapeL, Bool.and_eq_true] at hs
    rcases List.mem_cons.mp hm with rfl | h'
    · have := hs.1
      simp only [shapeT, Bool.and_eq_true] at this
      exact this.2
    · exact ih hs.2 h'

theorem resolveDir_shape : ∀ (comps : List Name) (nodes kids : List Tree), shapeL nodes = true →
    resolveDir comps nodes = some kids → shapeL kids = true
  | [], nodes, kids, hs, h => by cases h; exact hs
  | c :: rest, nodes, kids, hs, h => by
    simp only [resolveDir] at h
    cases hf : findFirst nodes c with
    | none => simp [hf] at h
    | some t =>
      obtain ⟨m, k⟩ := t
      simp only [hf] at h
      split at h
      · exact resolveDir_shape rest k kids (shape_mem hs (List.mem_of_find?_eq_some hf)) h
      · cases h

/-- What `printFromTree` does with a path: it leads to a directory, which is dumped as an archive; or its last
    component is a file in the directory the others lead to, whose content is written; or the command fails.
    `if comps.isEmpty`: the `[]` equation of `printFromTree` ignores `pre`, so members of the root carry no prefix. -/
inductive PrintCase (blobs : Blobs) (pre comps : List Name) (nodes : List Tree) : Out → Prop
  | dir {kids} : resolveDir comps nodes = some kids → PrintCase blobs pre comps nodes
      (match dumpTree blobs (if comps.isEmpty then [] else pre ++ comps) kids with
        | some es => .archive es | none => .error)
  | file {dir last kids m k} : comps = dir ++ [last] → resolveDir dir nodes = some kids →
      findFirst kids last = some (.mk m k) → m.type = .file → PrintCase blobs pre comps nodes
        (match writeNode blobs m.content with | some d => .file d | none => .error)
  | error : PrintCase blobs pre comps nodes .error

theorem printFromTree_cases (blobs : Blobs) : ∀ (comps pre : List Name) (nodes : List Tree),
    PrintCase blobs pre comps nodes (printFromTree blobs pre comps nodes)
  | [], pre, nodes => .dir rfl
  | c :: rest, pre, nodes => by
    simp only [printFromTree]
    cases hf : findFirst nodes c with
    | none => exact .error
    | some t =>
      obtain ⟨m, kids⟩ := t
      simp only
      by_cases h1 : (rest.isEmpty && m.type == .file) = true
      · rw [if_pos h1]
        simp only [Bool.and_eq_true, List.isEmpty_iff, beq_iff_eq] at h1
        exact .file (dir := []) (by simp [h1.1]) rfl hf h1.2
      · rw [if_neg h1]
        by_cases hd : (m.type == NType.dir) = true
        · by_cases hr : rest = []
          · subst hr
            rw [if_neg (by simp), if_pos hd]
            exact .dir (kids := kids) (by simp [resolveDir, hf, hd])
          · have hne : rest.isEmpty = false := by simpa using hr
            rw [if_pos (by simp [hne, hd])]
            match printFromTree blobs (pre ++ [c]) rest kids, printFromTree_cases blobs rest (pre ++ [c]) kids with
            | _, .dir (kids := k') hres =>
              have hroot : (if rest.isEmpty then [] else pre ++ [c] ++ rest) = pre ++ c :: rest := by simp [hne]
              rw [hroot]
              exact .dir (kids := k') (by simp [resolveDir, hf, hd, hres])
            | _, .file (dir := dir) e1 e2 e3 e4 =>
              exact .file (dir := c :: dir) (by simp [e1]) (by simp [resolveDir, hf, hd, e2]) e3 e4
            | _, .error => exact .error
        · rw [if_neg (by simp [hd]), if_neg hd]
          exact .error

/-- **C45 for the command (archive).** When `dump <snapshot> <dir>` writes an archive, the path led
    to a directory of the snapshot and the archive is the expected one for that directory (member
    names prefixed with the path). -/
theorem printFromTree_archive (blobs : Blobs) : ∀ (comps pre : List Name) (nodes : List Tree) (es : List Entry),
    shapeL nodes = true → printFromTree blobs pre comps nodes = .archive es →
    ∃ kids, resolveDir comps nodes = some kids ∧
      specOK blobs (if comps.isEmpty then [] else pre ++ comps) kids es = true := by
  intro comps pre nodes es hs h
  match printFromTree blobs pre comps nodes, printFromTree_cases blobs comps pre nodes, h with
  | _, .dir (kids := kids) hres, h =>
    refine ⟨kids, hres, ?_⟩
    cases hd : dumpTree blobs (if comps.isEmpty then [] else pre ++ comps) kids with
    | none => rw [hd] at h; cases h
    | some es' =>
      rw [hd] at h
      cases h
      exact dump_entries blobs _ kids es (resolveDir_shape comps nodes kids hs hres) hd
  | _, .file (m := m) .., h => cases hw : writeNode blobs m.content <;> rw [hw] at h <;> cases h

/-- **C45 for the command (single file).** Dumping a file writes exactly its content. -/
theorem printFromTree_file (blobs : Blobs) : ∀ (comps pre : List Name) (nodes : List Tree) (d : Bytes),
    printFromTree blobs pre comps nodes = .file d →
    ∃ dir last kids m k, comps = dir ++ [last] ∧ resolveDir dir nodes = some kids ∧
      findFirst kids last = some (.mk m k) ∧ m.type = .file ∧ d = contentOf blobs m.content := by
  intro comps pre nodes d h
  match printFromTree blobs pre comps nodes, printFromTree_cases blobs comps pre nodes, h with
  | _, .dir (kids := kids) _, h =>
    cases hd : dumpTree blobs (if comps.isEmpty then [] else pre ++ comps) kids <;> rw [hd] at h <;> cases h
  | _, .file (m := m) e1 e2 e3 e4, h =>
    cases hw : writeNode blobs m.content with
    | none => rw [hw] at h; cases h
    | some d' =>
      rw [hw] at h
      cases h
      exact ⟨_, _, _, m, _, e1, e2, e3, e4, write_node_exact blobs _ _ hw⟩

/-- T1 (regenerated from internal/dump/common.go): `sendNodes` walks a directory with
    `walker.Walk`, and `writeNode` loads through the blob cache. -/
theorem dump_structure :
    "walker.Walk" ∈ Restic.Gen.sendNodes_calls ∧ "sendNodes" ∈ Restic.Gen.sendTrees_calls ∧
    "d.cache.GetOrCompute" ∈ Restic.Gen.writeNode_calls := by decide +kernel

/-- T1: `writeNode` makes exactly two kinds of channel — the channel of futures, before the writer
    goroutine is started, and one fresh channel per blob inside the loop, i.e. after the writer's
    `wg.Go` and before the loader's `d.repo.LoadBlob`. The `Sched` model assumes this when it gives
    every loader its own slot (`finish i` never delivers into the slot of another blob). -/
theorem fresh_channel_per_blob :
    (Restic.Gen.writeNode_calls.filter (· == "make")).length = 2 ∧
    ((Restic.Gen.writeNode_calls.drop (Restic.Gen.writeNode_calls.idxOf "wg.Go" + 1)).takeWhile
        (· != "d.repo.LoadBlob")).contains "make" = true ∧
    ((Restic.Gen.writeNode_calls.take (Restic.Gen.writeNode_calls.idxOf "wg.Go")).filter (· == "make")).length = 1 := by
  decide +kernel

def exBlobs : Blobs := fun i => match i with | 1 => some [104, 105] | 2 => some [33] | _ => none

/-- directory with a two-blob file (one blob repeated), a setuid file, a symlink, a fifo, and a
    sub-directory holding a file and a socket -/
def exDir : List Tree :=
  [ .mk { name := [97], type := .file, mode := 420, size := 5, content := [1, 2, 1] } [],
    .mk { name := [98], type := .file, mode := 2 ^ 23 + 493, size := 0 } [],
    .mk { name := [108], type := .symlink, mode := 511, target := [97] } [],
    .mk { name := [112], type := .fifo, mode := 420 } [],
    .mk { name := [115], type := .dir, mode := 2 ^ 31 + 493 }
      [ .mk { name := [120], type := .file, mode := 384, size := 1, content := [2] } [],
        .mk { name := [121], type := .socket } [] ] ]

example : shapeL exDir = true := by decide +kernel

example : dumpTree exBlobs [[100]] exDir = some
    [ ⟨[[100], [97]], false, .reg, 420, [], 5, [104, 105, 33, 104, 105]⟩,
      ⟨[[100], [98]], false, .reg, 2048 + 493, [], 0, []⟩,
      ⟨[[100], [108]], false, .symlink, 511, [97], 0, []⟩,
      ⟨[[100], [115]], true, .dir, 493, [], 0, []⟩,
      ⟨[[100], [115], [120]], false, .reg, 384, [], 1, [33]⟩ ] := by decide +kernel

/-- a schedule in which the loaders finish in reverse order still writes the blobs in content order -/
example : (run 2 [[1], [2], [3]] ⟨0, [], 0, []⟩
    [.queue, .queue, .queue, .finish 2, .finish 1, .finish 0, .write, .write, .write]).map (·.out) = some [1, 2, 3] := by
  decide

/-- F11 (unchanged restic 0.19.1-dev): the fifo `p` directly below the dumped directory came out as
    an empty regular member; that output violates the statement. -/
theorem F11_output_violates_spec :
    specOK exBlobs [[100]] exDir
      [ ⟨[[100], [97]], false, .reg, 420, [], 5, [104, 105, 33, 104, 105]⟩,
        ⟨[[100], [98]], false, .reg, 2048 + 493, [], 0, []⟩,
        ⟨[[100], [108]], false, .symlink, 511, [97], 0, []⟩,
        ⟨[[100], [112]], false, .reg, 420, [], 0, []⟩,
        ⟨[[100], [115]], true, .dir, 493, [], 0, []⟩,
        ⟨[[100], [115], [120]], false, .reg, 384, [], 1, [33]⟩ ] = false := by decide

end Restic.Props.C45
