import Restic.Proofs.C44_PM
import Restic.Proofs.C44_Spec
import Restic.Gen.Source
/-!
# C44 — every saved blob ends up in exactly one uploaded, indexed pack

Theorems about `Restic.Model.Packer` (transcription of `packerManager.SaveBlob / pickPacker /
forgetPacker / mergePackers / Flush` and the uploader pipeline), for all histories: any list of
`SaveBlob` calls (any blob sizes; concurrent savers interleave freely, each call being atomic under
`r.pm`), any value of the random packer choice (oracle `idx`), any number of packers, any pack
size > 0. The layout constants are the regenerated `Restic.Gen` values (`genCfg`).
-/
namespace Restic.Props.C44
open Restic.Model.Packer Restic.Proofs.C44

structure RunInv (c : Cfg) (ps n : Nat) (r : Run) : Prop where
  inv : PMInv c r.pm
  psz : r.pm.packSize = ps
  len : r.pm.slots.length = n
  cnt : ∀ a, cnt a (packers r.pm) = r.accepted.count a

/-- `SaveBlob` fails (index panic) only for an oracle value `randomInt` cannot return -/
theorem saveBlob_no_panic (c : Cfg) (pm : PM) (b : Blob) (idx : Nat) (h : idx < pm.slots.length) :
    (pm.saveBlob c b idx).2 ≠ .panic := by
  rcases saveBlob_cases c pm b idx with ⟨hle, _⟩ | ⟨_, _, _, ok⟩
  · exact absurd h (Nat.not_lt.mpr hle)
  · rw [ok.result]; nofun

theorem init_inv (c : Cfg) (ps n : Nat) : RunInv c ps n ⟨PM.init ps n, [], 0⟩ := by
  have hsl : slotPackers (PM.init ps n) = [] := List.filterMap_replicate_of_none rfl
  have hpk : packers (PM.init ps n) = [] := by rw [packers, hsl]; rfl
  refine ⟨⟨?_, ?_, ?_, ?_⟩, rfl, List.length_replicate, fun a => ?_⟩
  · rw [hsl]; exact fun _ h => nomatch h
  · exact fun _ h => nomatch h
  · rw [hpk]; exact .nil
  · rw [hpk]; exact fun _ h => nomatch h
  · rw [hpk]; rfl

theorem runOp_inv {c : Cfg} (hc : CfgOK c) {ps n : Nat} (hps : 0 < ps) {r : Run} (h : RunInv c ps n r) (op : Op) :
    RunInv c ps n (runOp c r op) := by
  cases op with
  | flush =>
    exact ⟨flush_inv hc h.inv, h.psz, (List.length_map ..).trans h.len, fun a =>
      (flush_cnt hc h.inv a).trans (h.cnt a)⟩
  | save b idx =>
    rcases saveBlob_cases c r.pm b idx with ⟨_, hres⟩ | ⟨pm', sz, q, ok⟩
    · -- index out of range: nothing changes
      simp only [runOp, hres]
      exact ⟨h.inv, h.psz, h.len, h.cnt⟩
    · obtain ⟨R, old, p, heff⟩ := ok.effect h.inv
      simp only [runOp, ok.result]
      refine ⟨heff.inv hc (h.psz ▸ hps) h.inv, heff.packSize.trans h.psz, ok.length.trans h.len, fun a => ?_⟩
      rw [heff.count_eq a, h.cnt a]
      simp only [List.count_cons, beq_iff_eq]

theorem run_inv {c : Cfg} (hc : CfgOK c) {ps : Nat} (hps : 0 < ps) (n : Nat) (ops : List Op) :
    RunInv c ps n (run c ps n ops) :=
  List.foldlRecOn ops _ (init_inv c ps n) fun _ h op _ => runOp_inv hc hps h op

/-- **header_bound**: whatever the history, every packer handed
    to the uploader has a header of at most `MaxHeaderSize` bytes, so `Finalize`'s self check passes. -/
theorem header_bound (ps : Nat) (hps : 0 < ps) (n : Nat) (ops : List Op) :
    ∀ q ∈ (run genCfg ps n ops).pm.queued,
      q.headerBytes genCfg ≤ Restic.Gen.pack_MaxHeaderSize ∧ q.finalizeOK genCfg = true := by
  intro q hq
  have hg := (run_inv genCfg_ok hps n ops).inv.goods q hq
  exact ⟨hg.header_le genCfg_ok, hg.finalizeOK genCfg_ok⟩

/-- **no_add_after_full**: when the last blob of a queued packer was added, the packer was below the
    pack size and its header was not full; hence (second part) the same holds for every earlier state. -/
theorem no_add_after_full (ps : Nat) (hps : 0 < ps) (n : Nat) (ops : List Op) :
    ∀ q ∈ (run genCfg ps n ops).pm.queued,
      noAddAfterFull genCfg ps q.blobs = true ∧
      ∀ s, s <:+ q.blobs → s ≠ q.blobs → sumLen s < ps ∧ hdrFull genCfg s.length = false := by
  intro q hq
  have hr := run_inv genCfg_ok hps n ops
  have hg := hr.inv.goods q hq
  rw [hr.psz] at hg
  exact ⟨hg.2.2, (noAddAfterFull_suffix hg.2.2).2⟩

/-- a packer that stays in a slot is below the pack size and its header is not full -/
theorem open_not_full (ps : Nat) (hps : 0 < ps) (n : Nat) (ops : List Op) :
    ∀ p ∈ slotPackers (run genCfg ps n ops).pm, p.bytes < ps ∧ p.headerFull genCfg = false := by
  intro p hp
  have hr := run_inv genCfg_ok hps n ops
  have ho := hr.inv.opens p hp
  rw [hr.psz] at ho
  exact ⟨ho.2.1, ho.2.2⟩

/-- each packer is handed to the uploader at most once, and open packers are never in the queue -/
theorem queued_once (ps : Nat) (hps : 0 < ps) (n : Nat) (ops : List Op) :
    ((slotPackers (run genCfg ps n ops).pm ++ (run genCfg ps n ops).pm.queued).map (·.serial)).Nodup :=
  (run_inv genCfg_ok hps n ops).inv.nodup

/-- Manager level of `blob_in_one_pack`: at every moment the blobs accepted so far are, as a multiset,
    those in open packers plus those in queued packers (every accepted occurrence is in exactly one packer) -/
theorem accepted_conserved (ps : Nat) (hps : 0 < ps) (n : Nat) (ops : List Op) :
    ((slotPackers (run genCfg ps n ops).pm ++ (run genCfg ps n ops).pm.queued).flatMap (·.blobs)).Perm
      (run genCfg ps n ops).accepted :=
  List.perm_iff_count.mpr fun a => (count_blobs a _).trans ((run_inv genCfg_ok hps n ops).cnt a)

/-- After `Flush` no packer stays open, so every accepted blob is in exactly one packer that
    was handed to the uploader. -/
theorem blob_in_one_pack_pm (ps : Nat) (hps : 0 < ps) (n : Nat) (ops : List Op) :
    let r := run genCfg ps n (ops ++ [.flush])
    slotPackers r.pm = [] ∧ (r.pm.queued.flatMap (·.blobs)).Perm r.accepted ∧
      (r.pm.queued.map (·.serial)).Nodup := by
  intro r
  have hsl : slotPackers r.pm = [] := by
    show slotPackers (run genCfg ps n (ops ++ [.flush])).pm = []
    rw [run, List.foldl_append]
    exact slotPackers_flush _ _
  have h1 := accepted_conserved ps hps n (ops ++ [.flush])
  have h2 := queued_once ps hps n (ops ++ [.flush])
  rw [hsl] at h1 h2
  exact ⟨hsl, h1, h2⟩

def savedBlobs : List Op → List Blob
  | [] => []
  | .save b _ :: ops => b :: savedBlobs ops
  | .flush :: ops => savedBlobs ops

def oracleOK (n : Nat) : List Op → Prop
  | [] => True
  | .save _ idx :: ops => idx < n ∧ oracleOK n ops
  | .flush :: ops => oracleOK n ops

theorem accepted_all_aux {c : Cfg} {n : Nat} : ∀ (ops : List Op) (r : Run), r.pm.slots.length = n → oracleOK n ops →
    (ops.foldl (runOp c) r).accepted = (savedBlobs ops).reverse ++ r.accepted ∧ (ops.foldl (runOp c) r).panics = r.panics
  | [], r, _, _ => ⟨rfl, rfl⟩
  | .flush :: ops, r, hl, ho =>
    accepted_all_aux ops { r with pm := r.pm.flush c } ((List.length_map ..).trans hl) ho
  | .save b idx :: ops, r, hl, ho => by
    rw [List.foldl_cons, savedBlobs, List.reverse_cons, List.append_assoc]
    rcases saveBlob_cases c r.pm b idx with ⟨hle, _⟩ | ⟨pm', sz, q, ok⟩
    · exact absurd ho.1 (Nat.not_lt.mpr (hl ▸ hle))
    · simp only [runOp, ok.result]
      exact accepted_all_aux ops _ (ok.length.trans hl) ho.2

/-- every `SaveBlob` call is accepted when the oracle stays in range (`randomInt(len(r.packers))`) -/
theorem accepted_all (c : Cfg) (ps n : Nat) (ops : List Op) (ho : oracleOK n ops) :
    (run c ps n ops).accepted = (savedBlobs ops).reverse ∧ (run c ps n ops).panics = 0 := by
  have := accepted_all_aux (c := c) ops ⟨PM.init ps n, [], 0⟩ (by simp [PM.init]) ho
  simpa [run] using this

/-- The transcription meets the executable statement evaluated by the driver: for every history of one
    manager of type `tpe` (the dispatch of `saveAndEncrypt` only sends blobs of that type), after the
    final `Flush`, `specOK` holds for the packers handed to the uploader. -/
theorem run_specOK (ps : Nat) (hps : 0 < ps) (n : Nat) (tpe : BlobType) (ops : List Op)
    (htpe : ∀ b ∈ savedBlobs ops, b.tpe = tpe) (ho : oracleOK n ops) :
    let r := run genCfg ps n (ops ++ [.flush])
    specOK genCfg ps tpe r.accepted r.pm.queued = true := by
  intro r
  obtain ⟨_, hperm, hnd⟩ := blob_in_one_pack_pm ps hps n ops
  -- the final `Flush` accepts nothing
  have hacc : r.accepted = (savedBlobs ops).reverse := by
    show (run genCfg ps n (ops ++ [.flush])).accepted = _
    rw [run, List.foldl_append]
    exact (accepted_all genCfg ps n ops ho).1
  simp only [specOK, Bool.and_eq_true, List.all_eq_true]
  refine ⟨⟨⟨⟨(sameBlobs_iff _ _).mpr hperm, (distinct_iff _).mpr hnd⟩, ?_⟩, ?_⟩, ?_⟩
  · intro p hp b hb
    have : b ∈ r.accepted := hperm.subset (List.mem_flatMap.mpr ⟨p, hp, hb⟩)
    rw [hacc] at this
    simpa using htpe b (by simpa using this)
  · intro p hp; exact (no_add_after_full ps hps n _ p hp).1
  · intro p hp; exact (header_bound ps hps n _ p hp).2

def tag (t : BlobType) (l : List Packer) : List (BlobType × Packer) := l.map (fun q => (t, q))

def pipeline (s : Sess) : List (BlobType × Packer) := s.chan ++ s.uploaded ++ s.indexed

def allQueuedOf (pm : BlobType → PM) : List (BlobType × Packer) :=
  tag .tree (pm .tree).queued ++ tag .data (pm .data).queued

/-- `pipe` is a `Perm`, not an equation: an uploader takes any waiting packer (`eraseIdx`), so the order in which
    the managers queued them is lost. -/
structure SessInv (c : Cfg) (ps : Nat) (s : Sess) : Prop where
  inv : ∀ t, PMInv c (s.pm t)
  psz : ∀ t, (s.pm t).packSize = ps
  pipe : (pipeline s).Perm (allQueuedOf s.pm)
  cnt : ∀ t a, cnt a (packers (s.pm t)) = (s.accepted.filter (fun b => b.tpe = t)).count a

/-- `new`: the packers sent to the uploader, oldest first -/
def push (s : Sess) (t : BlobType) (pm : PM) (new : List Packer) (acc : List Blob) : Sess :=
  { s with pm := s.upd t pm, accepted := acc, chan := s.chan ++ tag t new,
           log := (new.map fun q => Ev.queue t q.serial).reverse ++ s.log }

inductive StepCase (c : Cfg) (s : Sess) : Sess → Prop
  | noop : StepCase c s s
  | save {b idx pm' sz q} : (s.pm b.tpe).saveBlob c b idx = (pm', .ok sz q) →
      StepCase c s (push s b.tpe pm' q.toList (b :: s.accepted))
  | flush (t) : StepCase c s (push s t ((s.pm t).flush c) ((s.pm t).mergePackers c).reverse s.accepted)
  | upload {k t q} : s.chan[k]? = some (t, q) → StepCase c s
      { s with chan := s.chan.eraseIdx k, uploaded := s.uploaded ++ [(t, q)], log := .upload t q.serial :: s.log }
  | store {k t q} : s.uploaded[k]? = some (t, q) → StepCase c s
      { s with uploaded := s.uploaded.eraseIdx k, indexed := s.indexed ++ [(t, q)], log := .index t q.serial :: s.log }

theorem Sess.step_cases (c : Cfg) (s : Sess) (a : Act) : StepCase c s (s.step c a) := by
  cases a with
  | save b idx =>
    rcases hres : (s.pm b.tpe).saveBlob c b idx with ⟨pm', ⟨sz, q⟩ | _⟩
    · have e : s.step c (.save b idx) = push s b.tpe pm' q.toList (b :: s.accepted) := by
        cases q <;> simp only [Sess.step, hres, push, Option.toList, tag, List.map_cons, List.map_nil,
          List.reverse_cons, List.reverse_nil, List.append_nil, List.nil_append, List.singleton_append]
      exact e ▸ .save hres
    · simp only [Sess.step, hres]; exact .noop
  | flush t =>
    have e : s.step c (.flush t) = push s t ((s.pm t).flush c) ((s.pm t).mergePackers c).reverse s.accepted := by
      simp only [Sess.step, push, tag, List.map_reverse, List.reverse_reverse]
    exact e ▸ .flush t
  | upload k =>
    cases hk : s.chan[k]? with
    | none => simp only [Sess.step, hk]; exact .noop
    | some x => simp only [Sess.step, hk]; exact .upload hk
  | store k =>
    cases hk : s.uploaded[k]? with
    | none => simp only [Sess.step, hk]; exact .noop
    | some x => simp only [Sess.step, hk]; exact .store hk

theorem pipeline_push (s : Sess) (t : BlobType) (pm : PM) (new : List Packer) (acc : List Blob) :
    (pipeline (push s t pm new acc)).Perm (tag t new ++ pipeline s) := by
  show (s.chan ++ tag t new ++ s.uploaded ++ s.indexed).Perm _
  rw [pipeline, List.append_assoc s.chan, List.append_assoc s.chan, List.append_assoc s.chan, List.append_assoc (tag t new)]
  exact List.perm_append_comm_assoc ..

theorem move_perm {α} {l : List α} {k : Nat} {x : α} (h : l[k]? = some x) (m : List α) :
    (l.eraseIdx k ++ (m ++ [x])).Perm (l ++ m) := by
  rw [← List.append_assoc]
  exact List.perm_append_singleton .. |>.trans ((perm_of_getElem? h).symm.append_right m)

theorem pipeline_upload {s : Sess} {k : Nat} {x : BlobType × Packer} (h : s.chan[k]? = some x) :
    (s.chan.eraseIdx k ++ (s.uploaded ++ [x]) ++ s.indexed).Perm (pipeline s) :=
  (move_perm h _).append_right _

theorem pipeline_store {s : Sess} {k : Nat} {x : BlobType × Packer} (h : s.uploaded[k]? = some x) :
    (s.chan ++ s.uploaded.eraseIdx k ++ (s.indexed ++ [x])).Perm (pipeline s) := by
  rw [pipeline, List.append_assoc, List.append_assoc]
  exact (move_perm h _).append_left _

theorem allQueuedOf_upd {s : Sess} {t : BlobType} {pm : PM} {new : List Packer}
    (hq : pm.queued = new ++ (s.pm t).queued) :
    (allQueuedOf (s.upd t pm)).Perm (tag t new ++ allQueuedOf s.pm) := by
  cases t <;> simp only [allQueuedOf, Sess.upd, if_true, reduceCtorEq, if_false, hq, tag, List.map_append,
    List.append_assoc]
  · exact List.perm_append_comm_assoc ..
  · exact .refl _

theorem push_inv {c : Cfg} {ps : Nat} {s : Sess} (h : SessInv c ps s) {t : BlobType} {pm : PM}
    {new : List Packer} {acc : List Blob} (hinv : PMInv c pm) (hps : pm.packSize = ps)
    (hq : pm.queued = new.reverse ++ (s.pm t).queued)
    (hcnt : ∀ a, cnt a (packers pm) = (acc.filter (fun b => b.tpe = t)).count a)
    (hacc : ∀ t', t' ≠ t → acc.filter (fun b => b.tpe = t') = s.accepted.filter (fun b => b.tpe = t')) :
    SessInv c ps (push s t pm new acc) := by
  have hupd : ∀ {P : BlobType → PM → Prop}, P t pm → (∀ t', t' ≠ t → P t' (s.pm t')) →
      ∀ t', P t' (s.upd t pm t') := fun hp hs t' => by
    unfold Sess.upd
    by_cases ht : t' = t
    · rw [if_pos ht]; exact ht ▸ hp
    · rw [if_neg ht]; exact hs t' ht
  refine ⟨hupd (P := fun _ pm' => PMInv c pm') hinv fun t' _ => h.inv t',
    hupd (P := fun _ pm' => pm'.packSize = ps) hps fun t' _ => h.psz t', ?_,
    hupd (P := fun t' pm' => ∀ a, cnt a (packers pm') = (acc.filter (fun b => b.tpe = t')).count a) hcnt
      fun t' ht a => hacc t' ht ▸ h.cnt t' a⟩
  exact (pipeline_push ..).trans ((((List.reverse_perm new).map _).symm.append h.pipe).trans (allQueuedOf_upd hq).symm)

theorem Sess.step_inv {c : Cfg} (hc : CfgOK c) {ps : Nat} (hps : 0 < ps) {s : Sess} (h : SessInv c ps s) (a : Act) :
    SessInv c ps (s.step c a) := by
  match s.step c a, Sess.step_cases c s a with
  | _, .noop => exact h
  | _, .save (b := b) (q := q) hres =>
    obtain ⟨R, old, p, heff⟩ := saveBlob_ok (h.inv b.tpe) hres
    refine push_inv h (heff.inv hc ((h.psz _).symm ▸ hps) (h.inv _)) (heff.packSize.trans (h.psz _)) ?_
      (fun a => ?_) fun t' ht => List.filter_cons_of_neg (by simpa using Ne.symm ht)
    · rw [heff.queued]; cases q <;> rfl
    · rw [heff.count_eq a, h.cnt, List.filter_cons_of_pos (by simp)]
      simp only [List.count_cons, beq_iff_eq]
  | _, .flush t =>
    exact push_inv h (flush_inv hc (h.inv t)) (h.psz t) (by rw [List.reverse_reverse]; rfl)
      (fun a => (flush_cnt hc (h.inv t) a).trans (h.cnt t a)) fun _ _ => rfl
  | _, .upload hk => exact ⟨h.inv, h.psz, (pipeline_upload hk).trans h.pipe, h.cnt⟩
  | _, .store hk => exact ⟨h.inv, h.psz, (pipeline_store hk).trans h.pipe, h.cnt⟩

theorem sess_init_inv (c : Cfg) (ps n : Nat) : SessInv c ps (Sess.init ps n) :=
  have h := init_inv c ps n
  ⟨fun _ => h.inv, fun _ => rfl, .refl _, fun _ a => h.cnt a⟩

theorem sess_run_inv {c : Cfg} (hc : CfgOK c) {ps : Nat} (hps : 0 < ps) (n : Nat) (acts : List Act) :
    SessInv c ps (Sess.run c ps n acts) :=
  List.foldlRecOn acts _ (sess_init_inv c ps n) fun _ h a _ => Sess.step_inv hc hps h a

theorem mem_allQueued {pm : BlobType → PM} {t : BlobType} {p : Packer} :
    (t, p) ∈ allQueuedOf pm ↔ p ∈ (pm t).queued := by
  cases t <;> simp [allQueuedOf, tag]

theorem SessInv.tpe_of_mem {c : Cfg} {ps : Nat} {s : Sess} (h : SessInv c ps s) {t : BlobType} {p : Packer}
    (hp : p ∈ packers (s.pm t)) {b : Blob} (hb : b ∈ p.blobs) : b.tpe = t := by
  have h1 := List.count_pos_iff.mpr (List.mem_flatMap.mpr ⟨p, hp, hb⟩)
  rw [count_blobs, h.cnt t b] at h1
  have := List.count_pos_iff.mp h1
  simpa using (List.mem_filter.mp this).2

/-- **no_type_mix**: whatever the schedule, a packer of the tree manager only ever holds tree blobs
    and a packer of the data manager only data blobs — open packers as well as every pack on its way
    through the uploader (the type recorded with the upload task is the type of all its blobs). -/
theorem no_type_mix (ps : Nat) (hps : 0 < ps) (n : Nat) (acts : List Act) :
    let s := Sess.run genCfg ps n acts
    (∀ t, ∀ p ∈ slotPackers (s.pm t), ∀ b ∈ p.blobs, b.tpe = t) ∧
    (∀ x ∈ pipeline s, ∀ b ∈ x.2.blobs, b.tpe = x.1) := by
  intro s
  have h := sess_run_inv genCfg_ok hps n acts
  refine ⟨fun t p hp b hb => h.tpe_of_mem (List.mem_append_left _ hp) hb, ?_⟩
  rintro ⟨t, p⟩ hx b hb
  have : p ∈ (s.pm t).queued := mem_allQueued.mp (h.pipe.subset hx)
  exact h.tpe_of_mem (List.mem_append_right _ this) hb

/-- `header_bound` and `no_add_after_full` for the session: every pack that reaches the uploader
    (waiting, uploaded or indexed), under every schedule -/
theorem sess_packs_good (ps : Nat) (hps : 0 < ps) (n : Nat) (acts : List Act) :
    ∀ x ∈ pipeline (Sess.run genCfg ps n acts),
      x.2.headerBytes genCfg ≤ Restic.Gen.pack_MaxHeaderSize ∧ x.2.finalizeOK genCfg = true ∧
      noAddAfterFull genCfg ps x.2.blobs = true := by
  rintro ⟨t, p⟩ hx
  have h := sess_run_inv genCfg_ok hps n acts
  have hq : p ∈ ((Sess.run genCfg ps n acts).pm t).queued := mem_allQueued.mp (h.pipe.subset hx)
  have hg := (h.inv t).goods p hq
  rw [h.psz t] at hg
  exact ⟨hg.header_le genCfg_ok, hg.finalizeOK genCfg_ok, hg.2.2⟩

theorem count_split (a : Blob) (l : List Blob) :
    (l.filter (fun b => b.tpe = .tree)).count a + (l.filter (fun b => b.tpe = .data)).count a = l.count a := by
  have hz : ∀ t, a.tpe ≠ t → (l.filter (fun b => b.tpe = t)).count a = 0 := fun t ht =>
    List.count_eq_zero.mpr fun hm => ht (of_decide_eq_true (List.mem_filter.mp hm).2)
  have hs : (l.filter (fun b => b.tpe = a.tpe)).count a = l.count a := List.count_filter (decide_eq_true rfl)
  cases ha : a.tpe <;> rw [ha] at hz hs
  · rw [hz .tree nofun, hs, Nat.zero_add]
  · rw [hz .data nofun, hs, Nat.add_zero]

def ids (l : List (BlobType × Packer)) : List (BlobType × Nat) := l.map (fun x => (x.1, x.2.serial))

theorem ids_append (l m : List (BlobType × Packer)) : ids (l ++ m) = ids l ++ ids m := List.map_append

theorem SessInv.ids_nodup {c : Cfg} {ps : Nat} {s : Sess} (h : SessInv c ps s) : (ids (pipeline s)).Nodup := by
  have hp : (ids (pipeline s)).Perm (ids (allQueuedOf s.pm)) := h.pipe.map _
  rw [hp.nodup_iff]
  have key : ∀ t, (ids (tag t (s.pm t).queued)).Nodup := fun t => by
    rw [ids, tag, List.map_map]
    exact List.pairwise_map.mpr ((List.pairwise_map.mp (h.inv t).queued_nodup).imp fun hne e =>
      hne (congrArg Prod.snd e))
  rw [allQueuedOf, ids_append]
  refine List.nodup_append.mpr ⟨key .tree, key .data, fun a ha b hb hab => ?_⟩
  simp only [ids, tag, List.map_map, List.mem_map, Function.comp] at ha hb
  obtain ⟨_, _, rfl⟩ := ha
  obtain ⟨_, _, rfl⟩ := hb
  cases hab

/-- the upload session has ended: both managers flushed, the uploader drained (`packerWg.Wait()`
    returned) -/
def ended (s : Sess) : Prop := s.chan = [] ∧ s.uploaded = [] ∧ ∀ t, slotPackers (s.pm t) = []

theorem SessInv.conserved {c : Cfg} {ps : Nat} {s : Sess} (h : SessInv c ps s) :
    ((slotPackers (s.pm .tree) ++ slotPackers (s.pm .data)).flatMap (·.blobs) ++
      (pipeline s).flatMap (·.2.blobs)).Perm s.accepted := by
  refine ((h.pipe.flatMap_right _).append_left _).trans (List.perm_iff_count.mpr fun a => ?_)
  have ht := h.cnt .tree a
  have hd := h.cnt .data a
  rw [packers, cnt_append] at ht hd
  rw [allQueuedOf, tag, tag, List.flatMap_append, List.flatMap_append, List.flatMap_map, List.flatMap_map,
    List.count_append, List.count_append, List.count_append, count_blobs, count_blobs, count_blobs, count_blobs,
    ← count_split a s.accepted, ← ht, ← hd]
  omega

/-- **blob_in_one_pack**: for every schedule of savers, uploader goroutines and flushes and every
    packer choice: once the session has ended, the accepted blobs are exactly (as a multiset, i.e.
    occurrence by occurrence) the blobs of the packs that were uploaded and indexed, and these packs
    are pairwise different packers. -/
theorem blob_in_one_pack (ps : Nat) (hps : 0 < ps) (n : Nat) (acts : List Act)
    (hend : ended (Sess.run genCfg ps n acts)) :
    let s := Sess.run genCfg ps n acts
    (s.indexed.flatMap (·.2.blobs)).Perm s.accepted ∧ (ids s.indexed).Nodup := by
  intro s
  have h := sess_run_inv genCfg_ok hps n acts
  obtain ⟨hc, hu, hs⟩ := hend
  have hcons := h.conserved
  have hnd := h.ids_nodup
  rw [pipeline, hc, hu, hs, hs] at hcons
  rw [pipeline, hc, hu] at hnd
  exact ⟨hcons, hnd⟩

/-- `Q` / `U` / `I`: the packs (type, serial) with a queue / upload / index event in the log -/
structure LogOK (log : List Ev) (Q U I : List (BlobType × Nat)) : Prop where
  ord : orderOK log = true
  q_iff : ∀ t n, Ev.queue t n ∈ log ↔ (t, n) ∈ Q
  u_iff : ∀ t n, Ev.upload t n ∈ log ↔ (t, n) ∈ U
  i_iff : ∀ t n, Ev.index t n ∈ log ↔ (t, n) ∈ I

/-- everything queued is somewhere in the pipeline, everything uploaded is uploaded or indexed -/
abbrev LogInv (s : Sess) : Prop :=
  LogOK s.log (ids (pipeline s)) (ids (s.uploaded ++ s.indexed)) (ids s.indexed)

section
variable {log : List Ev} {Q U I Q' U' I' : List (BlobType × Nat)} {t : BlobType} {n : Nat}

theorem LogOK.perm (h : LogOK log Q U I) (hQ : Q.Perm Q') (hU : U.Perm U') (hI : I.Perm I') : LogOK log Q' U' I' :=
  ⟨h.ord, fun t n => (h.q_iff t n).trans hQ.mem_iff, fun t n => (h.u_iff t n).trans hU.mem_iff,
    fun t n => (h.i_iff t n).trans hI.mem_iff⟩

theorem LogOK.queue (h : LogOK log Q U I) (hn : (t, n) ∉ Q) : LogOK (.queue t n :: log) ((t, n) :: Q) U I where
  ord := by
    simp only [orderOK, h.ord, Bool.true_and, Bool.not_eq_true', List.contains_eq_mem, decide_eq_false_iff_not]
    exact fun hm => hn ((h.q_iff t n).mp hm)
  q_iff t' n' := by rw [List.mem_cons, List.mem_cons, h.q_iff, Ev.queue.injEq, Prod.mk.injEq]
  u_iff t' n' := by rw [List.mem_cons, h.u_iff]; simp only [reduceCtorEq, false_or]
  i_iff t' n' := by rw [List.mem_cons, h.i_iff]; simp only [reduceCtorEq, false_or]

theorem LogOK.upload (h : LogOK log Q U I) (hq : (t, n) ∈ Q) (hn : (t, n) ∉ U) :
    LogOK (.upload t n :: log) Q ((t, n) :: U) I where
  ord := by
    simp only [orderOK, h.ord, Bool.true_and, Bool.and_eq_true, Bool.not_eq_true', List.contains_eq_mem,
      decide_eq_true_eq, decide_eq_false_iff_not]
    exact ⟨(h.q_iff t n).mpr hq, fun hm => hn ((h.u_iff t n).mp hm)⟩
  q_iff t' n' := by rw [List.mem_cons, h.q_iff]; simp only [reduceCtorEq, false_or]
  u_iff t' n' := by rw [List.mem_cons, List.mem_cons, h.u_iff, Ev.upload.injEq, Prod.mk.injEq]
  i_iff t' n' := by rw [List.mem_cons, h.i_iff]; simp only [reduceCtorEq, false_or]

theorem LogOK.index (h : LogOK log Q U I) (hu : (t, n) ∈ U) (hn : (t, n) ∉ I) :
    LogOK (.index t n :: log) Q U ((t, n) :: I) where
  ord := by
    simp only [orderOK, h.ord, Bool.true_and, Bool.and_eq_true, Bool.not_eq_true', List.contains_eq_mem,
      decide_eq_true_eq, decide_eq_false_iff_not]
    exact ⟨(h.u_iff t n).mpr hu, fun hm => hn ((h.i_iff t n).mp hm)⟩
  q_iff t' n' := by rw [List.mem_cons, h.q_iff]; simp only [reduceCtorEq, false_or]
  u_iff t' n' := by rw [List.mem_cons, h.u_iff]; simp only [reduceCtorEq, false_or]
  i_iff t' n' := by rw [List.mem_cons, List.mem_cons, h.i_iff, Ev.index.injEq, Prod.mk.injEq]

theorem LogOK.queues : ∀ (N : List (BlobType × Nat)) {log Q}, LogOK log Q U I → (N ++ Q).Nodup →
    LogOK ((N.map fun x => Ev.queue x.1 x.2).reverse ++ log) (N.reverse ++ Q) U I
  | [], _, _, h, _ => h
  | x :: N, _, _, h, hnd => by
    rw [List.map_cons, List.reverse_cons, List.reverse_cons, List.append_assoc, List.append_assoc]
    have hnd' := List.nodup_cons.mp hnd
    exact queues N (h.queue fun hm => hnd'.1 (List.mem_append_right _ hm))
      (List.perm_middle.nodup_iff.mpr hnd)
end

theorem not_mem_ids {l m : List (BlobType × Packer)} {k : Nat} {t : BlobType} {q : Packer}
    (hk : l[k]? = some (t, q)) (hnd : (ids (l ++ m)).Nodup) : (t, q.serial) ∉ ids m := fun hm =>
  (List.nodup_append.mp (ids_append l m ▸ hnd)).2.2 _ (List.mem_map_of_mem (List.mem_of_getElem? hk)) _ hm rfl

theorem LogInv.push {s : Sess} (h : LogInv s) (t : BlobType) (pm : PM) (new : List Packer) (acc : List Blob)
    (hnd : (ids (pipeline (push s t pm new acc))).Nodup) : LogInv (push s t pm new acc) := by
  have hP := (pipeline_push s t pm new acc).map fun x => (x.1, x.2.serial)
  have := LogOK.queues (ids (tag t new)) h (ids_append .. ▸ hP.nodup_iff.mp hnd)
  have hlog : (ids (tag t new)).map (fun x => Ev.queue x.1 x.2) = new.map fun q => Ev.queue t q.serial := by
    rw [ids, tag, List.map_map, List.map_map]; rfl
  rw [hlog] at this
  exact this.perm (.trans (.append_right _ (List.reverse_perm _)) (ids_append .. ▸ hP.symm)) (.refl _) (.refl _)

theorem LogInv.step {c : Cfg} {s : Sess} (h : LogInv s) (a : Act) (hnd : (ids (pipeline s)).Nodup)
    (hnd' : (ids (pipeline (s.step c a))).Nodup) : LogInv (s.step c a) := by
  match s.step c a, Sess.step_cases c s a, hnd' with
  | _, .noop, _ => exact h
  | _, .save _, hnd' => exact h.push _ _ _ _ hnd'
  | _, .flush _, hnd' => exact h.push _ _ _ _ hnd'
  | _, .upload (t := t) (q := q) hk, _ =>
    rw [pipeline, List.append_assoc] at hnd
    refine (LogOK.upload h ?_ (not_mem_ids hk hnd)).perm ((pipeline_upload hk).map _).symm ?_ (.refl _)
    · exact List.mem_map_of_mem (List.mem_append_left _ (List.mem_append_left _ (List.mem_of_getElem? hk)))
    · show (ids ((t, q) :: (s.uploaded ++ s.indexed))).Perm (ids (s.uploaded ++ [(t, q)] ++ s.indexed))
      rw [List.append_assoc]; exact (List.perm_middle.map _).symm
  | _, .store (t := t) (q := q) hk, _ =>
    have hnd : (ids (s.uploaded ++ s.indexed)).Nodup :=
      ((List.sublist_append_right s.chan _).map _).nodup (by rwa [pipeline, List.append_assoc] at hnd)
    refine (LogOK.index h ?_ (not_mem_ids hk hnd)).perm ((pipeline_store hk).map _).symm
      ((move_perm hk _).map _).symm ?_
    · exact List.mem_map_of_mem (List.mem_append_left _ (List.mem_of_getElem? hk))
    · show (ids ((t, q) :: s.indexed)).Perm (ids (s.indexed ++ [(t, q)]))
      exact ((List.perm_append_singleton ..).map _).symm

theorem sess_run_log {c : Cfg} (hc : CfgOK c) {ps : Nat} (hps : 0 < ps) (n : Nat) (acts : List Act) :
    LogInv (Sess.run c ps n acts) :=
  have hnil : ∀ {e : Ev} {x : BlobType × Nat}, e ∈ ([] : List Ev) ↔ x ∈ ([] : List (BlobType × Nat)) :=
    iff_of_false List.not_mem_nil List.not_mem_nil
  (List.foldlRecOn acts _ (motive := fun s => SessInv c ps s ∧ LogInv s)
    ⟨sess_init_inv c ps n, rfl, fun _ _ => hnil, fun _ _ => hnil, fun _ _ => hnil⟩ fun _ h a _ =>
      have h' := Sess.step_inv hc hps h.1 a
      ⟨h', h.2.step a h.1.ids_nodup h'.ids_nodup⟩).2

/-- **uploaded, then indexed, each exactly once**: for every schedule the event log of the session is
    ordered (`orderOK`): a packer is handed to the uploader at most once, written to the backend only
    after that and at most once, and indexed (`StorePack`) only after the backend write, at most once;
    moreover every indexed pack has its upload event in the log. -/
theorem upload_then_index (ps : Nat) (hps : 0 < ps) (n : Nat) (acts : List Act) :
    let s := Sess.run genCfg ps n acts
    orderOK s.log = true ∧
    (∀ x ∈ s.indexed, Ev.index x.1 x.2.serial ∈ s.log ∧ Ev.upload x.1 x.2.serial ∈ s.log ∧ Ev.queue x.1 x.2.serial ∈ s.log) := by
  intro s
  have hl : LogInv s := sess_run_log genCfg_ok hps n acts
  refine ⟨hl.ord, fun x hx => ?_⟩
  have hi : (x.1, x.2.serial) ∈ ids s.indexed := List.mem_map_of_mem (f := fun x => (x.1, x.2.serial)) hx
  exact ⟨(hl.i_iff _ _).mpr hi, (hl.u_iff _ _).mpr (ids_append .. ▸ List.mem_append_right _ hi),
    (hl.q_iff _ _).mpr (ids_append .. ▸ List.mem_append_right _ hi)⟩

def isDrain : Act → Bool
  | .upload _ => true
  | .store _ => true
  | _ => false

theorem drain_pm (c : Cfg) (drain : List Act) (s : Sess) (h : ∀ a ∈ drain, isDrain a = true) :
    (drain.foldl (Sess.step c) s).pm = s.pm :=
  List.foldlRecOn drain (Sess.step c) (motive := fun s' => s'.pm = s.pm) rfl fun s' hs' a ha => by
    refine .trans ?_ hs'
    have ha := h a ha
    cases a with
    | save _ _ => cases ha
    | flush _ => cases ha
    | upload k => simp only [Sess.step]; split <;> rfl
    | store k => simp only [Sess.step]; split <;> rfl

/-- `flushPackUploader`: after `treePM.Flush`, `dataPM.Flush` and any amount of uploader activity, if
    the uploader has drained (nothing waiting, nothing uploaded-but-unindexed: `packerWg.Wait()`
    returned) the session has ended in the sense of `blob_in_one_pack`. -/
theorem ended_of_flush_drain (c : Cfg) (ps n : Nat) (pre drain : List Act) (hd : ∀ a ∈ drain, isDrain a = true)
    (hq : (Sess.run c ps n (pre ++ [.flush .tree, .flush .data] ++ drain)).chan = [])
    (hu : (Sess.run c ps n (pre ++ [.flush .tree, .flush .data] ++ drain)).uploaded = []) :
    ended (Sess.run c ps n (pre ++ [.flush .tree, .flush .data] ++ drain)) := by
  refine ⟨hq, hu, fun t => ?_⟩
  simp only [Sess.run, List.foldl_append, List.foldl_cons, List.foldl_nil]
  rw [drain_pm c drain _ hd]
  cases t <;> simp [Sess.step, Sess.upd, slotPackers_flush]

/-- a packer holding `k` one-byte uncompressed data blobs -/
def tiny (serial k : Nat) : Packer := ⟨serial, List.replicate k ⟨.data, 0, 1, 0⟩, k, k⟩

theorem tiny_open {c : Cfg} {ps : Nat} (serial k : Nat) (hk : k + 1 < ps)
    (hh : c.headerSize + (k + 2) * c.entrySize ≤ c.maxHeaderSize) : Open c ps (tiny serial (k + 1)) := by
  have hsum : sumLen (List.replicate k (⟨.data, 0, 1, 0⟩ : Blob)) = k := by
    simp [sumLen, List.map_replicate, List.sum_replicate_nat]
  have hle : (k + 1) * c.entrySize ≤ (k + 2) * c.entrySize := Nat.mul_le_mul_right _ (by omega)
  refine ⟨⟨⟨by simp [tiny], ?_⟩, by simp only [tiny]; omega, ?_⟩, by simp only [tiny]; omega, ?_⟩
  · simp [tiny, sumLen, List.map_replicate, List.sum_replicate_nat]
  · simp only [tiny, List.replicate_succ, noAddAfterFull, Bool.and_eq_true, decide_eq_true_eq, Bool.not_eq_true',
      hsum, List.length_replicate]
    exact ⟨by omega, hdrFull_false.mpr (by omega)⟩
  · simp only [tiny]; exact hdrFull_false.mpr hh

/-- `hopen`: one packer of `k + 1` entries is not yet header-full; `hover`, `hcount`: the `2 (k + 1)` plain entries of
    the merged one exceed the header size, and the entry count. -/
theorem merge_on_size_only_overflows_gen {c : Cfg} {ps : Nat} (k : Nat) (hk : 2 * (k + 1) < ps)
    (hopen : c.headerSize + (k + 2) * c.entrySize ≤ c.maxHeaderSize)
    (hover : c.maxHeaderSize < c.headerSize + 2 * (k + 1) * c.plainEntrySize)
    (hcount : c.maxHeaderEntries < 2 * (k + 1)) :
    Open c ps (tiny 0 (k + 1)) ∧ Open c ps (tiny 1 (k + 1)) ∧
      (tiny 0 (k + 1)).bytes + (tiny 1 (k + 1)).bytes < ps ∧
      ((tiny 0 (k + 1)).merge (tiny 1 (k + 1))).finalizeOK c = false ∧
      ¬ ((tiny 0 (k + 1)).n + (tiny 1 (k + 1)).n ≤ c.maxHeaderEntries) := by
  refine ⟨tiny_open 0 k (by omega) hopen, tiny_open 1 k (by omega) hopen, by simp only [tiny]; omega, ?_, by simp only [tiny]; omega⟩
  have hb : (fun b => entryBytes c b) (⟨.data, 0, 1, 0⟩ : Blob) = c.plainEntrySize := by simp [entryBytes]
  simp only [Packer.finalizeOK, Packer.headerBytes, merge_blobs, tiny, List.map_append, List.map_replicate,
    List.sum_append, List.sum_replicate_nat, hb, decide_eq_false_iff_not]
  have : 2 * (k + 1) * c.plainEntrySize = (k + 1) * c.plainEntrySize + (k + 1) * c.plainEntrySize := by
    rw [Nat.mul_assoc, Nat.two_mul]
  omega

/-- Negation witness for the unfixed code (F9): two packers with 240 000 one-byte blobs each are
    legitimate open packers of a manager with the default pack size; their combined byte size is far
    below the pack size — all that `mergePackers` tested before the fix — but the merged header
    (17.8 MB) exceeds `MaxHeaderSize`, so `Finalize` fails. The fixed rule refuses the merge: the
    entry counts add up to more than `MaxHeaderEntries`. -/
theorem merge_on_size_only_overflows :
    Open genCfg Restic.Gen.repo_DefaultPackSize (tiny 0 (239999 + 1)) ∧
    Open genCfg Restic.Gen.repo_DefaultPackSize (tiny 1 (239999 + 1)) ∧
      (tiny 0 (239999 + 1)).bytes + (tiny 1 (239999 + 1)).bytes < Restic.Gen.repo_DefaultPackSize ∧
      ((tiny 0 (239999 + 1)).merge (tiny 1 (239999 + 1))).finalizeOK genCfg = false ∧
      ¬ ((tiny 0 (239999 + 1)).n + (tiny 1 (239999 + 1)).n ≤ genCfg.maxHeaderEntries) :=
  merge_on_size_only_overflows_gen 239999 (by decide) (by decide) (by decide) (by decide)

def pos (x : String) (l : List String) : Nat := l.findIdx (· == x)

/-- `packerManager.SaveBlob` takes `r.pm` first (and releases it by `defer`), then picks a packer,
    adds, tests size and header, forgets and queues: one atomic step of the model. -/
theorem saveBlob_shape :
    Restic.Gen.pmSaveBlob_calls.take 2 = ["r.pm.Lock", "r.pm.Unlock"] ∧
    (Restic.Gen.pmSaveBlob_calls.filter (fun c => c ∈ ["r.pickPacker", "packer.Add", "packer.Size", "packer.HeaderFull", "r.forgetPacker", "r.queueFn"])) =
      ["r.pickPacker", "packer.Add", "packer.Size", "packer.HeaderFull", "packer.Size", "r.forgetPacker", "r.queueFn"] := by
  decide +kernel

/-- `Flush` runs under the same mutex and queues what `mergePackers` returns -/
theorem flush_shape :
    Restic.Gen.pmFlush_calls.take 2 = ["r.pm.Lock", "r.pm.Unlock"] ∧
    pos "r.mergePackers" Restic.Gen.pmFlush_calls < pos "r.queueFn" Restic.Gen.pmFlush_calls ∧
    "r.queueFn" ∈ Restic.Gen.pmFlush_calls := by
  decide +kernel

/-- the merge condition looks at both sizes **and** both entry counts -/
theorem merge_checks_count :
    ["p.Size", "packer.Size", "p.Count", "packer.Count"].all (· ∈ Restic.Gen.pmMergePackers_calls) = true ∧
    pos "packer.Count" Restic.Gen.pmMergePackers_calls < pos "p.Merge" Restic.Gen.pmMergePackers_calls := by
  decide +kernel

/-- `savePacker`: Finalize, then the backend write, then `StorePack` (upload before index) -/
theorem savePacker_upload_before_index :
    pos "p.Packer.Finalize" Restic.Gen.savePacker_calls < pos "r.be.Save" Restic.Gen.savePacker_calls ∧
    pos "r.be.Save" Restic.Gen.savePacker_calls < pos "r.idx.StorePack" Restic.Gen.savePacker_calls ∧
    "r.idx.StorePack" ∈ Restic.Gen.savePacker_calls := by
  decide +kernel

/-- `flushPackUploader` / `flush`: both managers are flushed, then the uploader is shut down and
    waited for, and only then the index is flushed: the session shape of `ended_of_flush_drain`. -/
theorem flush_order :
    Restic.Gen.flushPackUploader_calls = ["r.treePM.Flush", "r.dataPM.Flush", "r.uploader.TriggerShutdown", "r.packerWg.Wait"] ∧
    Restic.Gen.repoFlush_calls = ["r.flushBlobSaver", "r.flushPackUploader", "r.idx.Flush"] := by
  decide +kernel

/-- `Packer.HeaderFull` (transcribed as `hdrFull`) asks whether ONE MORE entry still fits: besides the
    packer lock, the only conversions / literals in its body are `uint(len(p.blobs) + 1)` and `1`, so
    the expression is `headerSize + uint(len(p.blobs)+1)*entrySize > MaxHeaderSize` and not a
    comparison of the current count with a limit. (The constants: `consts_ok`.) -/
theorem headerFull_expr :
    Restic.Gen.headerFull_callargs = ["p.m.Lock()", "p.m.Unlock()", "len(p.blobs)", "uint(len(p.blobs) + 1)"] ∧
    Restic.Gen.headerFull_literals = ["1"] := by
  decide +kernel

/-- `saveAndEncrypt` dispatches on the blob type: tree blobs to `treePM`, data blobs to `dataPM`
    (`Sess.step`'s `.save`), anything else panics. -/
theorem dispatch_cases : Restic.Gen.saveAndEncrypt_cases = ["restic.TreeBlob", "restic.DataBlob", "default"] := by
  decide +kernel

/-- constants: the oracle range of `pickPacker` is not empty, every admissible pack size is positive
    (hypothesis `0 < ps` of the theorems), and the layout constants satisfy `CfgOK` (`genCfg_ok`);
    `MaxHeaderEntries` is exactly the largest entry count whose header fits. -/
theorem consts_ok :
    0 < Restic.Gen.repo_defaultPackerCount ∧ 0 < Restic.Gen.repo_MinPackSize ∧ CfgOK genCfg ∧
    genCfg.headerSize + (genCfg.maxHeaderEntries + 1) * genCfg.entrySize > genCfg.maxHeaderSize :=
  ⟨by decide, by decide, genCfg_ok, by decide⟩

/-- three blobs into two packers (pack size 100): the second fills packer 0; the final Flush finds one
    open packer, nothing to merge -/
example : ((run genCfg 100 2 [.save ⟨.data, 1, 60, 0⟩ 0, .save ⟨.data, 2, 50, 0⟩ 0, .save ⟨.data, 3, 10, 7⟩ 1, .flush]).pm.queued.map
    (fun p => (p.serial, p.n, p.bytes))) = [(1, 1, 10), (0, 2, 110)] := by decide +kernel

/-- Flush merges two small open packers into one pack -/
example : ((run genCfg 100 2 [.save ⟨.data, 1, 20, 0⟩ 0, .save ⟨.data, 2, 30, 0⟩ 1, .flush]).pm.queued.map
    (fun p => (p.serial, p.blobs.map (·.id)))) = [(0, [2, 1])] := by decide +kernel

/-- an oversized blob gets its own pack and is queued at once -/
example : ((run genCfg 100 2 [.save ⟨.tree, 1, 100, 0⟩ 0]).pm.queued.map (·.n), slotPackers (run genCfg 100 2 [.save ⟨.tree, 1, 100, 0⟩ 0]).pm)
    = ([1], []) := by decide +kernel

/-- the hypothesis `ended` of `blob_in_one_pack` is satisfiable: one tree blob, two data blobs, flushes,
    both packs uploaded and indexed -/
example : ended (Sess.run genCfg 100 2
    [.save ⟨.tree, 1, 10, 0⟩ 0, .save ⟨.data, 2, 30, 0⟩ 1, .save ⟨.data, 3, 30, 0⟩ 0, .flush .tree, .flush .data,
     .upload 1, .upload 0, .store 0, .store 0]) ∧
    (Sess.run genCfg 100 2
    [.save ⟨.tree, 1, 10, 0⟩ 0, .save ⟨.data, 2, 30, 0⟩ 1, .save ⟨.data, 3, 30, 0⟩ 0, .flush .tree, .flush .data,
     .upload 1, .upload 0, .store 0, .store 0]).indexed.length = 2 := by
  refine ⟨⟨by decide, by decide, fun t => by cases t <;> decide⟩, by decide⟩

end Restic.Props.C44
