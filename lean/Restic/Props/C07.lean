import Restic.Model.Unpacked
import Restic.Gen.Source
import Restic.Proofs.Basics
/-!
# C07 — Index, snapshot, lock and config files decode to what was saved

Theorems about `Restic.Model.Unpacked` (transcription of compressUnpacked / decompressUnpacked /
saveUnpacked / verifyUnpacked / LoadUnpacked). All statements hold for **every** payload
(`List UInt8`: empty, binary, starting with the version byte, with `[` or `{`), every repository
version `v : Nat`, every file type `t : Nat` and every nonce of the right size. The encoding
constants are the regenerated facts of `Restic.Gen` (see `facts_*` below), not literals.

Assumed of the primitives (`Codec.Lawful`, validated case by case in the correspondence run):
decrypting what was just sealed gives the plaintext back, sealing adds `crypto_macSize` bytes,
zstd decoding inverts zstd encoding.
-/
namespace Restic.Props.C07
open Restic.Model.Unpacked Restic.Gen

structure Codec.Lawful (c : Codec) : Prop where
  open_seal : ∀ n p, n.length = crypto_ivSize → c.openB n (c.sealB n p) = some p
  seal_len : ∀ n p, (c.sealB n p).length = p.length + crypto_macSize
  zdec_zenc : ∀ p, c.zdec (c.zenc p) = some p

theorem facts_extension : crypto_Extension = crypto_ivSize + crypto_macSize := by decide

/-- the version byte is a byte and differs from the two legacy pass-through bytes, which are the
only pass-through bytes -/
theorem facts_bytes : unpacked_versionByte < 256 ∧ unpacked_versionByte ≠ unpacked_rawByte0 ∧
    unpacked_versionByte ≠ unpacked_rawByte1 ∧ unpacked_rawByteCount = 2 := by decide

theorem facts_types : restic_IndexFile ≠ restic_ConfigFile ∧ restic_SnapshotFile ≠ restic_ConfigFile ∧
    restic_LockFile ≠ restic_ConfigFile := by decide

private def idxOf (l : List String) (s : String) : Nat := l.findIdx (· == s)

/-- call order in `saveUnpacked`: compress, then seal, then verify, and only then the backend
`Save` (nothing unverified is stored) -/
theorem facts_save_order :
    idxOf saveUnpacked_calls "r.compressUnpacked" < idxOf saveUnpacked_calls "r.key.Seal" ∧
    idxOf saveUnpacked_calls "r.key.Seal" < idxOf saveUnpacked_calls "r.verifyUnpacked" ∧
    idxOf saveUnpacked_calls "r.verifyUnpacked" < idxOf saveUnpacked_calls "r.be.Save" ∧
    idxOf saveUnpacked_calls "r.be.Save" < saveUnpacked_calls.length := by decide +kernel

/-- call order in `LoadUnpacked`: raw load, decrypt, then decompress -/
theorem facts_load_order :
    idxOf LoadUnpacked_calls "r.LoadRaw" < idxOf LoadUnpacked_calls "r.key.Open" ∧
    idxOf LoadUnpacked_calls "r.key.Open" < idxOf LoadUnpacked_calls "r.decompressUnpacked" ∧
    idxOf LoadUnpacked_calls "r.decompressUnpacked" < LoadUnpacked_calls.length := by decide +kernel

/-- `verifyUnpacked` decrypts, decompresses and compares with the caller's bytes -/
theorem facts_verify_order :
    idxOf verifyUnpacked_calls "r.key.Open" < idxOf verifyUnpacked_calls "r.decompressUnpacked" ∧
    idxOf verifyUnpacked_calls "r.decompressUnpacked" < idxOf verifyUnpacked_calls "bytes.Equal" ∧
    idxOf verifyUnpacked_calls "bytes.Equal" < verifyUnpacked_calls.length := by decide +kernel

theorem openStored_append (c : Codec) (nonce ct : Bytes) (h : nonce.length = crypto_ivSize) :
    openStored c (nonce ++ ct) = match c.openB nonce ct with
      | none => .err .openFailed | some p => .ok p := by
  rw [openStored, splitAt?, if_neg (by rw [List.length_append]; omega), ← h, List.take_left, List.drop_left]
  rfl

theorem openStored_no_panic (c : Codec) (buf : Bytes) (h : crypto_ivSize ≤ buf.length) :
    openStored c buf ≠ .panic := by
  unfold openStored
  simp only [splitAt?, if_neg (Nat.not_lt.2 h)]
  cases c.openB (buf.take crypto_ivSize) (buf.drop crypto_ivSize) <;> simp

/-- the payload as it is sealed: compressed, except for the config file -/
def encoded (c : Codec) (v t : Nat) (buf : Bytes) : Bytes :=
  if t ≠ restic_ConfigFile then compressUnpacked c v buf else buf

/-- what `verifyUnpacked` and `LoadUnpacked` make of a decrypted file -/
def decoded (c : Codec) (v t : Nat) (p : Bytes) : Res Bytes :=
  if t ≠ restic_ConfigFile then decompressUnpacked c v p else .ok p

/-- the bytes `saveUnpacked` hands to `verifyUnpacked` and then to the backend -/
def ctOf (c : Codec) (v t : Nat) (nonce buf : Bytes) : Bytes :=
  nonce ++ c.sealB nonce (encoded c v t buf)

/-- for every repository version and every payload, including those that start with the version
byte, `[` or `{`, and the empty one -/
theorem decompress_compress (c : Codec) (hz : ∀ p, c.zdec (c.zenc p) = some p) (v : Nat) (p : Bytes) :
    decompressUnpacked c v (compressUnpacked c v p) = .ok p := by
  unfold decompressUnpacked compressUnpacked
  by_cases hv : v < unpacked_minCompressVersion
  · simp only [if_pos hv]
  · have hvb : (UInt8.ofNat unpacked_versionByte).toNat = unpacked_versionByte := by decide
    obtain ⟨-, h0, h1, -⟩ := facts_bytes
    simp only [if_neg hv, hvb, if_neg (not_or.2 ⟨h0, h1⟩), ne_eq, not_true_eq_false, if_false, hz]

theorem decoded_encoded (c : Codec) (hz : ∀ p, c.zdec (c.zenc p) = some p) (v t : Nat) (buf : Bytes) :
    decoded c v t (encoded c v t buf) = .ok buf := by
  unfold decoded encoded
  by_cases ht : t ≠ restic_ConfigFile
  · rw [if_pos ht, if_pos ht, decompress_compress c hz]
  · rw [if_neg ht, if_neg ht]

theorem decompressUnpacked_ne_panic (c : Codec) (v : Nat) (p : Bytes) : decompressUnpacked c v p ≠ .panic := by
  fun_cases decompressUnpacked c v p <;> nofun

theorem decoded_no_panic (c : Codec) (v t : Nat) (p : Bytes) : decoded c v t p ≠ .panic :=
  Proofs.ite_ne (fun _ => decompressUnpacked_ne_panic c v p) fun _ => nofun

theorem loadUnpacked_eq (c : Codec) (v t : Nat) (buf : Bytes) (hl : crypto_Extension ≤ buf.length) :
    loadUnpacked c v t buf =
      match openStored c buf with
      | .panic => .panic
      | .err e => .err e
      | .ok p => decoded c v t p := by
  rw [loadUnpacked, if_neg (Nat.not_lt.2 hl)]; rfl

theorem verifyUnpacked_eq (c : Codec) (v t : Nat) (nev : Bool) (stored buf p : Bytes)
    (ho : openStored c stored = .ok p) :
    verifyUnpacked c v t nev stored buf =
      if nev then .ok () else
      match decoded c v t p with
      | .panic => .panic
      | .err _ => .err .verifyDecompress
      | .ok q => if q = buf then .ok () else .err .verifyMismatch := by
  rw [verifyUnpacked, ho]; rfl

theorem saveUnpacked_eq (c : Codec) (v t : Nat) (nev : Bool) (nonce buf : Bytes) :
    saveUnpacked c v t nev nonce buf =
      match verifyUnpacked c v t nev (ctOf c v t nonce buf) buf with
      | .panic => .panic
      | .err e => .err e
      | .ok () => .ok (ctOf c v t nonce buf) := rfl

theorem verify_ok_iff (c : Codec) (v t : Nat) (stored buf : Bytes) :
    verifyUnpacked c v t false stored buf = .ok () ↔
      ∃ p, openStored c stored = .ok p ∧ decoded c v t p = .ok buf := by
  cases ho : openStored c stored with
  | panic => simp [verifyUnpacked, ho]
  | err e => simp [verifyUnpacked, ho]
  | ok p =>
    rw [verifyUnpacked_eq c v t false stored buf p ho, if_neg Bool.false_ne_true]
    cases hd : decoded c v t p with
    | panic => simp [hd]
    | err e => simp [hd]
    | ok q => by_cases hq : q = buf <;> simp [hd, hq]

theorem verify_no_panic (c : Codec) (v t : Nat) (nev : Bool) (stored buf : Bytes)
    (h : crypto_ivSize ≤ stored.length) : verifyUnpacked c v t nev stored buf ≠ .panic := by
  cases ho : openStored c stored with
  | panic => exact absurd ho (openStored_no_panic c stored h)
  | err e => rw [verifyUnpacked, ho]; exact Proofs.ite_ne (fun _ => nofun) fun _ => nofun
  | ok p =>
    rw [verifyUnpacked_eq c v t nev stored buf p ho]
    refine Proofs.ite_ne (fun _ => nofun) fun _ => ?_
    cases hd : decoded c v t p with
    | panic => exact absurd hd (decoded_no_panic c v t p)
    | err e => nofun
    | ok q => exact Proofs.ite_ne (fun _ => nofun) fun _ => nofun

theorem save_ok_iff (c : Codec) (v t : Nat) (nev : Bool) (nonce buf stored : Bytes) :
    saveUnpacked c v t nev nonce buf = .ok stored ↔
      verifyUnpacked c v t nev (ctOf c v t nonce buf) buf = .ok () ∧ stored = ctOf c v t nonce buf := by
  rw [saveUnpacked_eq]
  cases verifyUnpacked c v t nev (ctOf c v t nonce buf) buf with
  | panic => exact ⟨nofun, nofun⟩
  | err e => exact ⟨nofun, nofun⟩
  | ok u => exact ⟨fun h => ⟨rfl, (Res.ok.inj h).symm⟩, fun h => h.2 ▸ rfl⟩

/-- For every repository version, file type, payload and nonce of the right size,
`saveUnpacked` succeeds and `LoadUnpacked` of the stored bytes returns exactly the payload. -/
theorem roundtrip (c : Codec) (hc : Codec.Lawful c) (v t : Nat) (nev : Bool) (nonce buf : Bytes)
    (hn : nonce.length = crypto_ivSize) :
    ∃ stored, saveUnpacked c v t nev nonce buf = .ok stored ∧ loadUnpacked c v t stored = .ok buf := by
  have hopen : openStored c (ctOf c v t nonce buf) = .ok (encoded c v t buf) := by
    rw [ctOf, openStored_append c nonce _ hn, hc.open_seal nonce _ hn]
  have hdec := decoded_encoded c hc.zdec_zenc v t buf
  refine ⟨_, (save_ok_iff ..).2 ⟨?_, rfl⟩, ?_⟩
  · cases nev
    · exact (verify_ok_iff ..).2 ⟨_, hopen, hdec⟩
    · rfl
  · have hl : crypto_Extension ≤ (ctOf c v t nonce buf).length := by
      rw [ctOf, List.length_append, hc.seal_len, hn, facts_extension]; omega
    rw [loadUnpacked_eq c v t _ hl, hopen]
    exact hdec

/-- **Nothing unverified is stored** (no law about zstd or the cipher needed): whenever
`saveUnpacked` with the extra verification returns bytes to store, loading those bytes returns the
payload — for *any* behaviour of the primitives, as long as the stored file is not shorter than
`crypto_Extension` (true of every real ciphertext). -/
theorem save_ok_load (c : Codec) (v t : Nat) (nonce buf stored : Bytes)
    (hs : saveUnpacked c v t false nonce buf = .ok stored) (hl : crypto_Extension ≤ stored.length) :
    loadUnpacked c v t stored = .ok buf := by
  obtain ⟨hv, hst⟩ := (save_ok_iff c v t false nonce buf stored).1 hs
  obtain ⟨p, ho, hd⟩ := (verify_ok_iff ..).1 (hst ▸ hv)
  rw [loadUnpacked_eq c v t stored hl, ho]
  exact hd

/-- What restic stores for a non-config file in a repository that compresses is
the version byte followed by the zstd stream — so the legacy "raw JSON" branch of
`decompressUnpacked` is never taken for data restic wrote, whatever the payload starts with. -/
theorem stored_form (c : Codec) (hc : Codec.Lawful c) (v t : Nat) (nev : Bool) (nonce buf stored : Bytes)
    (hn : nonce.length = crypto_ivSize) (ht : t ≠ restic_ConfigFile) (hv : ¬ v < unpacked_minCompressVersion)
    (hs : saveUnpacked c v t nev nonce buf = .ok stored) :
    openStored c stored = .ok (UInt8.ofNat unpacked_versionByte :: c.zenc buf) := by
  obtain ⟨_, hst⟩ := (save_ok_iff c v t nev nonce buf stored).1 hs
  rw [hst, ctOf, openStored_append c nonce _ hn, hc.open_seal nonce _ hn, encoded, if_pos ht,
    compressUnpacked, if_neg hv]

/-- The config file is stored as `nonce ‖ seal(payload)` without any
compression or version byte, in every repository version. -/
theorem config_raw (c : Codec) (v : Nat) (nev : Bool) (nonce buf stored : Bytes)
    (hs : saveUnpacked c v restic_ConfigFile nev nonce buf = .ok stored) :
    stored = nonce ++ c.sealB nonce buf := by
  obtain ⟨_, hst⟩ := (save_ok_iff c v restic_ConfigFile nev nonce buf stored).1 hs
  rw [hst, ctOf, encoded, if_neg (Decidable.not_not.2 rfl)]

/-- and loading the config never looks at the first byte: it returns the decrypted bytes as is -/
theorem config_load_raw (c : Codec) (v : Nat) (stored : Bytes) (hl : crypto_Extension ≤ stored.length) :
    loadUnpacked c v restic_ConfigFile stored = openStored c stored := by
  rw [loadUnpacked_eq c v _ stored hl]
  cases openStored c stored <;> rfl

/-- **Unknown encoding versions are rejected** (pure part): in a repository that compresses, bytes
starting with anything but the version byte or the two legacy bytes do not decode. -/
theorem decompress_unknown_rejected (c : Codec) (v : Nat) (b : UInt8) (rest : Bytes)
    (hv : ¬ v < unpacked_minCompressVersion)
    (hb : b.toNat ≠ unpacked_versionByte ∧ b.toNat ≠ unpacked_rawByte0 ∧ b.toNat ≠ unpacked_rawByte1) :
    decompressUnpacked c v (b :: rest) = .err .unsupported := by
  unfold decompressUnpacked
  simp only [if_neg hv, if_neg (not_or.2 hb.2), if_pos hb.1]

/-- … and so `LoadUnpacked` of any stored non-config file whose decrypted content starts with such
a byte fails with "not supported encoding format" — for every behaviour of the primitives. -/
theorem unknown_version_rejected (c : Codec) (v t : Nat) (stored : Bytes) (b : UInt8) (rest : Bytes)
    (hv : ¬ v < unpacked_minCompressVersion) (ht : t ≠ restic_ConfigFile)
    (hl : crypto_Extension ≤ stored.length)
    (ho : openStored c stored = .ok (b :: rest))
    (hb : b.toNat ≠ unpacked_versionByte ∧ b.toNat ≠ unpacked_rawByte0 ∧ b.toNat ≠ unpacked_rawByte1) :
    loadUnpacked c v t stored = .err .unsupported := by
  rw [loadUnpacked_eq c v t stored hl, ho]
  exact (if_pos ht).trans (decompress_unknown_rejected c v b rest hv hb)

/-- **No panic on load**: `LoadUnpacked` never slices out of range, whatever bytes the backend
returned and however the primitives behave. -/
theorem load_no_panic (c : Codec) (v t : Nat) (buf : Bytes) : loadUnpacked c v t buf ≠ .panic := by
  by_cases hl : buf.length < crypto_Extension
  · rw [loadUnpacked, if_pos hl]; nofun
  · rw [loadUnpacked_eq c v t buf (Nat.not_lt.1 hl)]
    have hext := facts_extension
    cases ho : openStored c buf with
    | panic => exact absurd ho (openStored_no_panic c buf (by omega))
    | err e => nofun
    | ok p => exact decoded_no_panic c v t p

/-- **No panic on save** for a nonce of the right size. -/
theorem save_no_panic (c : Codec) (v t : Nat) (nev : Bool) (nonce buf : Bytes)
    (hn : nonce.length = crypto_ivSize) : saveUnpacked c v t nev nonce buf ≠ .panic := by
  rw [saveUnpacked_eq]
  cases hvv : verifyUnpacked c v t nev (ctOf c v t nonce buf) buf with
  | panic => exact absurd hvv (verify_no_panic c v t nev _ buf (by rw [ctOf, List.length_append]; omega))
  | err e => nofun
  | ok u => nofun

theorem roundtrip_spec (c : Codec) (hc : Codec.Lawful c) (v t : Nat) (nev : Bool) (nonce buf : Bytes)
    (hn : nonce.length = crypto_ivSize) :
    ∃ stored, saveUnpacked c v t nev nonce buf = .ok stored ∧
      specRoundTrip t buf true (c.openB (stored.take crypto_ivSize) (stored.drop crypto_ivSize))
        (loadUnpacked c v t stored) = true := by
  obtain ⟨stored, hs, hl⟩ := roundtrip c hc v t nev nonce buf hn
  refine ⟨stored, hs, ?_⟩
  unfold specRoundTrip
  by_cases ht : t = restic_ConfigFile
  · subst ht
    rw [config_raw c v nev nonce buf stored hs] at hl ⊢
    rw [hl, ← hn, List.take_left, List.drop_left, hc.open_seal nonce buf hn]
    simp only [Bool.not_true, Bool.false_or, bne_self_eq_false, beq_self_eq_true, Bool.and_self]
  · simp only [hl, Bool.not_true, Bool.false_or, beq_self_eq_true, Bool.true_and, Bool.or_eq_true, bne_iff_ne]
    exact .inl ht

theorem reject_spec (c : Codec) (v t : Nat) (stored plain : Bytes)
    (ho : openStored c stored = .ok plain) :
    specReject v t plain (loadUnpacked c v t stored) = true := by
  unfold specReject
  match plain with
  | [] => rfl
  | b :: rest =>
    simp only
    by_cases h1 : v < unpacked_minCompressVersion ∨ t = restic_ConfigFile
    · rw [if_pos h1]
    by_cases h2 : b.toNat = unpacked_rawByte0 ∨ b.toNat = unpacked_rawByte1 ∨ b.toNat = unpacked_versionByte
    · rw [if_neg h1, if_pos h2]
    rw [if_neg h1, if_neg h2]
    by_cases hl : stored.length < crypto_Extension
    · rw [loadUnpacked, if_pos hl]
    · rw [unknown_version_rejected c v t stored b rest (fun h => h1 (.inl h)) (fun h => h1 (.inr h))
        (Nat.not_lt.1 hl) ho ⟨fun h => h2 (.inr (.inr h)), fun h => h2 (.inl h), fun h => h2 (.inr (.inl h))⟩]

/-- a toy codec satisfying the laws: "encryption" appends 16 zero bytes, "zstd" is the identity -/
def toyCodec : Codec where
  sealB := fun _ p => p ++ List.replicate crypto_macSize 0
  openB := fun _ ct => if crypto_macSize ≤ ct.length then some (ct.take (ct.length - crypto_macSize)) else none
  zenc := fun p => p
  zdec := fun p => some p

theorem toyCodec_lawful : Codec.Lawful toyCodec where
  open_seal := by
    intro n p _
    simp [toyCodec]
  seal_len := by intro n p; simp [toyCodec]
  zdec_zenc := by intro p; rfl

/-- the hypotheses of `roundtrip` are satisfiable -/
example : ∃ c : Codec, Codec.Lawful c := ⟨toyCodec, toyCodec_lawful⟩

/-- a payload that starts with the version byte, stored in a version-2 repository as an
index file, comes back unchanged -/
example : loadUnpacked toyCodec 2 restic_IndexFile
    ((saveUnpacked toyCodec 2 restic_IndexFile false (List.replicate 16 1) [2, 91, 123]).rec
      (fun s => s) (fun _ => []) []) = .ok [2, 91, 123] := by decide +kernel

/-- in a version-2 repository a stored lock file whose content starts with byte 3 is rejected -/
example : loadUnpacked toyCodec 2 restic_LockFile
    (List.replicate 16 1 ++ toyCodec.sealB [] [3, 1, 2]) = .err .unsupported := by decide +kernel

/-- the same bytes are returned as they are from a version-1 repository -/
example : loadUnpacked toyCodec 1 restic_LockFile
    (List.replicate 16 1 ++ toyCodec.sealB [] [3, 1, 2]) = .ok [3, 1, 2] := by decide +kernel

end Restic.Props.C07
