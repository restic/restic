import Restic.Model.Parse
import Restic.Proofs.C49_Strconv
import Restic.Gen.Source
import Restic.Gen.Consts
/-!
# C49 — User-supplied durations, sizes and counts parse totally and exactly

One section per parser of `Model/Parse.lean`. `_ok_iff`: which strings are accepted and with what value,
in terms of what the string denotes (`sizeDenotes`, `tokenize`/`denote`, `Consistent`, `numeral`,
`flagDenotes`) and not of how the Go code computes it; `_no_panic`/`_total`: no input panics; `_specOK`:
the transcription meets the executable specification which the driver evaluates on the outputs of the
real code.

For durations the specification's tokeniser is itself tied to the documented grammar
`(-?digits unit)*` by rendering items and reading them back (`tokenize_renderAll`,
`duration_complete`); the same lemmas give the print/parse round trip of `Duration.String`.
The two defects found (the panic in `nextNumber`, `NaN%` accepted by `check`) are kept in the model
behind a `legacy` flag and witnessed by `legacy_duration_panics` and `legacy_nan_accepted`.
-/
namespace Restic.Props.C49
open Restic.Model.Parse Restic.Model.Strconv Restic.Proofs.Strconv

/-! ## byte sizes (`ui.ParseBytes`) -/

theorem unitOf_pos (c : UInt8) : ∀ u, unitOf c = some u → 1 ≤ u := by
  have pos : ∀ k, 1 ≤ k → ∀ u, some k = some u → 1 ≤ u := fun k hk u h => Option.some.inj h ▸ hk
  unfold unitOf
  repeat refine iteInduction (motive := fun r => ∀ u, r = some u → 1 ≤ u) (fun _ => pos _ (by decide)) fun _ => ?_
  nofun

/-- splitting a product into a high and a low word and testing `hi ≠ 0`, `lo ≥ H` is the test `p < H` -/
theorem hiLo_eq (p H T : Nat) (hHT : H ≤ T) (hT : 0 < T) (e : Out Int) :
    (if p / T ≠ 0 then e else if p % T ≥ H then e else .ok ((p % T : Nat) : Int)) = if p < H then .ok (p : Int) else e := by
  by_cases hpT : p < T
  · rw [Nat.div_eq_of_lt hpT, Nat.mod_eq_of_lt hpT, if_neg fun h => h rfl]
    by_cases hp : p < H
    · rw [if_neg (Nat.not_le.mpr hp), if_pos hp]
    · rw [if_pos (Nat.not_lt.mp hp), if_neg hp]
  · rw [if_pos (Nat.ne_of_gt (Nat.div_pos (Nat.not_lt.mp hpT) hT)), if_neg fun h => hpT (Nat.lt_of_lt_of_le h hHT)]

/-- the 64×64→128 multiply with the `hi != 0 || value < 0` test is the range test on the
    mathematical product, whatever the unit -/
theorem mul64Check_eq (value : Int) (unit : Nat) (hv1 : -9223372036854775808 ≤ value) (hv2 : value < 9223372036854775808) :
    mul64Check value unit =
      if 0 ≤ value * unit ∧ value * unit < 9223372036854775808 then .ok (value * unit) else .err .range := by
  -- `uint64(value) * unit` is the product itself, or (negative value, unit ≥ 1) at least 2^63
  have key : (((value % (two64 : Int)).toNat * unit : Nat) : Int) = value * unit ∨
      (two63 ≤ (value % (two64 : Int)).toNat * unit ∧ value * unit < 0) := by
    unfold two64 two63
    by_cases h0 : 0 ≤ value
    · left; rw [Int.natCast_mul]; congr 1; omega
    · cases unit with
      | zero => left; simp
      | succ u =>
        right
        exact ⟨Nat.le_trans (by omega) (Nat.le_mul_of_pos_right _ (Nat.succ_pos u)),
          Int.mul_neg_of_neg_of_pos (Int.not_le.mp h0) (Int.natCast_pos.mpr (Nat.succ_pos u))⟩
  rw [mul64Check, hiLo_eq _ two63 two64 (by decide) (by decide)]
  generalize (value % (two64 : Int)).toNat * unit = p at key ⊢
  generalize value * (unit : Int) = P at key ⊢
  unfold two63 at *
  by_cases hp : p < 9223372036854775808
  · have hP : (p : Int) = P := by omega
    rw [if_pos hp, hP, if_pos (by omega)]
  · rw [if_neg hp, if_neg (by omega)]

theorem mul64Check_ok_iff (value : Int) (unit : Nat) (hv1 : -9223372036854775808 ≤ value) (hv2 : value < 9223372036854775808)
    (v : Int) : mul64Check value unit = .ok v ↔ (v = value * unit ∧ 0 ≤ v ∧ v < 9223372036854775808) := by
  rw [mul64Check_eq value unit hv1 hv2]
  by_cases h : 0 ≤ value * unit ∧ value * unit < 9223372036854775808
  · rw [if_pos h]; exact ⟨fun e => (by cases e; exact ⟨rfl, h⟩), fun ⟨e, _⟩ => by rw [e]⟩
  · rw [if_neg h]; exact ⟨nofun, fun ⟨e, h0, h1⟩ => absurd (e ▸ And.intro h0 h1) h⟩

theorem bounds_of_mul (x : Int) (u : Nat) (B : Int) (hu : 1 ≤ u) (h0 : 0 ≤ x * u) (h1 : x * u < B) :
    0 ≤ x ∧ x < B := by
  obtain ⟨k, rfl⟩ : ∃ k, u = k + 1 := ⟨u - 1, by omega⟩
  rw [Int.natCast_succ, Int.mul_add, Int.mul_one] at h0 h1
  rcases Int.lt_or_le x 0 with hn | hx
  · have := Int.mul_nonpos_of_nonpos_of_nonneg (Int.le_of_lt hn) (Int.natCast_nonneg k); omega
  · have := Int.mul_nonneg hx (Int.natCast_nonneg k); omega

/-- `ParseBytes` after the unit suffix is cut off: `ParseInt` on the number, then the checked multiply -/
theorem parseBytes_core (numStr : Str) (unit : Nat) (hunit : 1 ≤ unit) (v : Int) :
    (match parseInt 64 numStr with
      | .error e => Out.err (ofNumErr e)
      | .ok value => mul64Check value unit) = .ok v ↔
    ((signedDec numStr).map (· * (unit : Int)) = some v ∧ 0 ≤ v ∧ v < 9223372036854775808) := by
  cases hp : parseInt 64 numStr with
  | error e =>
    refine ⟨nofun, fun ⟨h1, h2, h3⟩ => ?_⟩
    obtain ⟨x, hx, rfl⟩ := Option.map_eq_some_iff.mp h1
    -- the product is in range, so the number is: `ParseInt` cannot have failed
    have := bounds_of_mul _ unit _ hunit h2 h3
    exact absurd ⟨by omega, this.2⟩ (parseInt64_error hp hx)
  | ok value =>
    obtain ⟨h1, h4, h5⟩ := (parseInt64_ok_iff numStr value).mp hp
    rw [h1, Option.map_some, Option.some.injEq, eq_comm (a := value * (unit : Int))]
    exact mul64Check_ok_iff value unit h4 h5 v

/-- **sizes are exact**: `ParseBytes` accepts exactly the strings `[+-]digits[unit]` whose value times
    the unit lies in `[0, 2^63)`, and returns that product -/
theorem parseBytes_ok_iff (s : Str) (v : Int) :
    parseBytes s = .ok v ↔ sizeDenotes s = some v ∧ 0 ≤ v ∧ v < 9223372036854775808 := by
  unfold parseBytes sizeDenotes
  cases hl : s.getLast? with
  | none => simp
  | some last =>
    cases hu : unitOf last with
    | none => simp only [hu]; rw [signedDec_map s (· * _)]; exact parseBytes_core s 1 (Nat.le_refl 1) v
    | some u => simp only [hu]; rw [signedDec_map _ (· * _)]; exact parseBytes_core s.dropLast u (unitOf_pos last u hu) v

theorem decide_and_false {p q : Prop} [Decidable p] [Decidable q] (h : ¬ (p ∧ q)) :
    (decide p && decide q) = false := by
  simpa using h

theorem mul64Check_no_panic (v : Int) (u : Nat) : mul64Check v u ≠ .panic := by
  rw [mul64Check, hiLo_eq _ two63 two64 (by decide) (by decide)]
  split <;> nofun

theorem parseBytes_no_panic (s : Str) : parseBytes s ≠ .panic := by
  unfold parseBytes
  split
  · nofun
  · simp only
    split
    · nofun
    · exact mul64Check_no_panic _ _

theorem parseBytes_err (s : Str) (e : PErr) (x : Int) (hr : parseBytes s = .err e) (hd : sizeDenotes s = some x) :
    ¬ (0 ≤ x ∧ x < 9223372036854775808) := fun h => by
  have := (parseBytes_ok_iff s x).mpr ⟨hd, h⟩
  rw [hr] at this; cases this

theorem parseBytes_specOK (s : Str) : specBytes s (parseBytes s) = true := by
  unfold specBytes
  cases hr : parseBytes s with
  | panic => exact absurd hr (parseBytes_no_panic s)
  | ok v =>
    obtain ⟨h1, h2, h3⟩ := (parseBytes_ok_iff s v).mp hr
    simp [h1, h2, h3, two63]
  | err e =>
    cases hd : sizeDenotes s with
    | none => rfl
    | some x =>
      rw [Bool.not_eq_true']
      exact decide_and_false (parseBytes_err s e x hr hd)


/-! ## forget policy counts (`ForgetPolicyCount.Set`) -/

/-- **counts are exact**: accepted are exactly "unlimited" (→ -1) and `[+-]digits` with a value in
    `[0, 2^63)` (→ that value) -/
theorem policyCount_ok_iff (s : Str) (v : Int) :
    policyCountSet s = .ok v ↔
      (s = unlimited ∧ v = -1) ∨
      (s ≠ unlimited ∧ signedDec s = some v ∧ 0 ≤ v ∧ v < 9223372036854775808) := by
  unfold policyCountSet
  by_cases hu : s = unlimited
  · simp only [hu, if_true, true_and, ne_eq, not_true_eq_false, false_and, or_false]
    exact ⟨fun h => (by cases h; rfl), fun h => by rw [h]⟩
  · simp only [hu, if_false, false_and, false_or, ne_eq, not_false_eq_true, true_and]
    cases hp : parseInt 64 s with
    | error e =>
      exact ⟨nofun, fun ⟨h1, h4, h5⟩ => absurd ⟨by omega, h5⟩ (parseInt64_error hp h1)⟩
    | ok x =>
      obtain ⟨h1, h4, h5⟩ := (parseInt64_ok_iff s x).mp hp
      show (if x < 0 then Out.err PErr.negative else Out.ok x) = Out.ok v ↔ _
      rw [h1, Option.some.injEq]
      by_cases hx : x < 0
      · rw [if_pos hx]; exact ⟨nofun, fun ⟨h1', h4', _⟩ => by omega⟩
      · rw [if_neg hx]
        exact ⟨fun h => (by cases h; exact ⟨rfl, by omega, h5⟩), fun ⟨h1', _, _⟩ => by rw [h1']⟩

theorem policyCount_no_panic (s : Str) : policyCountSet s ≠ .panic := by
  unfold policyCountSet
  split
  · nofun
  · split
    · nofun
    · split <;> nofun

theorem unlimited_not_numeral : ¬ ((splitSign unlimited).2 ≠ [] ∧ allDigits (splitSign unlimited).2 = true) := by decide

theorem policyCount_specOK (s : Str) : specCount s (policyCountSet s) = true := by
  unfold specCount
  cases hr : policyCountSet s with
  | panic => exact absurd hr (policyCount_no_panic s)
  | ok v =>
    rcases (policyCount_ok_iff s v).mp hr with ⟨h1, h2⟩ | ⟨h1, hd, h5, h6⟩
    · subst h1 h2; decide
    · unfold signedDec at hd
      simp [h1, hd, two63, h5, h6]
  | err e =>
    have hu : s ≠ unlimited := fun hu => nomatch hr.symm.trans ((policyCount_ok_iff s (-1)).mpr (.inl ⟨hu, rfl⟩))
    simp only [hu, if_false]
    cases hd : signedDec s with
    | some x =>
      unfold signedDec at hd
      rw [hd]
      dsimp only
      rw [bne_iff_ne.mpr hu, Bool.true_and, Bool.not_eq_true']
      exact decide_and_false fun h => nomatch hr.symm.trans ((policyCount_ok_iff s _).mpr (.inr ⟨hu, hd, h⟩))
    | none => unfold signedDec at hd; rw [hd]


/-! ## durations (`data.ParseDuration`, `Duration.String`) -/

theorem splitMinus_length (s : Str) : (splitMinus s).2.length ≤ s.length := by
  unfold splitMinus; split <;> simp

theorem digits_head_not_sign (ds : Str) (h1 : ds ≠ []) (h2 : allDigits ds = true) : splitSign ds = (false, ds) := by
  cases ds with
  | nil => exact absurd rfl h1
  | cons c cs =>
    have hc := (isDigit_iff c).mp ((List.all_eq_true.mp h2) c (List.mem_cons_self ..))
    unfold splitSign
    split
    · rename_i heq; cases heq; simp at hc
    · rename_i heq; cases heq; simp at hc
    · rfl

theorem atoi_digits (ds : Str) (h1 : ds ≠ []) (h2 : allDigits ds = true) :
    (decVal ds < two63 → atoi ds = .ok (decVal ds : Int)) ∧
    (¬ decVal ds < two63 → ∃ e, atoi ds = .error e) := by
  have hs : signedDec ds = some (decVal ds : Int) := by
    rw [signedDec, digits_head_not_sign ds h1 h2]; exact if_pos ⟨h1, h2⟩
  unfold atoi two63
  constructor
  · intro hlt
    exact (parseInt64_ok_iff ds _).mpr ⟨hs, by omega, by omega⟩
  · intro hge
    cases hp : parseInt 64 ds with
    | error e => exact ⟨e, rfl⟩
    | ok v =>
      obtain ⟨h3, _, h5⟩ := (parseInt64_ok_iff ds v).mp hp
      cases hs.symm.trans h3
      omega

theorem Item.valid_iff (i : Item) : i.valid = true ↔
    (i.digits ≠ [] ∧ allDigits i.digits = true ∧ decVal i.digits < two63) ∧
    (i.unit = 121 ∨ i.unit = 109 ∨ i.unit = 100 ∨ i.unit = 104) := by
  simp [Item.valid, and_assoc, or_assoc]

/-- the unit switch of `ParseDuration`, applied to the number `nextNumber` returns, stores it where
    `Duration.assign` stores the item's value -/
theorem unitSwitch_eq (k : Duration → Out Duration) (d : Duration) (neg : Bool) (ds : Str) (u : UInt8) :
    (if u = 121 then k { d with years := if neg then -(decVal ds : Int) else decVal ds }
     else if u = 109 then k { d with months := if neg then -(decVal ds : Int) else decVal ds }
     else if u = 100 then k { d with days := if neg then -(decVal ds : Int) else decVal ds }
     else if u = 104 then k { d with hours := if neg then -(decVal ds : Int) else decVal ds }
     else .err .invalidUnit) =
    if u = 121 ∨ u = 109 ∨ u = 100 ∨ u = 104 then k (d.assign ⟨neg, ds, u⟩) else .err .invalidUnit := by
  unfold Duration.assign Item.value
  by_cases h1 : u = 121; · rw [if_pos h1, if_pos (Or.inl h1), if_pos h1]
  by_cases h2 : u = 109; · rw [if_neg h1, if_pos h2, if_pos (Or.inr (Or.inl h2)), if_neg h1, if_pos h2]
  by_cases h3 : u = 100
  · rw [if_neg h1, if_neg h2, if_pos h3, if_pos (Or.inr (Or.inr (Or.inl h3))), if_neg h1, if_neg h2, if_pos h3]
  by_cases h4 : u = 104
  · rw [if_neg h1, if_neg h2, if_neg h3, if_pos h4, if_pos (Or.inr (Or.inr (Or.inr h4))), if_neg h1, if_neg h2,
      if_neg h3, if_pos h4]
  · rw [if_neg h1, if_neg h2, if_neg h3, if_neg h4, if_neg fun h => h.elim h1 fun h => h.elim h2 fun h => h.elim h3 h4]

/-- the first `number unit` item of a string and what follows it, as `nextNumber` and the
    tokeniser both read it: optional '-', the longest run of digits, one more character -/
def headItem (s : Str) : Option (Item × Str) :=
  match (splitMinus s).2.dropWhile isDigit with
  | [] => none
  | u :: rest => some (⟨(splitMinus s).1, (splitMinus s).2.takeWhile isDigit, u⟩, rest)

theorem headItem_length (s : Str) (i : Item) (rest : Str) (h : headItem s = some (i, rest)) : rest.length < s.length := by
  unfold headItem at h
  have h1 := splitMinus_length s
  have h2 : ((splitMinus s).2.dropWhile isDigit).length ≤ (splitMinus s).2.length := (List.dropWhile_sublist _).length_le
  cases heq : (splitMinus s).2.dropWhile isDigit with
  | nil => rw [heq] at h; cases h
  | cons u r => rw [heq] at h; cases h; rw [heq, List.length_cons] at h2; omega

theorem tokenize_succ (fuel : Nat) (s : Str) (hs : s ≠ []) :
    tokenize (fuel + 1) s = match headItem s with
      | none => none
      | some (i, rest) => (tokenize fuel rest).map (i :: ·) := by
  rw [tokenize, if_neg hs]
  unfold headItem
  simp only
  cases (splitMinus s).2.dropWhile isDigit with
  | nil => rfl
  | cons u rest => simp only; cases tokenize fuel rest <;> rfl

/-- the loop steps by `headItem` as the tokeniser does (`tokenize_succ`); `∃ e`: the specification leaves
    open which error a bad item gives -/
theorem durLoop_succ (fuel : Nat) (d : Duration) (s : Str) (hs : s ≠ []) :
    ∃ e, parseDurationLoop false (fuel + 1) d s =
      match headItem s with
      | none => .err e
      | some (i, rest) => if i.valid = true then parseDurationLoop false fuel (d.assign i) rest else .err e := by
  rw [parseDurationLoop, if_neg hs]
  unfold headItem nextNumber
  rw [if_neg hs]
  simp only
  generalize splitMinus s = p
  obtain ⟨neg, r⟩ := p
  have hall : allDigits (r.takeWhile isDigit) = true := List.all_takeWhile
  generalize r.takeWhile isDigit = ds at hall ⊢
  generalize r.dropWhile isDigit = rest
  by_cases hde : ds = []
  · rw [if_pos hde]
    cases rest with
    | nil => exact ⟨_, rfl⟩
    | cons u s'' => simp only [Item.valid_iff, hde, ne_eq, not_true_eq_false, false_and, if_false]; exact ⟨_, rfl⟩
  · rw [if_neg hde]
    obtain ⟨hok, herr⟩ := atoi_digits ds hde hall
    by_cases hfit : decVal ds < two63
    · rw [hok hfit]
      cases rest with
      | nil => exact ⟨_, rfl⟩
      | cons u s'' =>
        simp only [Item.valid_iff, hde, hall, hfit, ne_eq, not_false_eq_true, and_self, true_and]
        rw [unitSwitch_eq (fun d' => parseDurationLoop false fuel d' s'') d neg ds u]
        exact ⟨_, rfl⟩
    · obtain ⟨e, he⟩ := herr hfit
      rw [he]
      cases rest with
      | nil => exact ⟨_, rfl⟩
      | cons u s'' => simp only [Item.valid_iff, hfit, and_false, false_and, if_false]; exact ⟨_, rfl⟩

/-- the loop computes what the tokenised string denotes; `s.length < fuel` keeps out the `.panic` of
    exhausted fuel -/
theorem durLoop_spec (fuel : Nat) : ∀ (d : Duration) (s : Str), s.length < fuel →
    ∃ e, parseDurationLoop false fuel d s =
      match tokenize fuel s with
      | some items => if items.all Item.valid = true then .ok (items.foldl Duration.assign d) else .err e
      | none => .err e := by
  induction fuel with
  | zero => intro d s h; omega
  | succ fuel ih =>
    intro d s hlen
    by_cases hs : s = []
    · subst hs; exact ⟨.noUnit, rfl⟩
    · obtain ⟨e, he⟩ := durLoop_succ fuel d s hs
      rw [he, tokenize_succ fuel s hs]
      cases hh : headItem s with
      | none => exact ⟨e, rfl⟩
      | some p =>
        obtain ⟨i, rest⟩ := p
        obtain ⟨e', ih'⟩ := ih (d.assign i) rest (by have := headItem_length s i rest hh; omega)
        simp only
        cases hv : i.valid with
        | false => exact ⟨e, by cases tokenize fuel rest <;> simp [hv]⟩
        | true => rw [if_pos rfl, ih']; exact ⟨e', by cases tokenize fuel rest <;> simp [hv]⟩

theorem duration_ok_iff (s : Str) (d : Duration) :
    parseDuration false s = .ok d ↔
      ∃ items, tokenize ((trimSpace s).length + 1) (trimSpace s) = some items ∧
        items.all Item.valid = true ∧ d = denote items := by
  obtain ⟨e, h⟩ := durLoop_spec ((trimSpace s).length + 1) Duration.zero (trimSpace s) (by omega)
  unfold parseDuration denote
  simp only [h]
  cases tokenize ((trimSpace s).length + 1) (trimSpace s) with
  | none => exact ⟨nofun, fun ⟨_, h, _⟩ => nomatch h⟩
  | some items =>
    simp only
    by_cases hv : items.all Item.valid = true
    · rw [if_pos hv]
      exact ⟨fun e => ⟨items, rfl, hv, (Out.ok.inj e).symm⟩, fun ⟨_, e, _, hd⟩ => by cases e; rw [hd]⟩
    · rw [if_neg hv]
      exact ⟨nofun, fun ⟨_, e, hv', _⟩ => by cases e; exact absurd hv' hv⟩

/-- **no input crashes the duration parser** (the code after the fix of F1) -/
theorem duration_total (s : Str) : parseDuration false s ≠ .panic := by
  obtain ⟨e, h⟩ := durLoop_spec ((trimSpace s).length + 1) Duration.zero (trimSpace s) (by omega)
  unfold parseDuration
  simp only [h]
  cases tokenize ((trimSpace s).length + 1) (trimSpace s) with
  | none => nofun
  | some items => simp only; split <;> nofun

theorem duration_specOK (s : Str) : specDuration s (parseDuration false s) = true := by
  unfold specDuration
  simp only
  cases hr : parseDuration false s with
  | panic => exact absurd hr (duration_total s)
  | ok d =>
    obtain ⟨items, h1, h2, h3⟩ := (duration_ok_iff s d).mp hr
    simp only [h1, h2, h3, Bool.true_and, beq_self_eq_true]
  | err e =>
    cases ht : tokenize ((trimSpace s).length + 1) (trimSpace s) with
    | none => rfl
    | some items =>
      simp only
      cases hv : items.all Item.valid with
      | false => rfl
      | true => exact nomatch hr.symm.trans ((duration_ok_iff s _).mpr ⟨items, ht, hv, rfl⟩)

/-- F1 on the code before the fix: a number beyond the `int` range makes `nextNumber` panic -/
theorem legacy_duration_panics :
    parseDuration true [57,57,57,57,57,57,57,57,57,57,57,57,57,57,57,57,57,57,57,57,100] = .panic := by decide

/-- the same input is rejected with an error by the fixed code -/
theorem fixed_duration_rejects :
    parseDuration false [57,57,57,57,57,57,57,57,57,57,57,57,57,57,57,57,57,57,57,57,100] = .err .range := by decide

def renderAll (items : List Item) : Str := items.flatMap Item.render

def wfItem (i : Item) : Prop := i.digits ≠ [] ∧ allDigits i.digits = true ∧ isDigit i.unit = false

theorem valid_wf (i : Item) (h : i.valid = true) : wfItem i := by
  obtain ⟨⟨h1, h2, _⟩, hu⟩ := (Item.valid_iff i).mp h
  refine ⟨h1, h2, ?_⟩
  rcases hu with h' | h' | h' | h' <;> rw [h'] <;> decide

theorem renderAll_cons (i : Item) (is : List Item) : renderAll (i :: is) = i.render ++ renderAll is :=
  List.flatMap_cons

theorem renderAll_append (a b : List Item) : renderAll (a ++ b) = renderAll a ++ renderAll b :=
  List.flatMap_append

theorem headItem_render (i : Item) (t : Str) (h : wfItem i) : headItem (i.render ++ t) = some (i, t) := by
  obtain ⟨h1, h2, h3⟩ := h
  have hall := List.all_eq_true.mp h2
  have hsm : splitMinus (i.render ++ t) = (i.neg, i.digits ++ i.unit :: t) := by
    unfold Item.render
    cases i.neg with
    | true => simp [splitMinus]
    | false =>
      cases hd : i.digits with
      | nil => exact absurd hd h1
      | cons c cs =>
        -- the first digit is not '-'
        have hc := (isDigit_iff c).mp (hall c (hd ▸ List.mem_cons_self ..))
        unfold splitMinus
        split
        · rename_i heq; cases heq; simp at hc
        · simp
  unfold headItem
  rw [hsm]
  rw [List.dropWhile_append_of_pos hall, List.dropWhile_cons_of_neg (by simp [h3]),
    List.takeWhile_append_of_pos hall, List.takeWhile_cons_of_neg (by simp [h3]), List.append_nil]

/-- the tokeniser of the specification inverts rendering: `specDuration` really speaks about the
    documented form `(-?digits unit)*` -/
theorem tokenize_renderAll (items : List Item) (h : ∀ i ∈ items, wfItem i) :
    ∀ fuel, (renderAll items).length < fuel → tokenize fuel (renderAll items) = some items := by
  induction items with
  | nil =>
    intro fuel hf
    cases fuel with
    | zero => omega
    | succ f => rfl
  | cons i is ih =>
    intro fuel hf
    cases fuel with
    | zero => omega
    | succ f =>
      rw [renderAll_cons] at hf ⊢
      have hne : i.render ++ renderAll is ≠ [] := by simp [Item.render]
      have hh := headItem_render i (renderAll is) (h i (List.mem_cons_self ..))
      have hlen := headItem_length _ _ _ hh
      rw [tokenize_succ f _ hne, hh]
      simp only
      rw [ih (fun j hj => h j (List.mem_cons_of_mem _ hj)) f (by omega)]
      rfl

theorem trimSpace_id (s : Str) (hh : ∀ c, s.head? = some c → isSpace c = false)
    (hl : ∀ c, s.getLast? = some c → isSpace c = false) : trimSpace s = s := by
  unfold trimSpace
  have h1 : s.dropWhile isSpace = s := by
    cases s with
    | nil => rfl
    | cons c cs => exact List.dropWhile_cons_of_neg (by simp [hh c rfl])
  rw [h1]
  have h2 : s.reverse.dropWhile isSpace = s.reverse := by
    cases hr : s.reverse with
    | nil => rfl
    | cons c cs =>
      have : s.getLast? = some c := by rw [← List.head?_reverse, hr]; rfl
      exact List.dropWhile_cons_of_neg (by simp [hl c this])
  rw [h2, List.reverse_reverse]

theorem not_isSpace (c : UInt8) (h : 32 < c.toNat) : isSpace c = false :=
  Bool.eq_false_iff.mpr fun hs => by
    simp only [isSpace, Bool.or_eq_true, beq_iff_eq] at hs
    rcases hs with ((((rfl | rfl) | rfl) | rfl) | rfl) | rfl <;> exact absurd h (by decide)

/-- a rendered list of valid items begins with '-' or a digit and ends with a unit letter: nothing to trim -/
theorem trimSpace_renderAll (items : List Item) (h : ∀ i ∈ items, i.valid = true) :
    trimSpace (renderAll items) = renderAll items := by
  apply trimSpace_id
  · intro c hc
    cases items with
    | nil => cases hc
    | cons i is =>
      obtain ⟨h1, h2, _⟩ := valid_wf i (h i (List.mem_cons_self ..))
      apply not_isSpace
      rw [renderAll_cons, Item.render] at hc
      cases hn : i.neg with
      | true => rw [hn] at hc; cases hc; decide
      | false =>
        cases hd : i.digits with
        | nil => exact absurd hd h1
        | cons x xs =>
          rw [hn, hd] at hc; cases hc
          have := (isDigit_iff c).mp (List.all_eq_true.mp h2 c (hd ▸ List.mem_cons_self ..))
          omega
  · intro c hc
    rcases List.eq_nil_or_concat items with rfl | ⟨init, j, rfl⟩
    · cases hc
    · have hj : renderAll [j] = (if j.neg then [45] else []) ++ j.digits ++ [j.unit] := List.flatMap_singleton ..
      rw [List.concat_eq_append, renderAll_append, hj, ← List.append_assoc, List.getLast?_concat] at hc
      cases hc
      apply not_isSpace
      rcases ((Item.valid_iff j).mp (h j (by simp))).2 with h' | h' | h' | h' <;> rw [h'] <;> decide

/-- **completeness**: every string of the documented form whose numbers fit an `int` is accepted
    with exactly the value it denotes (last value per unit) -/
theorem duration_complete (items : List Item) (h : items.all Item.valid = true) :
    parseDuration false (renderAll items) = .ok (denote items) := by
  have hv := List.all_eq_true.mp h
  rw [duration_ok_iff, trimSpace_renderAll items hv]
  exact ⟨items, tokenize_renderAll items (fun i hi => valid_wf i (hv i hi)) _ (by omega), h, rfl⟩

theorem digit_char (k : Nat) (hk : k < 10) :
    isDigit (UInt8.ofNat (48 + k)) = true ∧ digitVal (UInt8.ofNat (48 + k)) = k := by
  have ht : (UInt8.ofNat (48 + k)).toNat = 48 + k := UInt8.toNat_ofNat_of_lt' (by unfold UInt8.size; omega)
  exact ⟨(isDigit_iff _).mpr (by omega), by unfold digitVal; omega⟩

theorem decVal_append_single (s : Str) (c : UInt8) : decVal (s ++ [c]) = decVal s * 10 + digitVal c := by
  rw [decVal_eq, decVal_eq, decFrom_append]; rfl

theorem toDec_spec (n : Nat) : toDec n ≠ [] ∧ allDigits (toDec n) = true ∧ decVal (toDec n) = n := by
  induction n using Nat.strongRecOn with
  | _ n ih =>
    rw [toDec]
    by_cases h : n < 10
    · rw [if_pos h]
      obtain ⟨h1, h2⟩ := digit_char n h
      exact ⟨List.cons_ne_nil _ _, by rw [allDigits, List.all_cons, h1]; rfl,
        by rw [decVal, List.foldl_cons, List.foldl_nil, h2]; omega⟩
    · rw [if_neg h]
      obtain ⟨_, i2, i3⟩ := ih (n / 10) (by omega)
      obtain ⟨h1, h2⟩ := digit_char (n % 10) (Nat.mod_lt _ (by omega))
      refine ⟨by simp, ?_, ?_⟩
      · unfold allDigits at i2 ⊢
        rw [List.all_append, i2, List.all_cons, h1]; rfl
      · rw [decVal_append_single, i3, h2]; omega

/-- the item `Duration.String` prints for a non-zero field -/
def itemOf (x : Int) (u : UInt8) : List Item := if x ≠ 0 then [⟨decide (x < 0), toDec x.natAbs, u⟩] else []

def itemsOf (d : Duration) : List Item :=
  itemOf d.years 121 ++ itemOf d.months 109 ++ itemOf d.days 100 ++ itemOf d.hours 104

theorem renderAll_itemOf (x : Int) (u : UInt8) :
    renderAll (itemOf x u) = if x ≠ 0 then fmtInt x ++ [u] else [] := by
  unfold itemOf
  split
  · simp only [renderAll, List.flatMap_cons, List.flatMap_nil, List.append_nil, Item.render, fmtInt]
    by_cases hx : x < 0
    · simp [hx]
    · have : x.toNat = x.natAbs := by omega
      simp [hx, this]
  · rfl

theorem durationString_eq (d : Duration) : durationString d = renderAll (itemsOf d) := by
  unfold durationString itemsOf
  simp only [renderAll_append, renderAll_itemOf]

theorem itemOf_value (x : Int) (u : UInt8) : (⟨decide (x < 0), toDec x.natAbs, u⟩ : Item).value = x := by
  unfold Item.value
  rw [(toDec_spec x.natAbs).2.2]
  by_cases hx : x < 0
  · rw [if_pos (decide_eq_true hx)]; omega
  · rw [if_neg fun h => hx (of_decide_eq_true h)]; omega

theorem itemOf_valid (x : Int) (u : UInt8) (hx : -9223372036854775808 < x ∧ x < 9223372036854775808)
    (hu : u = 121 ∨ u = 109 ∨ u = 100 ∨ u = 104) : (itemOf x u).all Item.valid = true := by
  unfold itemOf
  split
  · obtain ⟨h1, h2, h3⟩ := toDec_spec x.natAbs
    rw [List.all_cons, List.all_nil, Bool.and_true, Item.valid_iff]
    exact ⟨⟨h1, h2, by rw [h3]; unfold two63; omega⟩, hu⟩
  · rfl

theorem foldl_itemOf (d0 : Duration) (x : Int) :
    (itemOf x 121).foldl Duration.assign d0 = { d0 with years := if x = 0 then d0.years else x } ∧
    (itemOf x 109).foldl Duration.assign d0 = { d0 with months := if x = 0 then d0.months else x } ∧
    (itemOf x 100).foldl Duration.assign d0 = { d0 with days := if x = 0 then d0.days else x } ∧
    (itemOf x 104).foldl Duration.assign d0 = { d0 with hours := if x = 0 then d0.hours else x } := by
  unfold itemOf
  by_cases hx : x = 0
  · simp [hx]
  · simp [hx, Duration.assign, itemOf_value]

theorem denote_itemsOf (d : Duration) : denote (itemsOf d) = d := by
  have h0 : ∀ x : Int, (if x = 0 then 0 else x) = x := fun x => by split <;> simp [*]
  simp only [denote, itemsOf, List.foldl_append, (foldl_itemOf _ _).1, (foldl_itemOf _ _).2.1,
    (foldl_itemOf _ _).2.2.1, (foldl_itemOf _ _).2.2.2, Duration.zero, h0]

/-- a field of a `Duration` as produced by the parser: any `int` except the minimum -/
def fieldOK (x : Int) : Prop := -9223372036854775808 < x ∧ x < 9223372036854775808

/-- **print / parse**: `Duration.String` parses back to the same value (all fields in the range the
    parser can produce; `math.MinInt` cannot be produced and would not parse back) -/
theorem duration_print_parse (d : Duration)
    (h : fieldOK d.hours ∧ fieldOK d.days ∧ fieldOK d.months ∧ fieldOK d.years) :
    parseDuration false (durationString d) = .ok d := by
  rw [durationString_eq]
  have hv : (itemsOf d).all Item.valid = true := by
    unfold itemsOf
    simp only [List.all_append, Bool.and_eq_true]
    exact ⟨⟨⟨itemOf_valid _ _ h.2.2.2 (.inl rfl), itemOf_valid _ _ h.2.2.1 (.inr (.inl rfl))⟩,
      itemOf_valid _ _ h.2.1 (.inr (.inr (.inl rfl)))⟩, itemOf_valid _ _ h.1 (.inr (.inr (.inr rfl)))⟩
  rw [duration_complete _ hv, denote_itemsOf]

theorem assign_fieldOK (d : Duration) (i : Item) (hv : i.valid = true)
    (h : fieldOK d.hours ∧ fieldOK d.days ∧ fieldOK d.months ∧ fieldOK d.years) :
    fieldOK (d.assign i).hours ∧ fieldOK (d.assign i).days ∧ fieldOK (d.assign i).months ∧ fieldOK (d.assign i).years := by
  obtain ⟨⟨_, _, hlt⟩, hu⟩ := (Item.valid_iff i).mp hv
  have hval : fieldOK i.value := by
    unfold fieldOK Item.value
    unfold two63 at hlt
    split <;> omega
  rcases hu with hu | hu | hu | hu <;> simp [Duration.assign, hu, h, hval]

theorem parsed_fields_ok (s : Str) (d : Duration) (h : parseDuration false s = .ok d) :
    fieldOK d.hours ∧ fieldOK d.days ∧ fieldOK d.months ∧ fieldOK d.years := by
  obtain ⟨items, -, hv, rfl⟩ := (duration_ok_iff s d).mp h
  exact List.foldlRecOn items Duration.assign (b := Duration.zero)
    (motive := fun d => fieldOK d.hours ∧ fieldOK d.days ∧ fieldOK d.months ∧ fieldOK d.years)
    (by simp [fieldOK, Duration.zero]) fun d0 h0 i hi => assign_fieldOK d0 i (List.all_eq_true.mp hv i hi) h0

/-- **durations print back in a form that parses to the same value** -/
theorem duration_roundtrip (s : Str) (d : Duration) (h : parseDuration false s = .ok d) :
    parseDuration false (durationString d) = .ok d :=
  duration_print_parse d (parsed_fields_ok s d h)


/-! ## extended options (`options.Parse`) -/

def Consistent (kvs : List (Str × Str)) : Prop :=
  (∀ kv ∈ kvs, kv.1 ≠ []) ∧ (∀ kv ∈ kvs, ∀ kv' ∈ kvs, kv.1 = kv'.1 → kv.2 = kv'.2)

/-- loop invariant of `options.Parse`: the map `acc` holds exactly the pairs `done` seen so far, none with an empty key -/
def OptInv (acc done : List (Str × Str)) : Prop :=
  (∀ kv ∈ done, kv.1 ≠ [] ∧ acc.lookup kv.1 = some kv.2) ∧ (∀ kv ∈ acc, kv ∈ done)

theorem lookup_mem {β : Type} (acc : List (Str × β)) (k : Str) (v : β) (h : acc.lookup k = some v) : (k, v) ∈ acc := by
  obtain ⟨l1, l2, rfl, _⟩ := List.lookup_eq_some_iff.mp h
  simp

theorem OptInv.seen {acc done : List (Str × Str)} {k v : Str} (h : OptInv acc done) (hk : k ≠ [])
    (hl : acc.lookup k = some v) : OptInv acc (done ++ [(k, v)]) := by
  refine ⟨fun kv hkv => ?_, fun kv hkv => List.mem_append_left _ (h.2 kv hkv)⟩
  rcases List.mem_append.mp hkv with hkv | hkv
  · exact h.1 kv hkv
  · cases List.mem_singleton.mp hkv; exact ⟨hk, hl⟩

theorem OptInv.fresh {acc done : List (Str × Str)} {k v : Str} (h : OptInv acc done) (hk : k ≠ [])
    (hl : acc.lookup k = none) : OptInv (acc ++ [(k, v)]) (done ++ [(k, v)]) := by
  refine ⟨fun kv hkv => ?_, fun kv hkv => ?_⟩
  · rcases List.mem_append.mp hkv with hkv | hkv
    · obtain ⟨h1, h2⟩ := h.1 kv hkv
      exact ⟨h1, by rw [List.lookup_append, h2]; rfl⟩
    · cases List.mem_singleton.mp hkv
      exact ⟨hk, by rw [List.lookup_append, hl]; simp⟩
  · rcases List.mem_append.mp hkv with hkv | hkv
    · exact List.mem_append_left _ (h.2 kv hkv)
    · exact List.mem_append_right _ hkv

theorem loopKV_spec (os : List Str) : ∀ acc done, OptInv acc done →
    match optionsLoop acc os with
    | .ok m => Consistent (done ++ os.map splitKeyValue) ∧
        (∀ kv ∈ done ++ os.map splitKeyValue, m.lookup kv.1 = some kv.2) ∧ (∀ kv ∈ m, kv ∈ done ++ os.map splitKeyValue)
    | .err _ => ¬ Consistent (done ++ os.map splitKeyValue)
    | .panic => False := by
  induction os with
  | nil =>
    intro acc done hinv
    rw [List.map_nil, List.append_nil]
    refine ⟨⟨fun kv h => (hinv.1 kv h).1, fun kv h kv' h' heq => ?_⟩, fun kv h => (hinv.1 kv h).2, hinv.2⟩
    have a := (hinv.1 kv h).2
    rw [heq, (hinv.1 kv' h').2] at a
    exact (Option.some.inj a).symm
  | cons o os ih =>
    intro acc done hinv
    rw [List.map_cons, List.append_cons, optionsLoop]
    generalize splitKeyValue o = kv
    obtain ⟨k, v⟩ := kv
    simp only
    by_cases hk : k = []
    · rw [if_pos hk]
      exact fun hc => hc.1 (k, v) (by simp) hk
    · rw [if_neg hk]
      cases hl : acc.lookup k with
      | none => exact ih _ _ (hinv.fresh hk hl)
      | some v' =>
        simp only
        by_cases hv : v' = v
        · subst hv
          rw [if_neg (by simp)]
          exact ih _ _ (hinv.seen hk hl)
        · rw [if_pos hv]
          -- the earlier pair `(k, v')` and this one disagree
          exact fun hc => hv (hc.2 (k, v') (by simp [hinv.2 _ (lookup_mem acc k v' hl)]) (k, v) (by simp) rfl)

/-- **options are exact**: `options.Parse` accepts exactly the lists in which no key is empty and
    equal keys carry equal values (first `=` splits, key lower-cased, both sides trimmed); the
    returned map contains exactly the given pairs -/
theorem options_exact (ins : List Str) :
    match optionsParse ins with
    | .ok m => Consistent (ins.map splitKeyValue) ∧ (∀ kv ∈ ins.map splitKeyValue, m.lookup kv.1 = some kv.2) ∧
        (∀ kv ∈ m, kv ∈ ins.map splitKeyValue)
    | .err _ => ¬ Consistent (ins.map splitKeyValue)
    | .panic => False :=
  loopKV_spec ins [] [] ⟨nofun, nofun⟩

theorem consistentB_iff (kvs : List (Str × Str)) :
    (kvs.all (fun kv => kv.1 ≠ []) && kvs.all (fun kv => kvs.all fun kv' => kv.1 != kv'.1 || kv.2 == kv'.2)) = true ↔
      Consistent kvs := by
  simp only [Consistent, Bool.and_eq_true, List.all_eq_true, decide_eq_true_eq, Bool.or_eq_true, bne_iff_ne, beq_iff_eq,
    ne_eq, ← Decidable.imp_iff_not_or]

theorem options_specOK (ins : List Str) : specOptions ins (optionsParse ins) = true := by
  have h := options_exact ins
  unfold specOptions
  cases hr : optionsParse ins with
  | ok m =>
    rw [hr] at h
    obtain ⟨h1, h2, h3⟩ := h
    rw [Bool.and_eq_true, Bool.and_eq_true, consistentB_iff]
    refine ⟨⟨h1, ?_⟩, ?_⟩
    · rw [List.all_eq_true]; intro kv hkv; simp [h2 kv hkv]
    · rw [List.all_eq_true]; intro kv hkv; simp [h3 kv hkv]
  | err e =>
    rw [hr] at h
    rw [Bool.not_eq_true', ← Bool.not_eq_true, consistentB_iff]
    exact h
  | panic => rw [hr] at h; exact h.elim


/-! ## applying extended options to a config struct (`Options.Apply`) -/

/-- **uint options are exact**: accepted exactly when the value is an (unsigned) Go integer literal
    whose number is below 2^32, and exactly that number is stored -/
theorem apply_uint_ok_iff (value : Str) (d : Option Int) (r : Val) :
    applyOne .uint value d = .ok r ↔ ∃ n, r = .uint n ∧ numeral value = some n ∧ n < 4294967296 := by
  have key := fun n => parseUint0_ok_iff 32 (by omega) value n
  unfold applyOne
  cases hp : parseUint0 32 value with
  | error e =>
    exact ⟨nofun, fun ⟨n, _, h2, h3⟩ => nomatch hp.symm.trans ((key n).mpr ⟨h2, h3⟩)⟩
  | ok vi =>
    obtain ⟨h1, h2⟩ := (key vi).mp hp
    exact ⟨fun h => (by cases h; exact ⟨vi, rfl, h1, h2⟩),
      fun ⟨n, hr, h2', _⟩ => by rw [hr, Option.some.inj (h1.symm.trans h2')]⟩

/-- no option value makes `Apply` panic when the field has one of the supported types (all tagged
    fields of restic's backend config structs have; checked in the correspondence run) -/
theorem applyOne_no_panic (k : Kind) (hk : k ≠ .other) (value : Str) (d : Option Int) :
    applyOne k value d ≠ .panic := by
  cases k with
  | other => exact absurd rfl hk
  | str => nofun
  | int => unfold applyOne; cases parseInt0 32 value <;> nofun
  | uint => unfold applyOne; cases parseUint0 32 value <;> nofun
  | bool => unfold applyOne; cases parseBool value <;> nofun
  | dur => unfold applyOne; cases d <;> nofun

/-- a value with a sign is never accepted for a `uint` option (the seeded defect C49-b: `-1` stored as 2^64-1) -/
theorem apply_uint_rejects_signed (c : UInt8) (rest : Str) (hc : c = 45 ∨ c = 43) (d : Option Int) :
    ∃ e, applyOne .uint (c :: rest) d = .err e := by
  cases h : applyOne .uint (c :: rest) d with
  | err e => exact ⟨e, rfl⟩
  | ok r =>
    obtain ⟨n, _, h2, _⟩ := (apply_uint_ok_iff _ d r).mp h
    rw [numeral_signed_none c rest hc] at h2; cases h2
  | panic => exact absurd h (applyOne_no_panic .uint nofun _ d)

/-- **int options are exact**: optional sign and a Go integer literal; accepted exactly when the signed
    number lies in `[-2^31, 2^31)`, and exactly that number is stored -/
theorem apply_int_ok_iff (value : Str) (d : Option Int) (r : Val) :
    applyOne .int value d = .ok r ↔
      ∃ n, numeral (splitSign value).2 = some n ∧
        r = .int (if (splitSign value).1 then -(n : Int) else (n : Int)) ∧
        -2147483648 ≤ (if (splitSign value).1 then -(n : Int) else (n : Int)) ∧
        (if (splitSign value).1 then -(n : Int) else (n : Int)) < 2147483648 := by
  unfold applyOne
  cases hp : parseInt0 32 value with
  | error e =>
    exact ⟨nofun, fun ⟨n, h1, _, h3, h4⟩ => nomatch hp.symm.trans ((parseInt0_32_ok_iff value _).mpr ⟨n, h1, rfl, h3, h4⟩)⟩
  | ok vi =>
    obtain ⟨n, h1, h2, h3, h4⟩ := (parseInt0_32_ok_iff value vi).mp hp
    subst h2
    exact ⟨fun h => (by cases h; exact ⟨n, h1, rfl, h3, h4⟩),
      fun ⟨m, h1', hr, _, _⟩ => by rw [hr, Option.some.inj (h1.symm.trans h1')]⟩

theorem applyOne_specOK (k : Kind) (value : Str) (d : Option Int) :
    specApply k value d (applyOne k value d) = true := by
  cases k with
  | other => rfl
  | str => simp [specApply, applyOne]
  | bool =>
    unfold specApply applyOne
    cases parseBool value <;> simp
  | dur =>
    unfold specApply applyOne
    cases d <;> simp
  | uint =>
    unfold specApply
    cases hr : applyOne .uint value d with
    | panic => exact absurd hr (applyOne_no_panic .uint nofun value d)
    | ok r =>
      obtain ⟨n, rfl, h2, h3⟩ := (apply_uint_ok_iff value d r).mp hr
      simp [h2, h3]
    | err e =>
      cases hn : numeral value with
      | none => rfl
      | some n =>
        simp only [Bool.not_eq_true', decide_eq_false_iff_not]
        exact fun hlt => nomatch hr.symm.trans ((apply_uint_ok_iff value d _).mpr ⟨n, rfl, hn, hlt⟩)
  | int =>
    unfold specApply
    cases hr : applyOne .int value d with
    | panic => exact absurd hr (applyOne_no_panic .int nofun value d)
    | ok r =>
      obtain ⟨n, h1, rfl, h3, h4⟩ := (apply_int_ok_iff value d r).mp hr
      simp [h1, h3, h4]
    | err e =>
      cases hn : numeral (splitSign value).2 with
      | none => rfl
      | some n =>
        show (!(decide (-2147483648 ≤ (if (splitSign value).1 = true then -(n : Int) else (n : Int))) && decide (_ < 2147483648))) = true
        rw [Bool.not_eq_true']
        exact decide_and_false fun h => nomatch hr.symm.trans ((apply_int_ok_iff value d _).mpr ⟨n, hn, rfl, h⟩)

/-- `Apply` as a whole: when it succeeds every option named a field and was converted as above -/
theorem applyAll_ok (fields : List (Str × Kind)) (dur : Str → Option Int) (opts : List (Str × Str)) :
    ∀ vs, applyAll fields dur opts = .ok vs →
      vs.map (·.1) = opts.map (·.1) ∧
      ∀ kv ∈ opts, ∃ k v, fields.lookup kv.1 = some k ∧ applyOne k kv.2 (dur kv.2) = .ok v ∧ (kv.1, v) ∈ vs := by
  induction opts with
  | nil => intro vs h; cases h; exact ⟨rfl, nofun⟩
  | cons o os ih =>
    intro vs h
    obtain ⟨key, value⟩ := o
    rw [applyAll] at h
    cases hl : fields.lookup key with
    | none => simp only [hl] at h; cases h
    | some k =>
      cases ha : applyOne k value (dur value) with
      | panic => simp only [hl, ha] at h; cases h
      | err e => simp only [hl, ha] at h; cases h
      | ok v =>
        cases hr : applyAll fields dur os with
        | panic => simp only [hl, ha, hr] at h; cases h
        | err e => simp only [hl, ha, hr] at h; cases h
        | ok vs' =>
          simp only [hl, ha, hr, Out.ok.injEq] at h
          subst h
          obtain ⟨i1, i2⟩ := ih vs' hr
          refine ⟨by rw [List.map_cons, List.map_cons, i1], fun kv hkv => ?_⟩
          rcases List.mem_cons.mp hkv with rfl | hkv
          · exact ⟨k, v, hl, ha, List.mem_cons_self ..⟩
          · obtain ⟨k', v', a, b, c⟩ := i2 kv hkv
            exact ⟨k', v', a, b, List.mem_cons_of_mem _ c⟩

theorem applyAll_no_panic (fields : List (Str × Kind)) (hf : ∀ f ∈ fields, f.2 ≠ .other)
    (dur : Str → Option Int) (opts : List (Str × Str)) : applyAll fields dur opts ≠ .panic := by
  induction opts with
  | nil => nofun
  | cons o os ih =>
    obtain ⟨key, value⟩ := o
    rw [applyAll]
    cases hl : fields.lookup key with
    | none => nofun
    | some k =>
      simp only
      have hk : k ≠ .other := hf (key, k) (lookup_mem fields key k hl)
      cases ha : applyOne k value (dur value) with
      | panic => exact absurd ha (applyOne_no_panic k hk value (dur value))
      | err e => exact nofun
      | ok v =>
        cases hr : applyAll fields dur os with
        | panic => exact absurd hr ih
        | err e => exact nofun
        | ok vs' => exact nofun


/-! ## shell strings (`backend.SplitShellStrings`) -/

theorem splitLoop_fields_nonempty (data : Str) : ∀ (st : Splitter) (cur : Option Str) (acc : List Str),
    (∀ f ∈ acc ++ cur.toList, f ≠ []) → ∀ f ∈ (splitLoop st cur acc data).2, f ≠ [] := by
  induction data with
  | nil =>
    intro st cur acc h
    cases cur
    · rwa [Option.toList_none, List.append_nil] at h
    · exact h
  | cons c cs ih =>
    intro st cur acc h
    rw [splitLoop]
    obtain ⟨st', split⟩ := isSplitChar st c
    cases split
    · -- the character joins the current field
      refine ih st' _ acc fun f hf => ?_
      rcases List.mem_append.mp hf with hf | hf
      · exact h f (List.mem_append_left _ hf)
      · rw [Option.toList_some, List.mem_singleton] at hf
        exact hf ▸ List.append_ne_nil_of_right_ne_nil _ (List.cons_ne_nil c [])
    · -- the current field, if any, is finished
      cases cur
      · exact ih st' none acc h
      · exact ih st' none _ (by rwa [Option.toList_none, List.append_nil])

theorem isSplitChar_plain (st : Splitter) (c : UInt8) (hc : plainChar c = true) (hq : st.quote = 0) :
    isSplitChar st c = ({ st with lastChar := c }, isSpace c) := by
  simp only [plainChar, Bool.and_eq_true, bne_iff_ne, ne_eq] at hc
  rw [isSplitChar, if_neg fun h => h.2.1 hq, if_neg fun h => h.2.2.elim hc.1.1 hc.1.2]
  simp only [hq, ne_eq, not_true_eq_false, if_false, hc.2, decide_false, Bool.false_or]

/-- without quotes and backslashes the splitter is `strings.FieldsFunc(data, unicode.IsSpace)` -/
theorem splitLoop_plain (data : Str) : ∀ (st : Splitter) (cur : Option Str) (acc : List Str),
    data.all plainChar = true → st.quote = 0 →
    (splitLoop st cur acc data).2 = acc ++ fieldsSpace cur data ∧ (splitLoop st cur acc data).1.quote = 0 := by
  induction data with
  | nil =>
    intro st cur acc _ hq
    cases cur
    · exact ⟨(List.append_nil acc).symm, hq⟩
    · exact ⟨rfl, hq⟩
  | cons c cs ih =>
    intro st cur acc hp hq
    rw [List.all_cons, Bool.and_eq_true] at hp
    rw [splitLoop, isSplitChar_plain st c hp.1 hq]
    cases cur with
    | none => rw [fieldsSpace]; cases isSpace c <;> exact ih _ _ acc hp.2 hq
    | some g =>
      rw [fieldsSpace]
      cases isSpace c
      · exact ih _ _ acc hp.2 hq
      · have := ih { st with lastChar := c } none (acc ++ [g]) hp.2 hq
        rwa [List.append_assoc] at this

theorem specShell_err (data : Str) (e : PErr) : specShell data (.err e) = true ↔
    data.all plainChar = false ∨ (fieldsSpace none data = [] ∧ e = .emptyCommand) := by
  simp only [specShell, Bool.or_eq_true, Bool.not_eq_true', Bool.and_eq_true, beq_iff_eq]

theorem specShell_ok (data : Str) (strs : List Str) : specShell data (.ok strs) = true ↔
    strs ≠ [] ∧ (∀ f ∈ strs, f ≠ []) ∧ (data.all plainChar = false ∨ strs = fieldsSpace none data) := by
  simp only [specShell, Bool.and_eq_true, Bool.or_eq_true, Bool.not_eq_true', decide_eq_true_eq, List.all_eq_true,
    beq_iff_eq, and_assoc]

/-- `specShell`: no panic, no empty field, at least one field when accepted, plain strings split at white space -/
theorem shell_specOK (data : Str) : specShell data (splitShellStrings data) = true := by
  have hne := splitLoop_fields_nonempty data ⟨0, 0⟩ none [] nofun
  have hplain := (Bool.eq_false_or_eq_true (data.all plainChar)).symm.imp_right
    fun hp => splitLoop_plain data ⟨0, 0⟩ none [] hp rfl
  rw [splitShellStrings]
  generalize splitLoop ⟨0, 0⟩ none [] data = r at hne hplain ⊢
  obtain ⟨st, strs⟩ := r
  simp only [List.nil_append] at hne hplain ⊢
  -- a plain string leaves the splitter outside quotes, so the two quote errors need a non-plain string
  by_cases h1 : st.quote = 39
  · rw [if_pos h1, specShell_err]
    exact hplain.imp_right fun h => absurd (h.2.symm.trans h1) (by decide)
  by_cases h2 : st.quote = 34
  · rw [if_neg h1, if_pos h2, specShell_err]
    exact hplain.imp_right fun h => absurd (h.2.symm.trans h2) (by decide)
  rw [if_neg h1, if_neg h2]
  by_cases h3 : strs = []
  · rw [if_pos h3, specShell_err]
    exact hplain.imp_right fun h => ⟨h.1.symm.trans h3, rfl⟩
  · rw [if_neg h3, specShell_ok]
    exact ⟨h3, hne, hplain.imp_right And.left⟩

theorem splitShell_no_panic (data : Str) : splitShellStrings data ≠ .panic := fun h => by
  have := shell_specOK data
  rw [h] at this; cases this


/-! ## check --read-data-subset (`checkFlags`) -/

/-- **check subsets are exact**: (after the fix of the NaN comparison) a `--read-data-subset` value is
    accepted exactly when it denotes `n/t` with `1 ≤ n ≤ t ≤ totalBucketsMax`, a percentage in
    `(0, 100]`, or a size above 0 — and `--read-data` is not given as well -/
theorem checkFlags_accept_iff (M : Nat) (rd : Bool) (s : Str) (pct : Pct) :
    checkFlags false M rd s pct = .accept ↔ s = [] ∨ (rd = false ∧ flagDenotes M s pct = true) := by
  unfold checkFlags
  by_cases hs : s = []
  · rw [if_neg fun h => h.2 hs, if_pos hs]; exact iff_of_true rfl (Or.inl hs)
  cases rd
  case true => rw [if_pos ⟨rfl, hs⟩]; exact iff_of_false nofun fun h => h.elim hs fun h => nomatch h.1
  rw [if_neg (fun h => nomatch h.1), if_neg hs, or_iff_right hs, and_iff_right rfl, flagDenotes,
    Restic.Model.CheckSubset.checkFlagsNT]
  cases Restic.Model.CheckSubset.stringToIntSlice s with
  | error e =>
    dsimp only
    by_cases hpc : s.getLast? = some 37
    · rw [if_pos hpc, if_pos hpc]; cases pct <;> decide
    rw [if_neg hpc, if_neg hpc]
    cases hp : parseBytes s with
    | ok v =>
      obtain ⟨hd, h0, hlt⟩ := (parseBytes_ok_iff s v).mp hp
      rw [hd]; dsimp only
      rw [Bool.and_eq_true, decide_eq_true_eq, decide_eq_true_eq]
      by_cases hv : v ≤ 0
      · rw [if_pos hv]; exact iff_of_false nofun fun h => Int.not_le.mpr h.1 hv
      · rw [if_neg hv]; exact iff_of_true rfl ⟨Int.not_le.mp hv, hlt⟩
    | err e' =>
      cases hd : sizeDenotes s with
      | none => exact iff_of_false nofun nofun
      | some v =>
        rw [Bool.and_eq_true, decide_eq_true_eq, decide_eq_true_eq]
        exact iff_of_false nofun fun h => parseBytes_err s e' v hp hd ⟨Int.le_of_lt h.1, h.2⟩
    | panic => exact absurd hp (parseBytes_no_panic s)
  | ok ds =>
    -- only a slice of exactly two numbers can be accepted
    match ds with
    | [] | [_] | _ :: _ :: _ :: _ => exact iff_of_false nofun nofun
    | [n, t] =>
      dsimp only
      rw [Bool.and_eq_true, Bool.and_eq_true, decide_eq_true_eq, decide_eq_true_eq, decide_eq_true_eq]
      by_cases hc : n = 0 ∨ t = 0 ∨ n > t
      · rw [if_pos hc]; exact iff_of_false nofun fun h => by omega
      have hnt : 1 ≤ n ∧ n ≤ t := by omega
      by_cases ht : t > M
      · rw [if_neg hc, if_pos ht]; exact iff_of_false nofun fun h => Nat.not_le.mpr ht h.2
      · rw [if_neg hc, if_neg ht]; exact iff_of_true rfl ⟨hnt, Nat.not_lt.mp ht⟩

theorem flags_specOK (M : Nat) (rd : Bool) (s : Str) (pct : Pct) :
    specFlags M rd s pct (checkFlags false M rd s pct) = true := by
  rw [specFlags, beq_iff_eq, Bool.eq_iff_iff, beq_iff_eq, Bool.or_eq_true, Bool.and_eq_true, decide_eq_true_eq,
    Bool.not_eq_true']
  exact checkFlags_accept_iff M rd s pct

/-- `FlagOut` has no panic outcome, so this holds of any function into it. The one callee of `checkFlags`
    that could panic is `parseBytes` (a panic there would be read as `.invalidValue`), and it never does:
    `parseBytes_no_panic`. -/
theorem flags_total (M : Nat) (rd : Bool) (s : Str) (pct : Pct) :
    ∃ r : FlagOut, checkFlags false M rd s pct = r := ⟨_, rfl⟩

/-- the finding on the code before the fix: `NaN%` is accepted although it denotes no percentage -/
theorem legacy_nan_accepted :
    checkFlags true 256 false [78, 97, 78, 37] .nan = .accept ∧
    specFlags 256 false [78, 97, 78, 37] .nan (checkFlags true 256 false [78, 97, 78, 37] .nan) = false ∧
    checkFlags false 256 false [78, 97, 78, 37] .nan = .pctRange := by decide

/-! ## T1: facts regenerated from the current source -/

/-- the unit suffixes `ParseBytes` switches on are exactly the ones of the model -/
theorem parseBytes_suffixes_match_source :
    Restic.Gen.ParseBytes_cases = ["'b'", "'B'", "'k'", "'K'", "'m'", "'M'", "'g'", "'G'", "'t'", "'T'", "default"] := by decide +kernel

/-- the multipliers the current source applies (evaluated by running the real `ParseBytes` on
    "1<suffix>") are the ones of the model -/
theorem parseBytes_units_match_source :
    unitOf 98 = some Restic.Gen.ui_ParseBytes_unit_b ∧ unitOf 66 = some Restic.Gen.ui_ParseBytes_unit_B ∧
    unitOf 107 = some Restic.Gen.ui_ParseBytes_unit_k ∧ unitOf 75 = some Restic.Gen.ui_ParseBytes_unit_K ∧
    unitOf 109 = some Restic.Gen.ui_ParseBytes_unit_m ∧ unitOf 77 = some Restic.Gen.ui_ParseBytes_unit_M ∧
    unitOf 103 = some Restic.Gen.ui_ParseBytes_unit_g ∧ unitOf 71 = some Restic.Gen.ui_ParseBytes_unit_G ∧
    unitOf 116 = some Restic.Gen.ui_ParseBytes_unit_t ∧ unitOf 84 = some Restic.Gen.ui_ParseBytes_unit_T := by decide

theorem parseDuration_units_match_source :
    Restic.Gen.ParseDuration_cases = ["'y'", "'m'", "'d'", "'h'", "default"] := by decide +kernel

/-- `nextNumber` contains no call of `panic` any more (fails to build against the code before the fix of F1) -/
theorem nextNumber_does_not_panic : "panic" ∉ Restic.Gen.nextNumber_calls := by decide +kernel

/-! ## Non-vacuity -/

example : parseDuration false [49, 121, 53, 109, 55, 100, 50, 104] = .ok ⟨2, 7, 5, 1⟩ := by decide            -- "1y5m7d2h"
example : parseDuration false [32, 45, 51, 100, 52, 100, 10] = .ok ⟨0, 4, 0, 0⟩ := by decide                  -- " -3d4d\n": last value wins
example : parseDuration false [53, 120] = .err .invalidUnit := by decide +kernel
example : parseDuration false [53] = .err .noUnit := by decide +kernel
example : parseBytes [56, 51, 56, 56, 54, 48, 55, 84] = .ok 9223370937343148032 := by decide                   -- "8388607T"
example : parseBytes [56, 51, 56, 56, 54, 48, 56, 84] = .err .range := by decide                              -- "8388608T" = 2^63
example : parseBytes [45, 49, 75] = .err .range := by decide                                                  -- "-1K"
example : policyCountSet unlimited = .ok (-1) := by decide +kernel
example : policyCountSet [45, 49] = .err .negative := by decide +kernel
example : optionsParse [[65, 61, 49], [97, 32, 61, 32, 49]] = .ok [([97], [49])] := by decide                 -- "A=1", "a = 1"
example : optionsParse [[97, 61, 49], [97, 61, 50]] = .err .dupKey := by decide +kernel
example : splitShellStrings [97, 32, 34, 98, 32, 99, 34, 32, 100] = .ok [[97], [98, 32, 99], [100]] := by decide  -- a "b c" d
example : splitShellStrings [97, 32, 39, 98] = .err .unterminatedSingle := by decide +kernel
example : checkFlags false 256 false [51, 47, 55] .parseErr = .accept := by decide                            -- "3/7"
example : checkFlags false 256 false [53, 48, 48, 75] .parseErr = .accept := by decide                        -- "500K"

example : applyOne .uint [45, 49] none = .err .esyntax := by decide                           -- "-1"
example : applyOne .uint [52, 50, 57, 52, 57, 54, 55, 50, 57, 53] none = .ok (.uint 4294967295) := by decide   -- 2^32-1
example : applyOne .uint [52, 50, 57, 52, 57, 54, 55, 50, 57, 54] none = .err .range := by decide              -- 2^32
example : applyOne .uint [48, 120, 49, 48] none = .ok (.uint 16) := by decide                 -- "0x10"
example : applyOne .uint [48, 49, 55] none = .ok (.uint 15) := by decide                      -- "017"
example : applyOne .uint [49, 95, 48, 48, 48] none = .ok (.uint 1000) := by decide            -- "1_000"
example : applyOne .uint [49, 95, 95, 48] none = .err .esyntax := by decide                   -- "1__0"
example : applyOne .int [45, 50, 49, 52, 55, 52, 56, 51, 54, 52, 56] none = .ok (.int (-2147483648)) := by decide +kernel
example : applyOne .int [50, 49, 52, 55, 52, 56, 51, 54, 52, 56] none = .err .range := by decide               -- 2^31
example : applyOne .int [45, 48, 120, 49, 48] none = .ok (.int (-16)) := by decide            -- "-0x10"
example : applyOne .bool [84, 114, 117, 101] none = .ok (.bool true) := by decide             -- "True"
example : applyAll [([117], .uint), ([115], .str)] (fun _ => none) [([117], [53]), ([115], [120])] =
    .ok [([117], .uint 5), ([115], .str [120])] := by decide +kernel

end Restic.Props.C49
