import Restic.Model.Sema
import Restic.Gen.Source
import Restic.Gen.Consts
/-!
# C37 — Backend concurrency limits hold and lock operations are never blocked

Theorems about `Restic.Model.Sema` (atomic-step model of internal/backend/sema/backend.go), for
every number of connections, every table of calls and every schedule (`List Act`).
-/
namespace Restic.Props.C37
open Restic.Model.Sema

/-- The last conjunct is there for `lock_never_blocked` (a lock call is never parked at `haveToken` or
    `passedGate`) and so that `enter` implies valid arguments, which the third needs. -/
def Inv (s : Sys) : Prop :=
  s.tokens = s.threads.countP holdsToken ∧ s.tokens ≤ s.n ∧
  (∀ t ∈ s.threads, t.called = true → t.valid = true ∧ t.cancelled = false) ∧
  (∀ t ∈ s.threads, (t.pc = .haveToken ∨ t.pc = .passedGate) → t.isLock = false ∧ t.valid = true)

/-- Inductive on its own (`step_inv2`); `step_inv` needs it for the `cancel` move. -/
def Inv2 (s : Sys) : Prop := ∀ t ∈ s.threads, t.called = true → t.pc = .running ∨ t.pc = .done

/-- `Move s t t' tok`: a step of the call with entry `t` replaces it by `t'` and sets the token counter
    to `tok`. One constructor per branch of `step` that touches the call table, with its guard. -/
inductive Move (s : Sys) (t : Thread) : Thread → Nat → Prop
  | reject : t.pc = .start → t.valid = false → Move s t { t with pc := .done } s.tokens
  | getToken : t.pc = .start → t.valid = true → t.isLock = false → s.tokens < s.n →
      Move s t { t with pc := .haveToken } (s.tokens + 1)
  | passGate : t.pc = .haveToken → s.frozen = false → Move s t { t with pc := .passedGate } s.tokens
  | enterCancelled : t.pc = .passedGate ∨ (t.pc = .start ∧ t.valid = true ∧ t.isLock = true) →
      t.cancelled = true → Move s t { t with pc := .returning } s.tokens
  | enter : t.pc = .passedGate ∨ (t.pc = .start ∧ t.valid = true ∧ t.isLock = true) →
      t.cancelled = false → Move s t { t with pc := .running, called := true } s.tokens
  | finish : t.pc = .running ∨ t.pc = .returning →
      Move s t { t with pc := .done } (if t.isLock then s.tokens else s.tokens - 1)
  | cancel : t.pc = .start ∨ t.pc = .haveToken ∨ t.pc = .passedGate → Move s t { t with cancelled := true } s.tokens

/-- A step leaves all but the freeze flag (which stays, or was off, or the action is `unfreeze`), or is a
    `Move` of one call. -/
theorem step_cases {s s' : Sys} {a : Act} (st : step s a = some s') :
    (s' = { s with frozen := s'.frozen } ∧ (s'.frozen = s.frozen ∨ s.frozen = false ∨ a = .unfreeze)) ∨
    ∃ i t t' tok, s.threads[i]? = some t ∧ Move s t t' tok ∧
      s' = { s with tokens := tok, threads := s.threads.set i t' } := by
  -- the branches of `step` that return a state, in the order of its text
  revert st
  fun_cases step s a <;> intro st <;> cases st
  · next ht hc => exact .inr ⟨_, _, _, _, ht, .reject hc.1 hc.2, rfl⟩
  · next ht hc => exact .inr ⟨_, _, _, _, ht, .getToken hc.1 hc.2.1 hc.2.2.1 hc.2.2.2, rfl⟩
  · next ht hc => exact .inr ⟨_, _, _, _, ht, .passGate hc.1 hc.2, rfl⟩
  · next ht hc hcan => exact .inr ⟨_, _, _, _, ht, .enterCancelled hc hcan, rfl⟩
  · next ht hc hcan => exact .inr ⟨_, _, _, _, ht, .enter hc (by simpa using hcan), rfl⟩
  · next ht hc => exact .inr ⟨_, _, _, _, ht, .finish hc, rfl⟩
  · next ht hc => exact .inr ⟨_, _, _, _, ht, .cancel hc, rfl⟩
  · exact .inl ⟨rfl, .inl rfl⟩  -- `cancel` after the context check
  · next hf => exact .inl ⟨rfl, .inr (.inl hf)⟩  -- `freeze`
  · exact .inl ⟨rfl, .inr (.inr rfl)⟩  -- `unfreeze`

/-- The theorems about a single call go through a reflexive relation `R` on call entries that every `Move`
    respects; `run_rel` lifts it to runs, for transitive `R` and moves from states with a run invariant `I`. -/
theorem step_rel {s s' : Sys} {a : Act} (R : Thread → Thread → Prop) (hrefl : ∀ t, R t t)
    (hmove : ∀ t t' tok, Move s t t' tok → R t t') (st : step s a = some s') :
    s'.threads.length = s.threads.length ∧
    ∀ (i : Nat) (t t' : Thread), s.threads[i]? = some t → s'.threads[i]? = some t' → R t t' := by
  rcases step_cases st with ⟨h, -⟩ | ⟨j, u, u', tok, hu, mv, rfl⟩
  · rw [h]
    exact ⟨rfl, fun i t t' ht ht' => Option.some.inj (ht.symm.trans ht') ▸ hrefl t⟩
  · refine ⟨List.length_set, fun i t t' ht ht' => ?_⟩
    by_cases hj : j = i
    · subst hj
      rw [List.getElem?_set_self (List.getElem?_eq_some_iff.mp ht).1] at ht'
      cases ht'; cases hu.symm.trans ht
      exact hmove _ _ _ mv
    · rw [List.getElem?_set_ne hj] at ht'
      cases ht.symm.trans ht'
      exact hrefl t

theorem run_cons {s s' : Sys} {a : Act} {as : List Act} (hr : run s (a :: as) = some s') :
    ∃ s1, step s a = some s1 ∧ run s1 as = some s' := by
  simp only [run] at hr
  cases h1 : step s a with
  | none => rw [h1] at hr; cases hr
  | some s1 => rw [h1] at hr; exact ⟨s1, rfl, hr⟩

theorem step_frozen {s s' : Sys} {a : Act} (st : step s a = some s') (hf : s.frozen = true) (ha : a ≠ .unfreeze) :
    s'.frozen = true := by
  rcases step_cases st with ⟨-, h | h | h⟩ | ⟨_, _, _, _, _, _, rfl⟩
  · rw [h, hf]
  · rw [hf] at h; cases h
  · exact absurd h ha
  · exact hf

theorem run_rel (I : Sys → Prop) (R : Thread → Thread → Prop) (hrefl : ∀ t, R t t)
    (htrans : ∀ {t u v}, R t u → R u v → R t v) (hmove : ∀ s t t' tok, I s → Move s t t' tok → R t t') :
    ∀ (acts : List Act) (s s' : Sys), (∀ a ∈ acts, ∀ s s', I s → step s a = some s' → I s') → I s →
      run s acts = some s' →
      I s' ∧ s'.threads.length = s.threads.length ∧
      ∀ (i : Nat) (t t' : Thread), s.threads[i]? = some t → s'.threads[i]? = some t' → R t t'
  | [], s, s', _, hs, hr => by
    cases hr
    exact ⟨hs, rfl, fun i t t' ht ht' => Option.some.inj (ht.symm.trans ht') ▸ hrefl t⟩
  | a :: as, s, s', hI, hs, hr => by
    obtain ⟨s1, h1, hr⟩ := run_cons hr
    obtain ⟨l1, a1⟩ := step_rel R hrefl (fun t t' tok => hmove s t t' tok hs) h1
    obtain ⟨hs', l2, a2⟩ := run_rel I R hrefl htrans hmove as s1 s'
      (fun b hb => hI b (List.mem_cons_of_mem _ hb)) (hI a List.mem_cons_self s s1 hs h1) hr
    refine ⟨hs', l2.trans l1, fun i t t' ht ht' => ?_⟩
    have h1g := List.getElem?_eq_getElem (l1 ▸ (List.getElem?_eq_some_iff.mp ht).1)
    exact htrans (a1 i t _ ht h1g) (a2 i _ t' h1g ht')

theorem step_n (s s' : Sys) (a : Act) (st : step s a = some s') : s'.n = s.n := by
  rcases step_cases st with ⟨h, -⟩ | ⟨_, _, _, _, _, _, rfl⟩
  · rw [h]
  · rfl

/-- so `s.n` of a reached state, by which `limit` bounds, is the `n` of `init n calls` -/
theorem run_n : ∀ (acts : List Act) (s s' : Sys), run s acts = some s' → s'.n = s.n :=
  fun acts s s' hr =>
    (run_rel (·.n = s.n) (fun _ _ => True) (fun _ => trivial) (fun _ _ => trivial) (fun _ _ _ _ _ _ => trivial)
      acts s s' (fun a _ u u' h st => (step_n u u' a st).trans h) rfl hr).1

theorem init_inv (n : Nat) (calls : List (Bool × Bool × Bool)) : Inv (init n calls) := by
  refine ⟨?_, Nat.zero_le _, ?_, ?_⟩
  · simp only [init]
    symm
    rw [List.countP_eq_zero]
    intro t ht
    simp only [List.mem_map] at ht
    obtain ⟨c, _, rfl⟩ := ht
    simp [holdsToken]
  · intro t ht
    simp only [init, List.mem_map] at ht
    obtain ⟨c, _, rfl⟩ := ht
    simp
  · intro t ht
    simp only [init, List.mem_map] at ht
    obtain ⟨c, _, rfl⟩ := ht
    simp

/-- `htok`: the counter less the token this call holds is unchanged -/
theorem set_inv (s : Sys) (i : Nat) (t t' : Thread) (tok : Nat) (h : Inv s)
    (ht : s.threads[i]? = some t)
    (htok : tok + (if holdsToken t then 1 else 0) = s.tokens + (if holdsToken t' then 1 else 0))
    (hle : tok ≤ s.n)
    (hcall : t'.called = true → t'.valid = true ∧ t'.cancelled = false)
    (hgate : (t'.pc = .haveToken ∨ t'.pc = .passedGate) → t'.isLock = false ∧ t'.valid = true) :
    Inv { s with tokens := tok, threads := s.threads.set i t' } := by
  obtain ⟨hTok, _, hCall, hLock⟩ := h
  obtain ⟨hi, hget⟩ := List.getElem?_eq_some_iff.mp ht
  refine ⟨?_, hle, ?_, ?_⟩
  · simp only [List.countP_set hi, hget]
    have hb := List.boole_getElem_le_countP (p := holdsToken) hi
    rw [hget] at hb
    omega
  · intro x hx
    rcases List.mem_or_eq_of_mem_set hx with hx | rfl
    · exact hCall x hx
    · exact hcall
  · intro x hx
    rcases List.mem_or_eq_of_mem_set hx with hx | rfl
    · exact hLock x hx
    · exact hgate

theorem step_inv (s s' : Sys) (a : Act) (h : Inv s) (h2 : Inv2 s) (st : step s a = some s') : Inv s' := by
  rcases step_cases st with ⟨hs, -⟩ | ⟨i, t, t', tok, ht, mv, rfl⟩
  · rw [hs]; exact h
  have h0 := h
  obtain ⟨hTok, hLe, hCall, hLock⟩ := h
  have hcall := hCall t (List.mem_of_getElem? ht)
  have hgate := hLock t (List.mem_of_getElem? ht)
  cases mv with
  | reject hc _ =>
    exact set_inv s i t _ _ h0 ht (by simp [holdsToken, hc]) hLe hcall (by simp)
  | getToken hc hv hl hlt =>
    exact set_inv s i t _ _ h0 ht (by simp [holdsToken, hc, hl]) hlt hcall (fun _ => ⟨hl, hv⟩)
  | passGate hc _ =>
    have hg := hgate (.inl hc)
    exact set_inv s i t _ _ h0 ht (by simp [holdsToken, hc, hg.1]) hLe hcall (fun _ => hg)
  | enterCancelled hc _ =>
    exact set_inv s i t _ _ h0 ht (by rcases hc with hc | hc <;> simp [holdsToken, hc]) hLe hcall (by simp)
  | enter hc hcan =>
    have hvalid : t.valid = true := hc.elim (fun hc => (hgate (.inr hc)).2) (·.2.1)
    exact set_inv s i t _ _ h0 ht (by rcases hc with hc | hc <;> simp [holdsToken, hc]) hLe
      (fun _ => ⟨hvalid, hcan⟩) (by simp)
  | finish hc =>
    cases hl : t.isLock with
    | true => exact set_inv s i t _ _ h0 ht (by simp [holdsToken, hl]) (by simpa using hLe) hcall (by simp)
    | false =>
      -- the call holds a token, so the counter is positive
      have hh : holdsToken t = true := by rcases hc with hc | hc <;> simp [holdsToken, hc, hl]
      obtain ⟨hi, hget⟩ := List.getElem?_eq_some_iff.mp ht
      have hb := List.boole_getElem_le_countP (p := holdsToken) hi
      rw [hget, hh, if_pos rfl, ← hTok] at hb
      exact set_inv s i t _ _ h0 ht (by rw [hh]; simp [holdsToken]; omega) (by simp; omega) hcall (by simp)
  | cancel hc =>
    -- the call has not reached the wrapped backend yet
    have hnc : t.called = false := by
      rw [Bool.eq_false_iff]
      intro hcd
      rcases h2 t (List.mem_of_getElem? ht) hcd with h | h <;> simp [h] at hc
    exact set_inv s i t _ _ h0 ht (by simp [holdsToken]) hLe (fun hcd => by simp [hnc] at hcd) hgate

theorem step_inv2 (s s' : Sys) (a : Act) (h2 : Inv2 s) (st : step s a = some s') : Inv2 s' := by
  rcases step_cases st with ⟨hs, -⟩ | ⟨i, t, t', tok, ht, mv, rfl⟩
  · rw [hs]; exact h2
  intro x hx hcd
  rcases List.mem_or_eq_of_mem_set hx with hx | rfl
  · exact h2 x hx hcd
  have ht2 := h2 t (List.mem_of_getElem? ht)
  cases mv with
  | reject | finish => exact .inr rfl
  | enter => exact .inl rfl
  | cancel => exact ht2 hcd
  | getToken hc | passGate hc => rcases ht2 hcd with h | h <;> simp [h] at hc
  | enterCancelled hc => rcases ht2 hcd with h | h <;> simp [h] at hc

theorem init_inv2 (n : Nat) (calls : List (Bool × Bool × Bool)) : Inv2 (init n calls) := by
  intro t ht hc
  simp only [init, List.mem_map] at ht
  obtain ⟨c, _, rfl⟩ := ht
  simp at hc

theorem run_inv : ∀ (acts : List Act) (s s' : Sys), Inv s ∧ Inv2 s → run s acts = some s' → Inv s' ∧ Inv2 s' :=
  fun acts s s' h hr =>
    (run_rel (fun s => Inv s ∧ Inv2 s) (fun _ _ => True) (fun _ => trivial) (fun _ _ => trivial)
      (fun _ _ _ _ _ _ => trivial) acts s s'
      (fun a _ s s' h st => ⟨step_inv s s' a h.1 h.2 st, step_inv2 s s' a h.2 st⟩) h hr).1

theorem reach_inv (n : Nat) (calls : List (Bool × Bool × Bool)) (acts : List Act) (s : Sys)
    (h : run (init n calls) acts = some s) : Inv s :=
  (run_inv acts _ _ ⟨init_inv n calls, init_inv2 n calls⟩ h).1

theorem reach_inv2 (n : Nat) (calls : List (Bool × Bool × Bool)) (acts : List Act) (s : Sys)
    (h : run (init n calls) acts = some s) : Inv2 s :=
  (run_inv acts _ _ ⟨init_inv n calls, init_inv2 n calls⟩ h).2

/-- a non-lock call inside the backend holds a token -/
theorem countP_running_le (l : List Thread) : l.countP runningNonLock ≤ l.countP holdsToken := by
  apply List.countP_mono_left
  intro t _ ht
  simp only [runningNonLock, Bool.and_eq_true, Bool.not_eq_true', beq_iff_eq] at ht
  simp [holdsToken, ht.1, ht.2]

/-- **limit**: in every reachable state the number of non-lock operations inside the wrapped backend
    is at most the number of tokens taken, which is at most the configured number of connections. -/
theorem limit (n : Nat) (calls : List (Bool × Bool × Bool)) (acts : List Act) (s : Sys)
    (h : run (init n calls) acts = some s) :
    s.threads.countP runningNonLock ≤ s.tokens ∧ s.tokens ≤ s.n := by
  obtain ⟨hTok, hLe, _, _⟩ := reach_inv n calls acts s h
  exact ⟨hTok ▸ countP_running_le _, hLe⟩

/-- **frozen_no_start**: while the backend is frozen no call can pass the gate. -/
theorem frozen_no_start (s : Sys) (i : Nat) (h : s.frozen = true) : step s (.passGate i) = none := by
  simp only [step]
  split
  · simp [h]
  · rfl

def beforeGate (t : Thread) : Prop := t.pc = .start ∨ t.pc = .haveToken

/-- **frozen_no_admission** (one step, any action): while frozen, a non-lock call that has not passed
    the gate stays in front of it (it may take a token, or be rejected for invalid arguments) and does
    not reach the wrapped backend. -/
theorem frozen_no_admission (s s' : Sys) (a : Act) (hf : s.frozen = true) (st : step s a = some s')
    (i : Nat) (t t' : Thread) (ht : s.threads[i]? = some t) (ht' : s'.threads[i]? = some t')
    (hnl : t.isLock = false) (hb : beforeGate t) :
    t'.called = t.called ∧ (beforeGate t' ∨ (t'.pc = .done ∧ t.valid = false)) := by
  refine (step_rel (fun t t' => t.isLock = false → beforeGate t →
      t'.called = t.called ∧ (beforeGate t' ∨ (t'.pc = .done ∧ t.valid = false)))
    (fun _ _ hb => ⟨rfl, .inl hb⟩) (fun u u' tok mv hnl hb => ?_) st).2 i t t' ht ht' hnl hb
  cases mv with
  | reject _ hv => exact ⟨rfl, .inr ⟨rfl, hv⟩⟩
  | getToken => exact ⟨rfl, .inl (.inr rfl)⟩
  | cancel => exact ⟨rfl, .inl hb⟩
  | passGate _ hnf => rw [hf] at hnf; cases hnf
  | enterCancelled hc | enter hc =>
    rcases hc with hc | hc
    · rcases hb with hb | hb <;> simp [hc] at hb
    · simp [hnl] at hc
  | finish hc => rcases hc with hc | hc <;> rcases hb with hb | hb <;> simp [hc] at hb

/-- **lock_never_blocked**: in every reachable state — in particular when all tokens are taken and the
    backend is frozen — every unfinished lock-file call has an enabled step of its own. -/
theorem lock_never_blocked (n : Nat) (calls : List (Bool × Bool × Bool)) (acts : List Act) (s : Sys)
    (h : run (init n calls) acts = some s) (i : Nat) (t : Thread) (ht : s.threads[i]? = some t)
    (hl : t.isLock = true) (hnd : t.pc ≠ .done) :
    (step s (.reject i)).isSome ∨ (step s (.enter i)).isSome ∨ (step s (.finish i)).isSome := by
  obtain ⟨_, _, _, hGate⟩ := reach_inv n calls acts s h
  have hg := hGate t (List.mem_of_getElem? ht)
  simp only [step, ht]
  cases hpc : t.pc with
  | start =>
    -- rejected if invalid; else a lock call enters without token and without passing the gate
    cases hv : t.valid with
    | false => left; simp
    | true => right; left; simp [hl]; split <;> rfl
  | haveToken => exact absurd (hg (.inl hpc)).1 (by simp [hl])
  | passedGate => exact absurd (hg (.inr hpc)).1 (by simp [hl])
  | running | returning => right; right; simp
  | done => exact absurd hpc hnd

/-- **cancelled_ctx_no_backend_call**: a call whose context is already cancelled (or whose arguments
    are invalid) never reaches the wrapped backend. -/
theorem cancelled_ctx_no_backend_call (n : Nat) (calls : List (Bool × Bool × Bool)) (acts : List Act)
    (s : Sys) (h : run (init n calls) acts = some s) (t : Thread) (ht : t ∈ s.threads)
    (hc : t.cancelled = true ∨ t.valid = false) : t.called = false := by
  obtain ⟨_, _, hCall, _⟩ := reach_inv n calls acts s h
  cases hcd : t.called
  · rfl
  · have := hCall t ht hcd
    rcases hc with hc | hc <;> simp [this.1, this.2] at hc

theorem reach_specState (n : Nat) (calls : List (Bool × Bool × Bool)) (acts : List Act) (s : Sys)
    (h : run (init n calls) acts = some s) : specState s = true := by
  have hl := limit n calls acts s h
  simp only [specState, Bool.and_eq_true, decide_eq_true_eq, List.all_eq_true, Bool.or_eq_true,
    Bool.not_eq_true', Bool.and_eq_true]
  refine ⟨by omega, ?_⟩
  intro t ht
  cases hcd : t.called
  · exact Or.inl rfl
  · obtain ⟨_, _, hCall, _⟩ := reach_inv n calls acts s h
    exact Or.inr (hCall t ht hcd)

/-- What a frozen backend's steps do to a non-lock call not between the gate and the context check:
    it keeps `called` and does not get there. -/
def Quiet (t t' : Thread) : Prop :=
  t'.isLock = t.isLock ∧ (t.isLock = false → t.pc ≠ .passedGate → t'.called = t.called ∧ t'.pc ≠ .passedGate)

theorem Quiet.refl (t : Thread) : Quiet t t := ⟨rfl, fun _ h => ⟨rfl, h⟩⟩

theorem Quiet.trans {t u v : Thread} (h1 : Quiet t u) (h2 : Quiet u v) : Quiet t v :=
  ⟨h2.1.trans h1.1, fun hl hp =>
    let ⟨c1, p1⟩ := h1.2 hl hp
    let ⟨c2, p2⟩ := h2.2 (h1.1.trans hl) p1
    ⟨c2.trans c1, p2⟩⟩

theorem Move.quiet {s : Sys} {t t' : Thread} {tok : Nat} (hf : s.frozen = true) (mv : Move s t t' tok) :
    Quiet t t' := by
  cases mv with
  | reject | getToken | finish => exact ⟨rfl, fun _ _ => ⟨rfl, nofun⟩⟩
  | cancel => exact ⟨rfl, fun _ h => ⟨rfl, h⟩⟩
  | passGate _ hnf => rw [hf] at hnf; cases hnf
  | enterCancelled hc | enter hc =>
    -- past the gate already, or a lock call
    exact ⟨rfl, fun hl hp => hc.elim (absurd · hp) fun hc => by simp [hl] at hc⟩

/-- **frozen_quiet_run**: if the backend is frozen and no call is between the gate and the backend
    call (so whenever `Freeze` is taken in a settled state), then for every schedule without
    `unfreeze` the backend stays frozen and no non-lock call newly reaches the wrapped backend. -/
theorem frozen_quiet_run : ∀ (acts : List Act) (s s' : Sys), s.frozen = true →
    (∀ t ∈ s.threads, t.isLock = false → t.pc ≠ .passedGate) →
    Act.unfreeze ∉ acts → run s acts = some s' →
    s'.frozen = true ∧ ∀ (i : Nat) (t t' : Thread), s.threads[i]? = some t → s'.threads[i]? = some t' →
      t.isLock = false → t'.called = t.called := by
  intro acts s s' hf hq hnu hr
  obtain ⟨hf', -, h⟩ := run_rel (·.frozen = true) Quiet Quiet.refl Quiet.trans
    (fun _ _ _ _ hf mv => mv.quiet hf) acts s s'
    (fun a ha _ _ hf st => step_frozen st hf fun h => hnu (h ▸ ha)) hf hr
  exact ⟨hf', fun i t t' ht ht' hl => ((h i t t' ht ht').2 hl (hq t (List.mem_of_getElem? ht) hl)).1⟩

theorem run_attrs (acts : List Act) (s s' : Sys) (hr : run s acts = some s') :
    s'.threads.length = s.threads.length ∧
    ∀ (i : Nat) (t t' : Thread), s.threads[i]? = some t → s'.threads[i]? = some t' → t'.isLock = t.isLock :=
  (run_rel (fun _ => True) (fun t t' => t'.isLock = t.isLock) (fun _ => rfl) (fun h1 h2 => h2.trans h1)
    (fun _ _ _ _ _ mv => by cases mv <;> rfl) acts s s' (fun _ _ _ _ _ _ => trivial) trivial hr).2

/-- Kept by every `Move`: `enter` needs `cancelled = false`. -/
def Doomed (t : Thread) : Prop := t.cancelled = true ∧ t.called = false

theorem Move.doomed {s : Sys} {t t' : Thread} {tok : Nat} (mv : Move s t t' tok) (h : Doomed t) : Doomed t' := by
  cases mv with
  | enter _ hcan => rw [h.1] at hcan; cases hcan
  | cancel => exact ⟨rfl, h.2⟩
  | _ => exact h

/-- **cancelled_while_waiting_no_backend_call** (the order the lock code relies on): if the context of
    a call is cancelled while the call is still waiting for a token or parked at the freeze gate — e.g.
    by `tryRefreshStaleLock` cancelling the lock context while the backend is frozen — the call never
    reaches the wrapped backend, whatever happens afterwards (Unfreeze, tokens becoming free, …). -/
theorem cancelled_while_waiting_no_backend_call (n : Nat) (calls : List (Bool × Bool × Bool))
    (pre post : List Act) (s1 s : Sys) (i : Nat) (t1 : Thread)
    (h1 : run (init n calls) pre = some s1) (ht1 : s1.threads[i]? = some t1)
    (hw : t1.pc = .start ∨ t1.pc = .haveToken ∨ t1.pc = .passedGate)
    (h2 : run s1 (.cancel i :: post) = some s) (t : Thread) (ht : s.threads[i]? = some t) :
    t.called = false := by
  -- still waiting, so not called yet (`Inv2`); the `cancel` step dooms the call
  have hnc : t1.called = false := by
    cases hc : t1.called with
    | false => rfl
    | true => rcases reach_inv2 n calls pre s1 h1 t1 (List.mem_of_getElem? ht1) hc with h | h <;> simp [h] at hw
  have hstep : step s1 (.cancel i) = some (setT s1 i { t1 with cancelled := true }) := by
    simp only [step, ht1, hw, if_true]
  obtain ⟨s2, hs2, h2⟩ := run_cons h2
  cases hstep.symm.trans hs2
  have hset : (setT s1 i { t1 with cancelled := true }).threads[i]? = some { t1 with cancelled := true } :=
    List.getElem?_set_self (List.getElem?_eq_some_iff.mp ht1).1
  exact ((run_rel (fun _ => True) (fun t t' => Doomed t → Doomed t') (fun _ => id) (fun h1 h2 => h2 ∘ h1)
    (fun _ _ _ _ _ mv => mv.doomed) post _ s (fun _ _ _ _ _ _ => trivial) trivial h2).2.2 i _ t hset ht ⟨rfl, hnc⟩).2

/-- Link to `specObs`, the predicate the driver evaluates on observations of the implementation; `s`, `s'`
    are the model states before and after a harness command. `hsettled`: lock calls have taken their
    always-enabled steps; `hrel`: what `run_attrs` and, between frozen states, `frozen_quiet_run` give. -/
theorem specObs_of_model (s s' : Sys) (hs : Inv s') (hlen : s.threads.length = s'.threads.length)
    (hsettled : ∀ t ∈ s'.threads, t.isLock = true → t.pc = .running ∨ t.pc = .done)
    (hrel : ∀ (i : Nat) (t t' : Thread), s.threads[i]? = some t → s'.threads[i]? = some t' →
      t'.isLock = t.isLock ∧ (s.frozen = true → s'.frozen = true → t.isLock = false → t'.called = t.called)) :
    specObs s'.n s.frozen s'.frozen (s.threads.map obsOf) (s'.threads.map obsOf) = none := by
  obtain ⟨hTok, hLe, hCall, _⟩ := hs
  unfold specObs
  have h1 : ¬ (List.countP (fun o => !o.isLock && o.inner) (s'.threads.map obsOf) > s'.n) := by
    rw [List.countP_map]
    -- `(fun o => !o.isLock && o.inner) ∘ obsOf` unfolds to `runningNonLock`
    exact Nat.not_lt.mpr (Nat.le_trans (countP_running_le s'.threads) (hTok ▸ hLe))
  have h2 : (s'.threads.map obsOf).any (fun o => o.isLock && !(o.inner || o.returned)) = false := by
    rw [List.any_map, List.any_eq_false]
    intro t ht
    simp only [Function.comp, obsOf, Bool.and_eq_true, Bool.not_eq_true', Bool.or_eq_false_iff, beq_eq_false_iff_ne, not_and]
    intro hl
    rcases hsettled t ht hl with h | h <;> simp [h]
  have h3 : (s'.threads.map obsOf).any (fun o => o.called && (o.cancelled || !o.valid)) = false := by
    rw [List.any_map, List.any_eq_false]
    intro t ht
    simp only [Function.comp, obsOf, Bool.and_eq_true, Bool.or_eq_true, Bool.not_eq_true', not_and, not_or]
    intro hc
    have := hCall t ht hc
    simp [this.1, this.2]
  have h4 : (s.frozen && s'.frozen &&
      (List.range (s'.threads.map obsOf).length).any (fun i =>
        let c := (s'.threads.map obsOf).getD i default
        let p := (s.threads.map obsOf).getD i { c with inner := false, called := false, returned := false }
        !c.isLock && c.called && !p.called)) = false := by
    cases hf : s.frozen
    · simp
    · cases hf' : s'.frozen
      · simp
      · simp only [Bool.and_self, Bool.true_and]
        rw [List.any_eq_false]
        intro i hi
        simp only [List.mem_range, List.length_map] at hi
        have hi0 : i < s.threads.length := hlen ▸ hi
        simp only [List.getD_eq_getElem?_getD, List.getElem?_map, List.getElem?_eq_getElem hi,
          List.getElem?_eq_getElem hi0, Option.map_some, Option.getD_some]
        have := hrel i _ _ (List.getElem?_eq_getElem hi0) (List.getElem?_eq_getElem hi)
        cases hl : (s.threads[i]).isLock
        · have hc := this.2 hf hf' hl
          simp only [obsOf, hc]
          cases (s.threads[i]).called <;> simp
        · simp [obsOf, this.1, hl]
  simp only [h1, h2, h3, h4, if_false, Bool.false_eq_true]

/-- **model_meets_specObs**: along any run of the model without `unfreeze` from a reachable `s` to `s'`,
    where in `s`, if frozen, nobody is between gate and backend call and in `s'` every lock call has
    taken its always-enabled steps, `specObs` holds for the model's own observations. -/
theorem model_meets_specObs (n : Nat) (calls : List (Bool × Bool × Bool)) (pre acts : List Act) (s s' : Sys)
    (h0 : run (init n calls) pre = some s) (h1 : run s acts = some s')
    (hq : s.frozen = true → ∀ t ∈ s.threads, t.isLock = false → t.pc ≠ .passedGate)
    (hnu : Act.unfreeze ∉ acts)
    (hsettled : ∀ t ∈ s'.threads, t.isLock = true → t.pc = .running ∨ t.pc = .done) :
    specObs s'.n s.frozen s'.frozen (s.threads.map obsOf) (s'.threads.map obsOf) = none := by
  have hinv : Inv s' := (run_inv acts s s' ⟨reach_inv n calls pre s h0, reach_inv2 n calls pre s h0⟩ h1).1
  obtain ⟨hlen, hattr⟩ := run_attrs acts s s' h1
  apply specObs_of_model s s' hinv hlen.symm hsettled
  intro i t t' ht ht'
  refine ⟨hattr i t t' ht ht', ?_⟩
  intro hf _ hl
  exact (frozen_quiet_run acts s s' hf (hq hf) hnu h1).2 i t t' ht ht' hl

/-- `typeDependentLimit` takes the token first and only then passes the freeze gate (lock then
    unlock of `freezeLock`); this is the `getToken`-before-`passGate` order of the model. -/
theorem t1_token_before_gate :
    Restic.Gen.sema_typeDependentLimit_calls.idxOf "be.sem.GetToken"
      < Restic.Gen.sema_typeDependentLimit_calls.idxOf "be.freezeLock.Lock"
    ∧ Restic.Gen.sema_typeDependentLimit_calls.idxOf "be.freezeLock.Lock"
      < Restic.Gen.sema_typeDependentLimit_calls.idxOf "be.freezeLock.Unlock"
    ∧ "be.freezeLock.Unlock" ∈ Restic.Gen.sema_typeDependentLimit_calls := by decide +kernel

/-- `Freeze`/`Unfreeze` are exactly lock/unlock of the same mutex the gate uses. -/
theorem t1_freeze_is_gate_mutex :
    Restic.Gen.sema_Freeze_calls = ["be.freezeLock.Lock"]
    ∧ Restic.Gen.sema_Unfreeze_calls = ["be.freezeLock.Unlock"] := by decide +kernel

/-- in each wrapped method: argument validation, then `typeDependentLimit`, then the context check,
    then the wrapped backend's method (order `reject` / `getToken`+`passGate` / `enter` of the model) -/
def wrappedOrder (calls : List String) (inner : String) : Bool :=
  calls.idxOf "h.Valid" < calls.idxOf "be.typeDependentLimit" &&
  calls.idxOf "be.typeDependentLimit" < calls.idxOf "ctx.Err" &&
  calls.idxOf "ctx.Err" < calls.idxOf inner && calls.contains inner &&
  calls.count "be.typeDependentLimit" == 1 && calls.contains "be.typeDependentLimit()"

theorem t1_wrapped_order :
    wrappedOrder Restic.Gen.sema_Save_calls "be.Backend.Save" = true
    ∧ wrappedOrder Restic.Gen.sema_Load_calls "be.Backend.Load" = true
    ∧ wrappedOrder Restic.Gen.sema_Stat_calls "be.Backend.Stat" = true
    ∧ wrappedOrder Restic.Gen.sema_Remove_calls "be.Backend.Remove" = true := by decide +kernel

/-- evaluated by the compiled current source (harness stream `facts`): after
    `typeDependentLimit(t)` exactly the non-lock types hold one token, lock files hold none, and the
    returned function gives it back — the `isLock` exemption of the model. -/
theorem t1_lock_exempt :
    Restic.Gen.sema_tokens_held_lock = 0
    ∧ Restic.Gen.sema_tokens_held_data = 1 ∧ Restic.Gen.sema_tokens_held_key = 1
    ∧ Restic.Gen.sema_tokens_held_snapshot = 1 ∧ Restic.Gen.sema_tokens_held_index = 1
    ∧ Restic.Gen.sema_tokens_held_config = 1
    ∧ Restic.Gen.sema_tokens_after_release_data = 0 ∧ Restic.Gen.sema_tokens_after_release_key = 0
    ∧ Restic.Gen.sema_tokens_after_release_snapshot = 0 ∧ Restic.Gen.sema_tokens_after_release_index = 0
    ∧ Restic.Gen.sema_tokens_after_release_config = 0 ∧ Restic.Gen.sema_tokens_after_release_lock = 0 := by
  decide

/-- two connections, three data calls and one lock call: both slots taken, backend frozen, third data
    call waiting — reachable, and the lock call still has an enabled step (and completes). -/
def exCalls : List (Bool × Bool × Bool) := [(false, true, false), (false, true, false), (false, true, false), (true, true, false)]
def exSched : List Act := [.getToken 0, .passGate 0, .enter 0, .getToken 1, .passGate 1, .enter 1, .freeze]

example : (run (init 2 exCalls) exSched).map (fun s => (s.tokens, s.frozen, s.threads.countP runningNonLock)) = some (2, true, 2) := by decide +kernel
example : (run (init 2 exCalls) (exSched ++ [.getToken 2])) = none := by decide +kernel
example : ((run (init 2 exCalls) (exSched ++ [.enter 3, .finish 3])).map (fun s => (s.threads.getD 3 default).pc)) = some .done := by decide +kernel
/-- a cancelled call passes through without reaching the backend; an invalid one is rejected -/
example : ((run (init 1 [(false, true, true), (false, false, false)]) [.getToken 0, .passGate 0, .enter 0, .finish 0, .reject 1]).map
    (fun s => (s.tokens, s.threads.map (·.called)))) = some (0, [false, false]) := by decide +kernel
/-- the hypotheses of `frozen_quiet_run` are satisfiable by a reachable non-trivial state -/
example : ∃ s, run (init 2 exCalls) exSched = some s ∧ s.frozen = true ∧
    (∀ t ∈ s.threads, t.isLock = false → t.pc ≠ .passedGate) := by
  refine ⟨_, rfl, by decide, by decide⟩

end Restic.Props.C37
