import Restic.Proofs.C53_counts
import Restic.Gen.Source
/-!
# C53 — diff reports exactly the paths that differ between two snapshots

Theorems about `Restic.Model.Diff` (transcription of `DualTreeIterator`, `Comparer.diffTree`,
`printDir`, `collectDir`), for all pairs of trees of any size and depth.

Hypotheses used (each is what a restic repository guarantees, and each has an executable check):
* `sortedL`  — names strictly increasing in every tree blob (`TreeJSONBuilder.AddNode`);
* `shapeL`   — only directories have children;
* `Faithful` — content addressing: directories with the same subtree id have the same children
               (two different tree blobs with the same id would be a SHA-256 collision).
-/
namespace Restic.Props.C53
open Restic.Model.SnapTree Restic.Model.Diff Restic.Proofs.C53

/-- `t` occurs in the forest `ts`, at any depth -/
inductive Occurs : Tree → List Tree → Prop
  | top {t : Tree} {ts : List Tree} : t ∈ ts → Occurs t ts
  | under {t : Tree} {m : Meta} {kids ts : List Tree} : Tree.mk m kids ∈ ts → Occurs t kids → Occurs t ts

def Faithful (l1 l2 : List Tree) : Prop :=
  ∀ t1 t2, Occurs t1 l1 → Occurs t2 l2 → t1.meta.type = .dir → t2.meta.type = .dir →
    t1.meta.subtree = t2.meta.subtree → t1.kids = t2.kids

theorem Faithful.kids {l1 l2 : List Tree} (h : Faithful l1 l2) {m1 m2 : Meta} {k1 k2 : List Tree}
    (h1 : Tree.mk m1 k1 ∈ l1) (h2 : Tree.mk m2 k2 ∈ l2) : Faithful k1 k2 :=
  fun t1 t2 o1 o2 => h t1 t2 (Occurs.under h1 o1) (Occurs.under h2 o2)

mutual
theorem eqT_eq : ∀ (a b : Tree), eqT a b = true → a = b
  | .mk m k, .mk m' k', h => by
    simp only [eqT, Bool.and_eq_true, beq_iff_eq] at h
    rw [h.1, eqL_eq k k' h.2]
theorem eqL_eq : ∀ (a b : List Tree), eqL a b = true → a = b
  | [], [], _ => rfl
  | a :: as, b :: bs, h => by
    simp only [eqL, Bool.and_eq_true] at h
    rw [eqT_eq a b h.1, eqL_eq as bs h.2]
  | [], _ :: _, h => by simp [eqL] at h
  | _ :: _, [], h => by simp [eqL] at h
end

theorem mem_subL_of_mem {t : Tree} {ts : List Tree} (h : t ∈ ts) : t ∈ subL ts := by
  induction ts with
  | nil => cases h
  | cons x xs ih =>
    simp only [subL, List.mem_append]
    rcases List.mem_cons.mp h with rfl | h'
    · left; cases t; simp [subT]
    · right; exact ih h'

theorem subL_kids {m : Meta} {kids ts : List Tree} {t : Tree} (h : Tree.mk m kids ∈ ts) (ht : t ∈ subL kids) :
    t ∈ subL ts := by
  induction ts with
  | nil => cases h
  | cons x xs ih =>
    simp only [subL, List.mem_append]
    rcases List.mem_cons.mp h with rfl | h'
    · left; simp [subT, ht]
    · right; exact ih h'

theorem occurs_subL {t : Tree} {ts : List Tree} (h : Occurs t ts) : t ∈ subL ts := by
  induction h with
  | top h => exact mem_subL_of_mem h
  | under hm _ ih => exact subL_kids hm ih

theorem faithful_of_check (l1 l2 : List Tree) (h : faithfulB l1 l2 = true) : Faithful l1 l2 := by
  intro t1 t2 o1 o2 d1 d2 hs
  simp only [faithfulB, List.all_eq_true, Bool.or_eq_true, Bool.not_eq_true', Bool.and_eq_false_iff,
    beq_eq_false_iff_ne, ne_eq] at h
  rcases h t1 (occurs_subL o1) t2 (occurs_subL o2) with ((h' | h') | h') | h'
  · exact absurd d1 h'
  · exact absurd d2 h'
  · exact absurd hs h'
  · exact eqL_eq _ _ h'

/-- `diffTree` descends only below a pair of directories: the depth of tree 1 alone bounds the fuel -/
theorem depth_kids {m : Meta} {k ts : List Tree} (h : Tree.mk m k ∈ ts) : depthL k < depthL ts := by
  induction ts with
  | nil => cases h
  | cons t ts ih =>
    simp only [depthL]
    rcases List.mem_cons.mp h with rfl | h'
    · simp only [depthT]; omega
    · have := ih h'; omega

/-- **dual_merge** (DESIGN §5 C53). On strictly sorted inputs the dual iteration yields, for every name occurring in either tree,
    the pair (node of tree 1, node of tree 2) — `Tree1`/`Tree2` set iff present — and nothing else. -/
theorem dual_merge (l1 l2 : List Tree) (h1 : sortedL l1 = true) (h2 : sortedL l2 = true) (a b : Option Tree) :
    (a, b) ∈ dual l1 l2 ↔ ∃ n, a = find l1 n ∧ b = find l2 n ∧ (a.isSome ∨ b.isSome) :=
  mem_dual l1 l2 (levelSorted_of_sortedL _ h1) (levelSorted_of_sortedL _ h2) a b

/-- For the name `n`: the lines printed while the dual iteration handles `n` are exactly the
    expected line for the path `[n]` and the expected lines below it. The left side is shaped after
    `dual_merge`, the right after `expected_split`, so that their `∃ n` meet in `diff_lines`. -/
theorem item_lines (md : Bool) (l : Line) (rec : List Name → List Tree → List Tree → List Ev) (pre : List Name)
    (l1 l2 : List Tree) (n : Name)
    (so1 : sortedL l1 = true) (so2 : sortedL l2 = true) (sh1 : shapeL l1 = true) (sh2 : shapeL l2 = true)
    (hf : Faithful l1 l2)
    (hrec : ∀ m1 k1 m2 k2, Tree.mk m1 k1 ∈ l1 → Tree.mk m2 k2 ∈ l2 → m1.type = .dir → m2.type = .dir →
      (Ev.line l ∈ rec (pre ++ [n]) k1 k2 ↔ Expected md (pre ++ [n]) k1 k2 l)) :
    (((find l1 n).isSome ∨ (find l2 n).isSome) ∧ Ev.line l ∈ diffItem rec md pre (find l1 n, find l2 n)) ↔
      ((∃ l', expectedLine md l1 l2 [n] = some l' ∧ l = shift pre l') ∨
       Expected md (pre ++ [n]) (kidsOf (find l1 n)) (kidsOf (find l2 n)) l) := by
  have hone : ∀ (s : String) (d : Bool), (∃ l', some (⟨[n], d, s⟩ : Line) = some l' ∧ l = shift pre l') ↔
      l = ⟨pre ++ [n], d, s⟩ := fun s d => by simp [shift]
  cases ha : find l1 n with
  | none =>
    cases hb : find l2 n with
    | none =>
      -- `n` is on neither side: the item is not one of the iteration, and nothing is expected
      have hexp : expectedLine md l1 l2 [n] = none := by simp [expectedLine, lookup_single, ha, hb]
      simp [hexp, kidsOf, not_expected_same]
    | some y =>
      obtain ⟨hy, rfl⟩ := find_some hb
      have hexp : expectedLine md l1 l2 [nm y] = some ⟨[nm y], y.meta.type == .dir, "+"⟩ := by
        simp [expectedLine, lookup_single, ha, hb]
      rw [hexp, hone, kidsOf, kidsOf, expected_added, (diffItem_added rec md pre y).mem_iff,
        printDirT_lines .added l pre y (sortedT_of_mem so2 hy) (shapeT_of_mem sh2 hy)]
      exact and_iff_right (Or.inr rfl)
  | some x =>
    obtain ⟨hx, rfl⟩ := find_some ha
    cases hb : find l2 (nm x) with
    | none =>
      have hexp : expectedLine md l1 l2 [nm x] = some ⟨[nm x], x.meta.type == .dir, "-"⟩ := by
        simp [expectedLine, lookup_single, ha, hb]
      rw [hexp, hone, kidsOf, kidsOf, expected_removed, (diffItem_removed rec md pre x).mem_iff,
        printDirT_lines .removed l pre x (sortedT_of_mem so1 hx) (shapeT_of_mem sh1 hx)]
      exact and_iff_right (Or.inl rfl)
    | some y =>
      obtain ⟨m1, k1⟩ := x
      obtain ⟨m2, k2⟩ := y
      obtain ⟨hy, _⟩ := find_some hb
      simp only [nm, Tree.meta] at ha hb hone ⊢
      obtain ⟨shk1, hdk1⟩ := shapeL_kids sh1 hx
      obtain ⟨shk2, hdk2⟩ := shapeL_kids sh2 hy
      have sub := sub_lines rec md (pre ++ [m1.name]) l hdk1 hdk2 (fun d1 d2 hs => hf _ _ (Occurs.top hx) (Occurs.top hy) d1 d2 hs)
        (sortedL_kids so1 hx) (sortedL_kids so2 hy) shk1 shk2 (fun d1 d2 => hrec m1 k1 m2 k2 hx hy d1 d2)
      have hexp : expectedLine md l1 l2 [m1.name] =
          if modOf md m1 m2 != "" then some ⟨[m1.name], m2.type == .dir, modOf md m1 m2⟩ else none := by
        simp [expectedLine, lookup_single, ha, hb, Tree.meta]
      rw [line_mem_diffItem_both, sub, hexp]
      refine (and_iff_right (Or.inl rfl)).trans (or_congr ?_ Iff.rfl)
      by_cases hmod : modOf md m1 m2 = ""
      · simp [hmod]
      · rw [if_pos (by simpa using hmod), hone]; exact and_iff_right hmod

/-- **diff_lines** (DESIGN §5 C53). For strictly sorted, directory-shaped trees with faithful subtree ids and enough
    fuel, `diffTree` prints exactly the expected lines: a line is printed iff it is the expected
    line of some path (prefixed with the directory being compared). -/
theorem diff_lines (md : Bool) (l : Line) : ∀ (fuel : Nat) (pre : List Name) (l1 l2 : List Tree),
    sortedL l1 = true → sortedL l2 = true → shapeL l1 = true → shapeL l2 = true → Faithful l1 l2 →
    depthL l1 < fuel →
    (Ev.line l ∈ diffTree md fuel pre l1 l2 ↔ ∃ p l', expectedLine md l1 l2 p = some l' ∧ l = shift pre l') := by
  intro fuel
  induction fuel with
  | zero => intro pre l1 l2 _ _ _ _ _ hd; omega
  | succ f ih =>
    intro pre l1 l2 so1 so2 sh1 sh2 hf hd
    have step := fun n => item_lines md l (diffTree md f) pre l1 l2 n so1 so2 sh1 sh2 hf
      (fun m1 k1 m2 k2 hm1 hm2 _ _ =>
        ih (pre ++ [n]) k1 k2 (sortedL_kids so1 hm1) (sortedL_kids so2 hm2) (shapeL_kids sh1 hm1).1
          (shapeL_kids sh2 hm2).1 (hf.kids hm1 hm2) (by have := depth_kids hm1; omega))
    refine Iff.trans ?_ (expected_split md pre l1 l2 l).symm
    simp only [diffTree, List.mem_flatMap]
    constructor
    · rintro ⟨⟨a, b⟩, hmem, hl⟩
      obtain ⟨n, rfl, rfl, hs⟩ := (dual_merge l1 l2 so1 so2 a b).mp hmem
      exact ⟨n, (step n).mp ⟨hs, hl⟩⟩
    · rintro ⟨n, h⟩
      obtain ⟨hs, hl⟩ := (step n).mpr h
      exact ⟨_, (dual_merge l1 l2 so1 so2 _ _).mpr ⟨n, rfl, rfl, hs⟩, hl⟩

/-- **diff_spec** (C53 on the printed lines). The lines printed by the model of `diff` satisfy
    the executable statement of the property: every path that exists in only one snapshot is listed
    as added / removed, every path with a type or content change (or, with `--metadata`, a metadata
    change) is listed with exactly the modifiers that apply, and nothing else is listed — in
    particular nothing for identical subtrees. -/
theorem diff_spec (md : Bool) (fuel : Nat) (l1 l2 : List Tree)
    (so1 : sortedL l1 = true) (so2 : sortedL l2 = true) (sh1 : shapeL l1 = true) (sh2 : shapeL l2 = true)
    (hf : Faithful l1 l2) (hd : depthL l1 < fuel) :
    specLines md l1 l2 (lines (diffTree md fuel [] l1 l2)) = true := by
  have main := fun l => diff_lines md l fuel [] l1 l2 so1 so2 sh1 sh2 hf hd
  have in_paths : ∀ p l', expectedLine md l1 l2 p = some l' → p ∈ pathsL [] l1 ++ pathsL [] l2 := by
    intro p l' he
    unfold expectedLine at he
    rw [List.mem_append]
    cases h1 : lookup l1 p with
    | some t1 => left; simpa using lookup_mem_paths p l1 [] t1 h1
    | none =>
      cases h2 : lookup l2 p with
      | some t2 => right; simpa using lookup_mem_paths p l2 [] t2 h2
      | none => simp [h1, h2] at he
  simp only [specLines, Bool.and_eq_true, List.all_eq_true, List.any_eq_true, beq_iff_eq]
  constructor
  · intro p _
    cases he : expectedLine md l1 l2 p with
    | none => rfl
    | some l' =>
      simp only [List.contains_iff_mem]
      rw [mem_lines, main]
      exact ⟨p, l', he, (shift_nil l').symm⟩
  · intro l hl
    rw [mem_lines, main] at hl
    obtain ⟨p, l', he, rfl⟩ := hl
    exact ⟨p, in_paths p l' he, by rw [he, shift_nil]⟩

theorem collectT_no_exh : ∀ (t : Tree), Ev.exhausted ∉ collectT t := fun t h => by
  obtain ⟨b, hb⟩ := collectT_blob t _ h; cases hb

theorem ofSide_ne_exhausted {s : Side} : ¬ OfSide s Ev.exhausted := by
  rintro (⟨_, h⟩ | ⟨_, h⟩ | ⟨_, h⟩) <;> cases h

theorem runDiff_lines (md : Bool) (fuel r1 r2 : Nat) (l1 l2 : List Tree) (size : Blob → Nat) :
    (runDiff md fuel r1 r2 l1 l2 size).lines = lines (diffTree md fuel [] l1 l2) := by
  simp only [runDiff, lines, List.cons_append, List.nil_append, List.filterMap_cons, prLine]

/-- **runDiff_spec**: `diff_spec` for the change lines of the command -/
theorem runDiff_spec (md : Bool) (fuel r1 r2 : Nat) (l1 l2 : List Tree) (size : Blob → Nat)
    (so1 : sortedL l1 = true) (so2 : sortedL l2 = true) (sh1 : shapeL l1 = true) (sh2 : shapeL l2 = true)
    (hf : Faithful l1 l2) (hd : depthL l1 < fuel) :
    specLines md l1 l2 (runDiff md fuel r1 r2 l1 l2 size).lines = true := by
  rw [runDiff_lines]; exact diff_spec md fuel l1 l2 so1 so2 sh1 sh2 hf hd

/-- The one induction behind the counters: `S l1 l2` is what the projection `pr` is to yield on
    `diffTree … l1 l2`, `SI` the share in it of one item of the dual iteration (`itemL` / `itemR` when
    `S` follows the paths of tree 1 / tree 2); one hypothesis per outcome of `diffItem` and `subEvs_elim`. -/
theorem diffTree_counts {β : Type} {pr : Ev → Option β} (md : Bool) (S : List Tree → List Tree → List β)
    (SI : Option Tree × Option Tree → List β)
    (hl : ∀ l, pr (.line l) = none) (hb : ∀ w b, pr (.blob w b) = none)
    (hS : ∀ {l1 l2}, LevelSorted l1 → LevelSorted l2 → S l1 l2 = (dual l1 l2).flatMap SI)
    (hrem : ∀ pre x, sortedT x = true → shapeT x = true → (printDirT .removed pre x).filterMap pr = SI (some x, none))
    (hadd : ∀ pre y, sortedT y = true → shapeT y = true → (printDirT .added pre y).filterMap pr = SI (none, some y))
    (hboth : ∀ m1 k1 m2 k2, SI (some (.mk m1 k1), some (.mk m2 k2)) =
      (if isM m1 m2 then [Ev.changed] else []).filterMap pr ++ S k1 k2)
    (hsame : ∀ k, S k k = [])
    (hremL : ∀ pre k, sortedL k = true → shapeL k = true → (printDirL .removed pre k).filterMap pr = S k [])
    (haddL : ∀ pre k, sortedL k = true → shapeL k = true → (printDirL .added pre k).filterMap pr = S [] k) :
    ∀ (fuel : Nat) (pre : List Name) (l1 l2 : List Tree),
      sortedL l1 = true → sortedL l2 = true → shapeL l1 = true → shapeL l2 = true → Faithful l1 l2 →
      depthL l1 < fuel → (diffTree md fuel pre l1 l2).filterMap pr = S l1 l2 := by
  intro fuel
  induction fuel with
  | zero => intro pre l1 l2 _ _ _ _ _ hd; omega
  | succ f ih =>
    intro pre l1 l2 so1 so2 sh1 sh2 hf hd
    have ls1 := levelSorted_of_sortedL _ so1
    have ls2 := levelSorted_of_sortedL _ so2
    rw [diffTree, List.filterMap_flatMap, hS ls1 ls2]
    refine flatMap_congr' _ fun ⟨a, b⟩ hab => ?_
    obtain ⟨n, rfl, rfl, hs⟩ := (mem_dual l1 l2 ls1 ls2 a b).mp hab
    cases ha : find l1 n with
    | none =>
      cases hb' : find l2 n with
      | none => simp [ha, hb'] at hs
      | some y =>
        rw [filterMap_diffItem_added _ md pre hb,
          hadd pre y (sortedT_of_mem so2 (find_some hb').1) (shapeT_of_mem sh2 (find_some hb').1)]
    | some x =>
      obtain ⟨hx, _⟩ := find_some ha
      cases hb' : find l2 n with
      | none => rw [filterMap_diffItem_removed _ md pre hb, hrem pre x (sortedT_of_mem so1 hx) (shapeT_of_mem sh1 hx)]
      | some y =>
        obtain ⟨m1, k1⟩ := x
        obtain ⟨m2, k2⟩ := y
        obtain ⟨hy, _⟩ := find_some hb'
        obtain ⟨shk1, hdk1⟩ := shapeL_kids sh1 hx
        obtain ⟨shk2, hdk2⟩ := shapeL_kids sh2 hy
        have sok1 := sortedL_kids so1 hx
        have sok2 := sortedL_kids so2 hy
        rw [filterMap_diffItem_both _ md pre hb hl, hboth]
        congr 1
        exact subEvs_elim (motive := fun evs a b => evs.filterMap pr = S a b) _ _ hdk1 hdk2
          (fun d1 d2 hs => hf _ _ (Occurs.top hx) (Occurs.top hy) d1 d2 hs)
          ((filterMap_collectL hb k1).trans (hsame k1).symm)
          (fun _ _ => ih _ k1 k2 sok1 sok2 shk1 shk2 (hf.kids hx hy) (by have := depth_kids hx; omega))
          (hremL _ k1 sok1 shk1) (haddL _ k2 sok2 shk2)

/-- **removed_items**: the nodes counted in `stats.Removed` are exactly, in tree order, the nodes
    whose path exists in the first snapshot only. -/
theorem removed_items (md : Bool) : ∀ (fuel : Nat) (pre : List Name) (l1 l2 : List Tree),
    sortedL l1 = true → sortedL l2 = true → shapeL l1 = true → shapeL l2 = true → Faithful l1 l2 →
    depthL l1 < fuel → statItems .removed (diffTree md fuel pre l1 l2) = onlyIn l1 l2 :=
  diffTree_counts md (specList gOnly) (itemL gOnly) (fun _ => rfl) (fun _ _ => rfl) (specList_dualL gOnly)
    (fun pre x so sh => (stat_printDirT_self _ pre x sh).trans (only_nil_T x so).symm)
    (fun pre y _ _ => stat_printDirT_ne _ _ (by decide) pre y)
    -- `Ev.changed` is no stat event, and `gOnly` yields nothing for a node present on both sides
    (fun m1 k1 m2 k2 => by show specAt gOnly _ _ = _; split <;> rfl)
    only_same (fun pre k so sh => (stat_printDirL_self _ pre k sh).trans (only_nil k so).symm)
    (fun pre k _ _ => stat_printDirL_ne _ _ (by decide) pre k)

/-- **added_items**: the nodes counted in `stats.Added` are exactly, in tree order, the nodes whose
    path exists in the second snapshot only. -/
theorem added_items (md : Bool) : ∀ (fuel : Nat) (pre : List Name) (l1 l2 : List Tree),
    sortedL l1 = true → sortedL l2 = true → shapeL l1 = true → shapeL l2 = true → Faithful l1 l2 →
    depthL l1 < fuel → statItems .added (diffTree md fuel pre l1 l2) = onlyIn l2 l1 :=
  diffTree_counts md (fun a b => specList gOnly b a) (itemR gOnly) (fun _ => rfl) (fun _ _ => rfl) (specList_dualR gOnly)
    (fun pre x _ _ => stat_printDirT_ne _ _ (by decide) pre x)
    (fun pre y so sh => (stat_printDirT_self _ pre y sh).trans (only_nil_T y so).symm)
    (fun m1 k1 m2 k2 => by show specAt gOnly _ _ = _; split <;> rfl)
    only_same (fun pre k _ _ => stat_printDirL_ne _ _ (by decide) pre k)
    (fun pre k so sh => (stat_printDirL_self _ pre k sh).trans (only_nil k so).symm)

/-- **changed_files**: `ChangedFiles` counts exactly the paths that are regular files with different
    content lists in both snapshots. -/
theorem changed_files (md : Bool) : ∀ (fuel : Nat) (pre : List Name) (l1 l2 : List Tree),
    sortedL l1 = true → sortedL l2 = true → shapeL l1 = true → shapeL l2 = true → Faithful l1 l2 →
    depthL l1 < fuel → (diffTree md fuel pre l1 l2).filterMap prChanged = specList gChanged l1 l2 :=
  diffTree_counts md (specList gChanged) (itemL gChanged) (fun _ => rfl) (fun _ _ => rfl) (specList_dualL gChanged)
    (fun pre x _ _ => by rw [changed_printDirT, itemL, specAt, kidsOf, changed_nil_right]; rfl)
    (fun pre y _ _ => changed_printDirT _ pre y)
    (fun m1 k1 m2 k2 => by
      simp only [itemL, specAt, gChanged, kidsOf, Tree.kids, Tree.meta]
      by_cases hm : isM m1 m2 = true <;> simp [hm, prChanged])
    changed_same (fun pre k _ _ => (changed_printDirL _ pre k).trans (changed_nil_right k).symm)
    (fun pre k _ _ => changed_printDirL _ pre k)

/-- **runDiff_counts**: the command's item counters (added / removed files, dirs, others) and
    `changedFiles` satisfy the executable statement `specCounts`. -/
theorem runDiff_counts (md : Bool) (fuel r1 r2 : Nat) (l1 l2 : List Tree) (size : Blob → Nat)
    (so1 : sortedL l1 = true) (so2 : sortedL l2 = true) (sh1 : shapeL l1 = true) (sh2 : shapeL l2 = true)
    (hf : Faithful l1 l2) (hd : depthL l1 < fuel) :
    specCounts l1 l2 (runDiff md fuel r1 r2 l1 l2 size) = true := by
  have hr := removed_items md fuel [] l1 l2 so1 so2 sh1 sh2 hf hd
  have ha := added_items md fuel [] l1 l2 so1 so2 sh1 sh2 hf hd
  have hc := changed_files md fuel [] l1 l2 so1 so2 sh1 sh2 hf hd
  have e1 : statItems .removed ([Ev.blob .before ⟨true, r1⟩, Ev.blob .after ⟨true, r2⟩] ++ diffTree md fuel [] l1 l2)
      = onlyIn l1 l2 := by
    rw [← hr]; simp only [statItems, List.cons_append, List.nil_append, List.filterMap_cons, prStat]
  have e2 : statItems .added ([Ev.blob .before ⟨true, r1⟩, Ev.blob .after ⟨true, r2⟩] ++ diffTree md fuel [] l1 l2)
      = onlyIn l2 l1 := by
    rw [← ha]; simp only [statItems, List.cons_append, List.nil_append, List.filterMap_cons, prStat]
  have e3 : changedCount ([Ev.blob .before ⟨true, r1⟩, Ev.blob .after ⟨true, r2⟩] ++ diffTree md fuel [] l1 l2)
      = changedIn l1 l2 := by
    simp only [changedCount, changedIn, ← hc, List.cons_append, List.nil_append, List.filterMap_cons, prChanged]
  simp only [specCounts, runDiff, e1, e2, e3, cntOK, mkStat, beq_self_eq_true, Bool.and_self]

theorem not_exhausted (md : Bool) : ∀ (fuel : Nat) (pre : List Name) (l1 l2 : List Tree),
    sortedL l1 = true → sortedL l2 = true → depthL l1 < fuel → Ev.exhausted ∉ diffTree md fuel pre l1 l2 := by
  intro fuel
  induction fuel with
  | zero => intro pre l1 l2 _ _ hd; omega
  | succ f ih =>
    intro pre l1 l2 so1 so2 hd
    simp only [diffTree, List.mem_flatMap, not_exists, not_and]
    rintro ⟨a, b⟩ hmem
    obtain ⟨n, rfl, rfl, hs⟩ := (dual_merge l1 l2 so1 so2 a b).mp hmem
    cases ha : find l1 n with
    | none =>
      cases hb : find l2 n with
      | none => simp [diffItem]
      | some y => exact fun h => ofSide_ne_exhausted (printDirT_ofSide _ _ _ _ ((diffItem_added _ md pre y).mem_iff.mp h))
    | some x =>
      cases hb : find l2 n with
      | none => exact fun h => ofSide_ne_exhausted (printDirT_ofSide _ _ _ _ ((diffItem_removed _ md pre x).mem_iff.mp h))
      | some y =>
        obtain ⟨m1, k1⟩ := x
        obtain ⟨m2, k2⟩ := y
        obtain ⟨hx, _⟩ := find_some ha
        obtain ⟨hy, _⟩ := find_some hb
        -- blobs, the modifier line and the `changed` mark aside, the events are those of `subEvs`
        simp only [diffItem_both, List.mem_append, List.mem_map, reduceCtorEq, and_false, exists_false,
          false_or, not_or]
        refine ⟨⟨by split <;> simp, by split <;> simp⟩, fun h => ?_⟩
        rcases mem_subEvs _ _ h with h | h | h | h
        · obtain ⟨_, hb⟩ := collectL_blob _ _ h; cases hb
        · exact ih _ k1 k2 (sortedL_kids so1 hx) (sortedL_kids so2 hy) (by have := depth_kids hx; omega) h
        · exact ofSide_ne_exhausted (printDirL_ofSide _ _ _ _ h)
        · exact ofSide_ne_exhausted (printDirL_ofSide _ _ _ _ h)

/-- T1 (from cmd/restic/cmd_diff.go): `diffTree` iterates with
    `DualTreeIterator`, skips identical subtrees with `collectDir`, and calls `printDir` in four
    places — removed directory, added directory and the two directory type changes (the F5 fix). -/
theorem diffTree_structure :
    (Restic.Gen.diffTree_calls.filter (· == "c.printDir")).length = 4 ∧
    "data.DualTreeIterator" ∈ Restic.Gen.diffTree_calls ∧ "c.collectDir" ∈ Restic.Gen.diffTree_calls ∧
    "c.diffTree" ∈ Restic.Gen.diffTree_calls := by decide +kernel

def exA : List Tree :=
  [ .mk { name := [97], type := .file, content := [1] } [],
    .mk { name := [100], type := .dir, subtree := 10 }
      [ .mk { name := [120], type := .file, content := [2] } [],
        .mk { name := [121], type := .dir, subtree := 11 } [ .mk { name := [122], type := .symlink } [] ] ],
    .mk { name := [101], type := .dir, subtree := 12 } [ .mk { name := [113], type := .file, content := [3] } [] ] ]

/-- second snapshot: `a` modified, `d` became a regular file, `e` unchanged (same subtree id), `f` new -/
def exB : List Tree :=
  [ .mk { name := [97], type := .file, content := [4] } [],
    .mk { name := [100], type := .file, content := [5] } [],
    .mk { name := [101], type := .dir, subtree := 12 } [ .mk { name := [113], type := .file, content := [3] } [] ],
    .mk { name := [102], type := .fifo } [] ]

example : sortedL exA = true ∧ sortedL exB = true ∧ shapeL exA = true ∧ shapeL exB = true := by decide +kernel

/-- what the (fixed) code prints for this pair: the children of the directory that became a file are
    listed as removed; the unchanged directory `e` produces nothing -/
example : lines (diffTree false 5 [] exA exB) =
    [ ⟨[[97]], false, "M?"⟩, ⟨[[100]], false, "T"⟩, ⟨[[100], [120]], false, "-"⟩, ⟨[[100], [121]], true, "-"⟩,
      ⟨[[100], [121], [122]], false, "-"⟩, ⟨[[102]], false, "+"⟩ ] := by decide +kernel

example : specLines false exA exB (lines (diffTree false 5 [] exA exB)) = true := by decide +kernel

example : Faithful exA exB := faithful_of_check _ _ (by decide)

/-- the hypotheses of `diff_spec` are satisfiable together -/
example : specLines true exA exB (lines (diffTree true 4 [] exA exB)) = true :=
  diff_spec true 4 exA exB (by decide) (by decide) (by decide) (by decide) (faithful_of_check _ _ (by decide)) (by decide)

/-- the counters of the example: 3 nodes removed below `/d`, one fifo added, one file changed -/
example : specCounts exA exB (runDiff false 5 1 2 exA exB (fun _ => 1)) = true ∧
    onlyIn exA exB = [{ name := [120], type := .file, content := [2] }, { name := [121], type := .dir, subtree := 11 },
      { name := [122], type := .symlink }] ∧ changedIn exA exB = 1 := by decide +kernel

/-- F5 (unchanged restic 0.19.1-dev printed only the `T` line for `/d`): that output violates the
    statement — `/d/x` exists only in the first snapshot and is not listed. -/
theorem F5_output_violates_spec :
    specLines false exA exB [ ⟨[[97]], false, "M?"⟩, ⟨[[100]], false, "T"⟩, ⟨[[102]], false, "+"⟩ ] = false := by
  decide

end Restic.Props.C53
