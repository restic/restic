import Restic.Model.SelfUpdate
import Restic.Gen.Source
/-!
# C51 — self-update installs only a signed, hash-matching binary

Theorems over `Restic.Model.SelfUpdate` (transcription of `findHash`, `getGithubDataFile`,
`DownloadLatestStableRelease`), for all release metadata, all download results and all behaviours
of OpenPGP verification, SHA-256 and extraction (they are parameters, `Env`).
-/
namespace Restic.Props.C51
open Restic.Model.SelfUpdate

/-- what was served to one run, as far as the decision depends on it -/
structure Served (env : Env) (cur : Bytes) where
  version : Bytes
  assets : List Asset
  sumsFile : Bytes
  sums : Bytes
  sigFile : Bytes
  sig : Bytes
  fname : Bytes
  buf : Bytes
  hLatest : env.latest = some (version, assets)
  hNew : version ≠ cur
  hSums : getFile env assets sumsName = some (sumsFile, sums)
  hSig : getFile env assets sigName = some (sigFile, sig)
  hArchive : getFile env assets env.suffix = some (fname, buf)

/-- what `download` returns once all checks have passed, from the outcome of `extractToFile` -/
def finish : Extract → Result
  | .failed => stop .extract
  | .installed c => ⟨.done, false, some c⟩
  | .installedChmodErr c => ⟨.extract, true, some c⟩

/-- the returns of `download` that come before the call of `extractToFile` -/
def early : List Result :=
  ⟨.upToDate, false, none⟩ ::
    [.release, .sums, .signature, .gpgError, .gpgFalse, .archive, .hashLookup, .hashMismatch].map stop

theorem early_spec : ∀ r ∈ early, r.written = none ∧ r.stage ≠ .extract ∧ r.stage ≠ .done ∧
    (r.err = false → r.stage = .upToDate) := by decide

/-- inversion of the chain of checks -/
theorem download_cases (env : Env) (cur : Bytes) :
    download env cur ∈ early ∨
    ∃ s : Served env cur, env.gpgVerify s.sums s.sig = .ok true ∧
      findHash s.sums s.fname = .ok (env.sha256 s.buf) ∧
      download env cur = finish (env.extract s.buf s.fname) := by
  unfold download
  cases hLatest : env.latest with
  | none => exact .inl (by decide : stop .release ∈ early)
  | some va =>
  obtain ⟨version, assets⟩ := va
  dsimp only
  by_cases hNew : version = cur
  · rw [if_pos hNew]; exact .inl (by decide)
  rw [if_neg hNew]
  cases hSums : getFile env assets sumsName with
  | none => exact .inl (by decide : stop .sums ∈ early)
  | some fs =>
  obtain ⟨sumsFile, sums⟩ := fs
  cases hSig : getFile env assets sigName with
  | none => exact .inl (by decide : stop .signature ∈ early)
  | some gs =>
  obtain ⟨sigFile, sig⟩ := gs
  dsimp only
  cases hv : env.gpgVerify sums sig with
  | error => exact .inl (by decide : stop .gpgError ∈ early)
  | ok b =>
  cases b with
  | false => exact .inl (by decide : stop .gpgFalse ∈ early)
  | true =>
  cases hArchive : getFile env assets env.suffix with
  | none => exact .inl (by decide : stop .archive ∈ early)
  | some fb =>
  obtain ⟨fname, buf⟩ := fb
  dsimp only
  cases hw : findHash sums fname with
  | notFound => exact .inl (by decide : stop .hashLookup ∈ early)
  | badHex => exact .inl (by decide : stop .hashLookup ∈ early)
  | ok want =>
  dsimp only
  by_cases heq : want = env.sha256 buf
  · rw [if_neg (not_not_intro heq)]
    exact .inr ⟨{ version, assets, sumsFile, sums, sigFile, sig, fname, buf, hLatest, hNew, hSums, hSig, hArchive },
      hv, heq ▸ hw, rfl⟩
  · rw [if_pos heq]; exact .inl (by decide : stop .hashMismatch ∈ early)

/-- **install_only_if**: signed ∧ listed under the exact name ∧ hash equal -/
theorem install_only_if (env : Env) (cur c : Bytes) (h : (download env cur).written = some c) :
    ∃ s : Served env cur,
      env.gpgVerify s.sums s.sig = .ok true ∧
      findHash s.sums s.fname = .ok (env.sha256 s.buf) ∧
      (env.extract s.buf s.fname = .installed c ∨ env.extract s.buf s.fname = .installedChmodErr c) := by
  obtain he | ⟨s, hv, hh, hd⟩ := download_cases env cur
  · rw [(early_spec _ he).1] at h; cases h
  · refine ⟨s, hv, hh, ?_⟩
    rw [hd] at h
    cases hx : env.extract s.buf s.fname <;> rw [hx] at h <;> cases h
    · exact .inl rfl
    · exact .inr rfl

/-- **otherwise_unchanged**: if what was served does not carry a verified signature together with
    a listed hash equal to the archive's, the target is not touched. -/
theorem otherwise_unchanged (env : Env) (cur : Bytes)
    (h : ∀ s : Served env cur,
      ¬ (env.gpgVerify s.sums s.sig = .ok true ∧ findHash s.sums s.fname = .ok (env.sha256 s.buf))) :
    (download env cur).written = none := by
  cases hw : (download env cur).written with
  | none => rfl
  | some c =>
    obtain ⟨s, h1, h2, _⟩ := install_only_if env cur c hw
    exact absurd ⟨h1, h2⟩ (h s)

/-- a signature that does not verify (error or false) never leads to a write -/
theorem unchanged_if_signature_rejected (env : Env) (cur : Bytes)
    (h : ∀ d s, env.gpgVerify d s ≠ .ok true) : (download env cur).written = none :=
  otherwise_unchanged env cur (fun _ hh => h _ _ hh.1)

/-- an archive whose hash is not the listed one never leads to a write -/
theorem unchanged_if_hash_differs (env : Env) (cur : Bytes)
    (h : ∀ s : Served env cur, findHash s.sums s.fname ≠ .ok (env.sha256 s.buf)) :
    (download env cur).written = none :=
  otherwise_unchanged env cur (fun s hh => h s hh.2)

/-- every return before `extractToFile` leaves the target alone -/
theorem unchanged_before_extract (env : Env) (cur : Bytes)
    (h : (download env cur).stage ≠ .extract ∧ (download env cur).stage ≠ .done) :
    (download env cur).written = none := by
  obtain he | ⟨s, _, _, hd⟩ := download_cases env cur
  · exact (early_spec _ he).1
  · rw [hd] at h
    cases hx : env.extract s.buf s.fname <;> simp [hx, finish, stop] at h

theorem up_to_date_unchanged (env : Env) (cur : Bytes) (assets : List Asset)
    (h : env.latest = some (cur, assets)) : download env cur = ⟨.upToDate, false, none⟩ := by
  unfold download; simp [h]

theorem success_means_installed_or_up_to_date (env : Env) (cur : Bytes)
    (h : (download env cur).err = false) :
    (download env cur).stage = .upToDate ∨ (download env cur).written.isSome = true := by
  obtain he | ⟨s, _, _, hd⟩ := download_cases env cur
  · exact .inl ((early_spec _ he).2.2.2 h)
  · rw [hd] at h ⊢
    cases hx : env.extract s.buf s.fname <;> simp [hx, finish, stop] at h ⊢

theorem findHashLines_hit {name line hx : Bytes} (rest : List Bytes)
    (hs : splitDS line [] = [hx, name]) :
    findHashLines name (line :: rest) =
      match hexDecode hx with | some d => .ok d | none => .badHex := by
  rw [findHashLines, hs]
  exact if_pos rfl

theorem findHashLines_miss {name line : Bytes} (rest : List Bytes)
    (hs : ∀ a, splitDS line [] ≠ [a, name]) :
    findHashLines name (line :: rest) = findHashLines name rest := by
  rw [findHashLines]
  split
  · next hx nm hsplit => exact if_neg fun hn : nm = name => hs hx (hn ▸ hsplit)
  · rfl

/-- the first line whose name field is exactly `name` decides -/
theorem findHashLines_exact (name : Bytes) (ls : List Bytes) (h : Bytes)
    (hf : findHashLines name ls = .ok h) :
    ∃ pre line post hx, ls = pre ++ line :: post ∧ splitDS line [] = [hx, name] ∧
      hexDecode hx = some h ∧ ∀ l ∈ pre, ∀ a, splitDS l [] ≠ [a, name] := by
  induction ls with
  | nil => cases hf
  | cons line rest ih =>
    by_cases hit : ∃ hx, splitDS line [] = [hx, name]
    · obtain ⟨hx, hs⟩ := hit
      rw [findHashLines_hit rest hs] at hf
      cases hd : hexDecode hx <;> rw [hd] at hf <;> cases hf
      exact ⟨[], line, rest, hx, rfl, hs, hd, nofun⟩
    · have hmiss : ∀ a, splitDS line [] ≠ [a, name] := fun a ha => hit ⟨a, ha⟩
      rw [findHashLines_miss rest hmiss] at hf
      obtain ⟨pre, l, post, hx, rfl, hs, hd, hpre⟩ := ih hf
      exact ⟨line :: pre, l, post, hx, rfl, hs, hd, List.forall_mem_cons.2 ⟨hmiss, hpre⟩⟩

theorem findHash_exact (buf name h : Bytes) (hf : findHash buf name = .ok h) :
    ∃ pre line post hx, scanLines buf = pre ++ line :: post ∧ splitDS line [] = [hx, name] ∧
      hexDecode hx = some h ∧ ∀ l ∈ pre, ∀ a, splitDS l [] ≠ [a, name] :=
  findHashLines_exact name _ h hf

def sep : Bytes := [0x20, 0x20]

def joinDS : List Bytes → Bytes
  | [] => []
  | [x] => x
  | x :: y :: r => x ++ sep ++ joinDS (y :: r)

theorem splitDS_ne_nil (s cur : Bytes) : splitDS s cur ≠ [] := by
  fun_induction splitDS s cur with
  | case4 _ _ _ _ _ ih => exact ih  -- no separator at the head: the recursive call alone
  | _ => exact List.cons_ne_nil _ _

theorem joinDS_cons (x : Bytes) (l : List Bytes) (h : l ≠ []) :
    joinDS (x :: l) = x ++ sep ++ joinDS l := by
  cases l with
  | nil => exact absurd rfl h
  | cons y r => rfl

theorem joinDS_splitDS (s cur : Bytes) : joinDS (splitDS s cur) = cur.reverse ++ s := by
  fun_induction splitDS s cur with
  | case1 cur => simp [joinDS]
  | case2 c cur => simp [joinDS]
  | case3 a b rest cur hab ih =>  -- `a`, `b` are the separator
    rw [joinDS_cons _ _ (splitDS_ne_nil _ _), ih]
    obtain ⟨rfl, rfl⟩ := hab
    simp [sep]
  | case4 a b rest cur hab ih =>
    rw [ih]; simp

/-- the matching line is literally `<hex>␣␣<file name>` -/
theorem splitDS_two (line a b : Bytes) (h : splitDS line [] = [a, b]) : line = a ++ sep ++ b := by
  have := joinDS_splitDS line []
  rw [h] at this
  simpa [joinDS] using this.symm

theorem model_meets_spec (env : Env) (cur c : Bytes) (h : (download env cur).written = some c) :
    ∃ s : Served env cur,
      specOK true (env.gpgVerify s.sums s.sig == .ok true)
        (match findHash s.sums s.fname with | .ok d => some d | _ => none) (env.sha256 s.buf) = true := by
  obtain ⟨s, h1, h2, _⟩ := install_only_if env cur c h
  exact ⟨s, by simp [specOK, h1, h2]⟩

def checkCalls : List String :=
  ["GitHubLatestRelease", "GPGVerify", "findHash", "sha256.Sum256", "bytes.Equal", "extractToFile"]

/-- the checks occur in this order in the source, the one call that writes last -/
theorem call_order :
    (Restic.Gen.downloadLatest_calls.filter fun c => c ∈ checkCalls) = checkCalls := by decide +kernel

/-- `extractToFile` is the last call in the function that can touch the target -/
theorem extract_is_last_check :
    (Restic.Gen.downloadLatest_calls.reverse.takeWhile fun c => c != "extractToFile").all
      (fun c => c ∉ checkCalls) = true := by decide +kernel

def asc (s : String) : Bytes := s.toList.map fun c => UInt8.ofNat c.toNat

/-- Rewriting with this before evaluating keeps `decide` from unfolding `String.toList` on the
    UTF-8 representation, by far the dearest part of the test vectors below. -/
theorem asc_ofList (cs : List Char) :
    asc (String.ofList cs) = cs.map fun c => UInt8.ofNat c.toNat := by
  rw [asc, String.toList_ofList]

def exSums : Bytes := (asc "00ff  other\nabcd  restic_linux_amd64.bz2\n")
def exName : Bytes := (asc "restic_linux_amd64.bz2")

example : findHash exSums exName = .ok [0xab, 0xcd] := by
  rw [exSums, exName, asc_ofList, asc_ofList]; decide
example : findHash exSums (asc "restic_linux_amd64.bz") = .notFound := by
  rw [exSums, asc_ofList, asc_ofList]; decide
example : findHash (asc "zz  f\nabcd  f\n") (asc "f") = .badHex := by
  rw [asc_ofList, asc_ofList]; decide
/-- three spaces: the name field starts with a blank and does not match -/
example : findHash (asc "abcd   f\n") (asc "f") = .notFound := by
  rw [asc_ofList, asc_ofList]; decide

def exEnv (gpg : GpgResult) (hash : Bytes) : Env :=
  { latest := some ((asc "1.0"), [⟨sumsName, [1]⟩, ⟨sigName, [2]⟩, ⟨exName, [3]⟩]),
    fetch := fun u => if u = [1] then some exSums else if u = [2] then some [0x73] else if u = [3] then some [0x42] else none,
    gpgVerify := fun _ _ => gpg, sha256 := fun _ => hash,
    extract := fun _ _ => .installed [0x4e, 0x45, 0x57], suffix := (asc "linux_amd64.bz2") }

example : (download (exEnv (.ok true) [0xab, 0xcd]) []).written = some [0x4e, 0x45, 0x57] := by
  rw [exEnv, exSums, exName, asc_ofList, asc_ofList, asc_ofList, asc_ofList]; decide
example : (download (exEnv .error [0xab, 0xcd]) []) = ⟨.gpgError, true, none⟩ := by decide +kernel
example : (download (exEnv (.ok true) [0xab, 0xce]) []) = ⟨.hashMismatch, true, none⟩ := by
  rw [exEnv, exSums, exName, asc_ofList, asc_ofList, asc_ofList, asc_ofList]; decide
example : specOK true false (some [1]) [1] = false := by decide +kernel
example : specOK true true (some [1]) [2] = false := by decide +kernel

end Restic.Props.C51
