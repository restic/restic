import Restic.Proofs.RepoTrace
import Restic.Gen.Source
/-!
# C26 — Snapshot rewrites never lose the snapshot at any crash point

`tag`, `rewrite` and `repair snapshots` replace a snapshot file by a new one. The language of
backend operations they may produce is `Restic.Model.RepoTrace.accept_rewrite1` (one snapshot:
`[blob/index saves]* ; save snap' ; (remove snap)?`) and `accept_rewrites` (a whole command run over
several snapshots). The theorems are for *all* repositories and traces and *every* prefix of the
trace (= every crash point).

The property (properties.jsonl): at every interruption point at least one of old/new exists
(`one_exists`, `lineage_kept`), the new snapshot keeps the first snapshot's id as original
(`original_kept_*`) and keeps the tree unless a filter or repair changed it (`tree_kept_*`).

Deliberate exception, visible in the model: `filterAndReplaceSnapshot` *removes* a snapshot whose
filtered root tree is the null ID without saving a replacement ("removed empty snapshot"; in
practice: `repair snapshots` on a snapshot whose root tree cannot be loaded). For that outcome
there is no `snap'`, and `lineage_kept` excludes exactly the lineages reported that way.
-/
namespace Restic.Props.C26
open Restic.Model.RepoTrace Restic.Proofs.RepoTrace

def newSnapIds (tr : List Ev) : List Nat :=
  tr.filterMap fun e => match e with
    | .saveSnap n _ => some n
    | _ => none

theorem mem_newSnapIds_cons {n : Nat} {rest : List Ev} (e : Ev) (h : n ∈ newSnapIds rest) :
    n ∈ newSnapIds (e :: rest) := by
  unfold newSnapIds at *
  obtain ⟨x, hx, hn⟩ := List.mem_filterMap.mp h
  exact List.mem_filterMap.mpr ⟨x, List.mem_cons_of_mem _ hx, hn⟩

theorem rewrite1Go_cons_add (old key : Nat) (r : Repo) {e : Ev} (rest : List Ev) (hns : isSaveSnap e = false) :
    rewrite1Go old key r (e :: rest) = (addGuard r e && rewrite1Go old key (apply r e) rest) := by
  cases e with
  | saveSnap _ _ => cases hns
  | _ => rfl

theorem rewrite1Go_one_exists (old key : Nat) (tr : List Ev) (r : Repo)
    (hp : snapPresent r old = true) (h : rewrite1Go old key r tr = true) (k : Nat) :
    snapPresent (applyAll r (tr.take k)) old = true ∨
      ∃ n ∈ newSnapIds tr, snapPresent (applyAll r (tr.take k)) n = true := by
  induction tr generalizing r k with
  | nil => exact Or.inl (by rwa [List.take_nil])
  | cons e rest ih =>
    cases k with
    | zero => exact Or.inl hp
    | succ k =>
      rw [List.take_succ_cons, applyAll_cons]
      cases e with
      | saveSnap n sn =>
        simp only [rewrite1Go, Bool.and_eq_true, bne_iff_ne] at h
        obtain ⟨⟨⟨hg, hne⟩, _⟩, hrest⟩ := h
        have hold := snapPresent_mono (addGuard_sub hg) hp
        -- the trace ends here, or with the removal of `old`, after which `n` is still there; for any
        -- other `rest`, `hrest` is `false = true` and `match` drops the case
        match rest, hrest, k with
        | [], _, _ => exact Or.inl (by rwa [List.take_nil])
        | [.removeSnap o], _, 0 => exact Or.inl hold
        | [.removeSnap o], ho, k + 1 =>
          cases beq_iff_eq.mp ho
          refine Or.inr ⟨n, List.mem_cons_self, snapPresent_iff.mpr ⟨(n, sn), ?_, rfl⟩⟩
          rw [List.take_succ_cons, List.take_nil]
          exact List.mem_filter.mpr ⟨List.mem_cons_self, bne_iff_ne.mpr hne⟩
      | _ =>
        rw [rewrite1Go_cons_add _ _ _ _ rfl, Bool.and_eq_true] at h
        rcases ih _ (snapPresent_mono (addGuard_sub h.1) hp) h.2 k with h1 | ⟨n, hn, h1⟩
        · exact Or.inl h1
        · exact Or.inr ⟨n, mem_newSnapIds_cons _ hn, h1⟩

theorem snapPresent_of_lookup {r : Repo} {s : Nat} {so : Snap} (h : lookupSnap r s = some so) :
    snapPresent r s = true := by
  obtain ⟨x, hf, _⟩ := Option.map_eq_some_iff.mp h
  have hx := List.find?_some hf
  exact snapPresent_iff.mpr ⟨x, List.mem_of_find?_eq_some hf, beq_iff_eq.mp hx⟩

/-- C26 for a single snapshot: at every crash point the old or the new snapshot file exists. -/
theorem one_exists (r : Repo) (old : Nat) (tr : List Ev) (hacc : accept_rewrite1 r old tr = true) :
    ∀ k, snapPresent (applyAll r (tr.take k)) old = true ∨
      ∃ n ∈ newSnapIds tr, snapPresent (applyAll r (tr.take k)) n = true := by
  intro k
  unfold accept_rewrite1 at hacc
  cases hl : lookupSnap r old with
  | none => rw [hl] at hacc; cases hacc
  | some so => rw [hl] at hacc; exact rewrite1Go_one_exists old so.key tr r (snapPresent_of_lookup hl) hacc k

/-- the snapshot saved last (if a removal may follow) is present with the recorded lineage key -/
def LastOK (r : Repo) : Option (Nat × Nat) → Prop
  | none => True
  | some (n, k) => ∃ sn, (n, sn) ∈ r.snaps ∧ sn.key = k

theorem removalCovered_iff {r : Repo} {o : Nat} {ok : Nat → Bool} :
    removalCovered r o ok = true ↔ ∀ x ∈ r.snaps, x.1 = o → ok x.2.key = true := by
  simp only [removalCovered, List.all_eq_true, Bool.or_eq_true, bne_iff_ne, ne_eq, ← Decidable.imp_iff_not_or]

/-- C26 for a whole command run (any number of snapshots, any mix of replaced / kept / emptied):
    a lineage that is present and not reported as emptied is present at every crash point. -/
theorem lineage_kept (ek : List Nat) (κ : Nat) (hκ : κ ∉ ek) (tr : List Ev) (r : Repo)
    (last : Option (Nat × Nat)) (hl : LastOK r last)
    (hacc : accept_rewrites ek r last tr = true) (hk : keyPresent r κ = true) :
    ∀ k, keyPresent (applyAll r (tr.take k)) κ = true := by
  induction tr generalizing r last with
  | nil => intro k; rwa [List.take_nil]
  | cons e rest ih =>
    intro k
    cases k with
    | zero => exact hk
    | succ k =>
      rw [List.take_succ_cons, applyAll_cons]
      -- pack and index removals are rejected outright: `hacc` becomes `False`
      cases e <;> simp only [accept_rewrites, Bool.and_eq_true, Bool.false_eq_true] at hacc
      case savePack | saveIndex => exact ih _ none trivial hacc.2 (keyPresent_mono (addGuard_sub hacc.1) hk) k
      case saveSnap n sn =>
        exact ih _ (some (n, sn.key)) ⟨sn, List.mem_cons_self, rfl⟩ hacc.2 (keyPresent_mono (addGuard_sub hacc.1) hk) k
      case removeSnap o =>
        refine ih _ none trivial hacc.2 ?_ k
        obtain ⟨x, hx, hxk⟩ := keyPresent_iff.mp hk
        by_cases hxo : x.1 = o
        · -- the witness of the lineage is removed: then the removal was covered
          rcases Bool.or_eq_true_iff.mp hacc.1 with hA | hB
          · -- by the snapshot saved just before, which has the same key and another name
            cases last with
            | none => cases hA
            | some nk =>
              obtain ⟨sn, hsn, hkey⟩ := hl
              rw [Bool.and_eq_true, bne_iff_ne, removalCovered_iff] at hA
              have hxk' : x.2.key = nk.2 := beq_iff_eq.mp (hA.2 x hx hxo)
              exact keyPresent_iff.mpr
                ⟨(nk.1, sn), List.mem_filter.mpr ⟨hsn, bne_iff_ne.mpr (Ne.symm hA.1)⟩, by rw [hkey, ← hxk', hxk]⟩
          · -- or its lineage was reported as emptied, which `κ` is not
            have := List.contains_iff_mem.mp (removalCovered_iff.mp hB x hx hxo)
            exact absurd (hxk ▸ this) hκ
        · exact keyPresent_iff.mpr ⟨x, List.mem_filter.mpr ⟨hx, bne_iff_ne.mpr hxo⟩, hxk⟩

/-- a whole rewrite run keeps the abstract check at every crash point (new snapshots are only
    saved once their closure is indexed; removing a snapshot file never hurts) -/
theorem rewrites_checkOK (ek : List Nat) (tr : List Ev) (r : Repo) (last : Option (Nat × Nat))
    (hacc : accept_rewrites ek r last tr = true) (hc : checkOK r = true) :
    ∀ k, checkOK (applyAll r (tr.take k)) = true :=
  fun k => acceptW_checkOK (acceptW_guarded.take (acceptW_of_rewrites hacc) k) hc

theorem changeTagsOps_accepted (r : Repo) (old newId : Nat) (so : Snap) (changed : Bool)
    (hl : lookupSnap r old = some so) (hne : newId ≠ old) (hres : restorable r so = true) :
    accept_rewrite1 r old (changeTagsOps old so changed newId) = true := by
  unfold accept_rewrite1
  rw [hl]
  cases changed with
  | false => rfl
  | true =>
    -- the new snapshot has the old one's closure, so `hres` is its guard
    simp only [changeTagsOps, if_true, rewrite1Go, Bool.and_eq_true, bne_iff_ne, beq_self_eq_true, and_true]
    exact ⟨hres, hne⟩

/-- C26 end to end for `changeTags`: at every crash point of the operations it issues, the old
    snapshot or the new one exists. (`hres` serves the save guard of `accept_rewrite1`, through which
    this goes; the conclusion rests on the presence of `old` alone.) -/
theorem changeTags_safe (r : Repo) (old newId : Nat) (so : Snap) (changed : Bool)
    (hl : lookupSnap r old = some so) (hne : newId ≠ old) (hres : restorable r so = true) (k : Nat) :
    snapPresent (applyAll r ((changeTagsOps old so changed newId).take k)) old = true ∨
      snapPresent (applyAll r ((changeTagsOps old so changed newId).take k)) newId = true := by
  rcases one_exists r old _ (changeTagsOps_accepted r old newId so changed hl hne hres) k with h | ⟨n, hn, h⟩
  · exact Or.inl h
  · -- the only snapshot `changeTagsOps` saves is `newId`
    cases changed with
    | false => cases hn
    | true => exact Or.inr (List.mem_singleton.mp hn ▸ h)

def uploadsOnly (r : Repo) (up : List Ev) : Bool := acceptAdds r up && up.all (fun e => !isSaveSnap e)

theorem uploadsOnly_iff {r : Repo} {up : List Ev} :
    uploadsOnly r up = true ↔ acceptAdds r up = true ∧ ∀ e ∈ up, isSaveSnap e = false := by
  simp only [uploadsOnly, Bool.and_eq_true, List.all_eq_true, Bool.not_eq_true']

theorem uploads_snaps {r : Repo} {up : List Ev} (h : uploadsOnly r up = true) :
    (applyAll r up).snaps = r.snaps :=
  acceptAdds_snaps (uploadsOnly_iff.mp h).1 (uploadsOnly_iff.mp h).2

theorem rewrite1Go_uploads (old key : Nat) {r : Repo} {up : List Ev} (ha : acceptAdds r up = true)
    (hn : ∀ e ∈ up, isSaveSnap e = false) (tail : List Ev) :
    rewrite1Go old key r (up ++ tail) = rewrite1Go old key (applyAll r up) tail := by
  induction up generalizing r with
  | nil => rfl
  | cons e up ih =>
    simp only [acceptAdds, Bool.and_eq_true] at ha
    rw [List.cons_append, rewrite1Go_cons_add _ _ _ _ (hn e List.mem_cons_self), ha.1, Bool.true_and,
      applyAll_cons, ih ha.2 fun x hx => hn x (List.mem_cons_of_mem _ hx)]

theorem lookupSnap_congr {r r' : Repo} (h : r'.snaps = r.snaps) (s : Nat) :
    lookupSnap r' s = lookupSnap r s := by unfold lookupSnap; rw [h]

theorem snapPresent_congr {r r' : Repo} (h : r'.snaps = r.snaps) (s : Nat) :
    snapPresent r' s = snapPresent r s := by unfold snapPresent; rw [h]

theorem filterAndReplaceOps_shape {old newId : Nat} {so : Snap} {uploads : List Ev}
    {filtered : Option (Nat × List Handle)} {summaryChanged metaChanged keepEmpty dryRun forget : Bool}
    {res : FROutcome × List Ev}
    (h : filterAndReplaceOps old so uploads filtered summaryChanged metaChanged keepEmpty dryRun forget newId = res) :
    res.2 = uploads ∨ (res.1 = .removedEmpty ∧ res.2 = uploads ++ [.removeSnap old]) ∨
      ∃ t nd, filtered = some (t, nd) ∧
        res.2 = uploads ++ [.saveSnap newId { so with orig := some old, tree := t, needs := nd }] ++
          (if forget then [.removeSnap old] else []) := by
  subst h
  cases filtered with
  | none =>
    simp only [filterAndReplaceOps]
    cases keepEmpty with
    | true => exact Or.inl rfl
    | false =>
      cases forget with
      | false => exact Or.inl rfl
      | true =>
        cases dryRun with
        | true => exact Or.inl rfl
        | false => exact Or.inr (Or.inl ⟨rfl, rfl⟩)
  | some tn =>
    obtain ⟨t, nd⟩ := tn
    simp only [filterAndReplaceOps]
    by_cases hu : (t == so.tree && !metaChanged && !summaryChanged) = true
    · exact Or.inl (by rw [if_pos hu])
    · cases dryRun with
      | true => exact Or.inl (by rw [if_neg hu]; rfl)
      | false => exact Or.inr (Or.inr ⟨t, nd, rfl, by rw [if_neg hu]; rfl⟩)

/-- `filterAndReplaceSnapshot`: unless it reports "removed empty snapshot", its backend
    operations are in the language — for every combination of dry-run / forget / keep-empty /
    changed tree / changed metadata. `uploads` is what the filter wrote inside `WithBlobUploader`;
    the hypothesis on `filtered` says the new root tree's closure is indexed once that returned
    (the flush at the end of `WithBlobUploader`; `Restic.Proofs.Writer.backupRun_accepted` for the shape). -/
theorem filterAndReplaceOps_accepted (r : Repo) (old newId : Nat) (so : Snap) (uploads : List Ev)
    (filtered : Option (Nat × List Handle)) (summaryChanged metaChanged keepEmpty dryRun forget : Bool)
    (hl : lookupSnap r old = some so) (hne : newId ≠ old)
    (hup : uploadsOnly r uploads = true)
    (hneeds : ∀ t nd, filtered = some (t, nd) → nd.all (indexed (applyAll r uploads)) = true)
    (hout : (filterAndReplaceOps old so uploads filtered summaryChanged metaChanged keepEmpty dryRun forget newId).1
              ≠ .removedEmpty) :
    accept_rewrite1 r old
      (filterAndReplaceOps old so uploads filtered summaryChanged metaChanged keepEmpty dryRun forget newId).2 = true := by
  obtain ⟨ha, hn⟩ := uploadsOnly_iff.mp hup
  have hgo := rewrite1Go_uploads old so.key ha hn
  simp only [accept_rewrite1, hl]
  rcases filterAndReplaceOps_shape rfl with hs | ⟨h1, _⟩ | ⟨t, nd, hf, hs⟩
  · rw [hs, ← List.append_nil uploads, hgo]; rfl
  · exact absurd h1 hout
  · -- after the uploads: the new snapshot, whose closure is indexed, then at most the removal of `old`
    rw [hs, List.append_assoc, hgo]
    cases forget <;>
      simp only [List.cons_append, List.nil_append, Bool.false_eq_true, if_false, if_true, rewrite1Go,
        addGuard, restorable, Bool.and_eq_true, bne_iff_ne, beq_self_eq_true, and_true]
    all_goals exact ⟨hneeds t nd hf, hne⟩

/-- `tag`: the new snapshot keeps the first snapshot's id as original, the tree, the lineage -/
theorem original_kept_tag (old newId : Nat) (so : Snap) (n : Nat) (sn' : Snap)
    (h : Ev.saveSnap n sn' ∈ changeTagsOps old so true newId) :
    specOriginal true old so sn' = true ∧ sn'.tree = so.tree ∧ sn'.key = so.key ∧ sn'.needs = so.needs := by
  simp only [changeTagsOps, if_true, List.mem_cons, Ev.saveSnap.injEq, List.mem_nil_iff, or_false,
    reduceCtorEq] at h
  obtain ⟨_, rfl⟩ := h
  exact ⟨beq_self_eq_true _, rfl, rfl, rfl⟩

theorem tree_kept_tag (old newId : Nat) (so : Snap) (n : Nat) (sn' : Snap)
    (h : Ev.saveSnap n sn' ∈ changeTagsOps old so true newId) : sn'.tree = so.tree :=
  (original_kept_tag old newId so n sn' h).2.1

/-- `rewrite` / `repair snapshots`: original = id of the replaced snapshot; tree = what the
    filter returned (so: unchanged unless the filter or repair changed it — an unchanged tree with
    unchanged metadata is not rewritten at all, see `filterAndReplaceOps`) -/
theorem original_kept_rewrite (old newId : Nat) (so : Snap) (uploads : List Ev)
    (filtered : Option (Nat × List Handle)) (summaryChanged metaChanged keepEmpty dryRun forget : Bool)
    (hup : ∀ e ∈ uploads, isSaveSnap e = false) (n : Nat) (sn' : Snap)
    (h : Ev.saveSnap n sn' ∈
      (filterAndReplaceOps old so uploads filtered summaryChanged metaChanged keepEmpty dryRun forget newId).2) :
    specOriginal false old so sn' = true ∧ sn'.key = so.key ∧
      ∃ t nd, filtered = some (t, nd) ∧ sn'.tree = t ∧ sn'.needs = nd := by
  have hno : Ev.saveSnap n sn' ∉ uploads := fun hm => Bool.noConfusion (hup _ hm)
  -- so the snapshot save is the one event of that kind the function appends to the uploads
  rcases filterAndReplaceOps_shape rfl with hs | ⟨_, hs⟩ | ⟨t, nd, hf, hs⟩ <;> rw [hs] at h
  · exact absurd h hno
  · simp only [List.mem_append, List.mem_singleton, reduceCtorEq, or_false] at h
    exact absurd h hno
  · simp only [List.mem_append, List.mem_singleton, Ev.saveSnap.injEq] at h
    rcases h with (h | ⟨_, rfl⟩) | h
    · exact absurd h hno
    · exact ⟨beq_self_eq_true _, rfl, t, nd, hf, rfl, rfl⟩
    · cases forget <;> simp at h

theorem tree_kept_rewrite (old newId : Nat) (so : Snap) (uploads : List Ev)
    (keepEmpty dryRun forget : Bool) (nd : List Handle) :
    -- filter returned the old tree and nothing else changed: no backend operation beyond the uploads
    (filterAndReplaceOps old so uploads (some (so.tree, nd)) false false keepEmpty dryRun forget newId)
      = (.unchanged, uploads) := by
  simp only [filterAndReplaceOps, beq_self_eq_true, Bool.not_false, Bool.and_self, if_true]

def relevantCalls (l : List String) : List String :=
  l.filter fun c => c == "repo.WithBlobUploader" || c == "data.SaveSnapshot" || c == "repo.RemoveUnpacked"

/-- T1 (call order, regenerated from the source on every run). `changeTags`: SaveSnapshot, then
    RemoveUnpacked. `filterAndReplaceSnapshot`: the filter runs inside WithBlobUploader (flush before
    anything else), the first RemoveUnpacked is the "removed empty snapshot" branch, then
    SaveSnapshot, then the `--forget` RemoveUnpacked — the branch order of `filterAndReplaceOps`.
    `rewriteSnapshot` and `runRepairSnapshots` go through `filterAndReplaceSnapshot` and neither
    save nor remove snapshot files themselves. -/
theorem save_before_remove :
    relevantCalls Restic.Gen.changeTags_calls = ["data.SaveSnapshot", "repo.RemoveUnpacked"] ∧
    relevantCalls Restic.Gen.filterAndReplaceSnapshot_calls
      = ["repo.WithBlobUploader", "repo.RemoveUnpacked", "data.SaveSnapshot", "repo.RemoveUnpacked"] ∧
    relevantCalls Restic.Gen.rewriteSnapshot_calls = [] ∧
    "filterAndReplaceSnapshot" ∈ Restic.Gen.rewriteSnapshot_calls ∧
    relevantCalls Restic.Gen.runRepairSnapshots_calls = [] ∧
    "filterAndReplaceSnapshot" ∈ Restic.Gen.runRepairSnapshots_calls := by decide +kernel

def exBlob : Blob := ⟨1, 7, 0, 40⟩
def exRepo : Repo :=
  { packs := [(100, [exBlob])], indexes := [(200, [(100, [exBlob])])],
    snaps := [(1, { key := 5, tree := 7, orig := none, needs := [(1, 7)] })] }
def exSnap : Snap := { key := 5, tree := 7, orig := none, needs := [(1, 7)] }

example : checkOK exRepo = true := by decide +kernel
example : accept_rewrite1 exRepo 1 (changeTagsOps 1 exSnap true 2) = true := by decide +kernel
example : (changeTagsOps 1 exSnap true 2).length = 2 := by decide +kernel
-- remove before save is outside the language
example : accept_rewrite1 exRepo 1 [.removeSnap 1, .saveSnap 2 exSnap] = false := by decide +kernel
example : accept_rewrites [] exRepo none [.saveSnap 2 exSnap, .removeSnap 1] = true := by decide +kernel
example : accept_rewrites [] exRepo none [.removeSnap 1, .saveSnap 2 exSnap] = false := by decide +kernel
-- the save of the new snapshot FAILED (a failed operation leaves no event): the removal of the old
-- one is then outside the language — "remove(old) only after save(new) succeeded"
example : accept_rewrites [] exRepo none [.removeSnap 1] = false := by decide +kernel
example : accept_rewrite1 exRepo 1 [.removeSnap 1] = false := by decide +kernel
-- a rewrite with uploads: new tree blob 8 in pack 101, indexed by 201, then the snapshot, then forget
def exBlob2 : Blob := ⟨1, 8, 0, 33⟩
example : (filterAndReplaceOps 1 exSnap [.savePack 101 [exBlob2], .saveIndex 201 [(101, [exBlob2])]]
      (some (8, [(1, 8)])) false false false false true 2).1 = .replaced := by decide +kernel
example : accept_rewrite1 exRepo 1 (filterAndReplaceOps 1 exSnap
      [.savePack 101 [exBlob2], .saveIndex 201 [(101, [exBlob2])]]
      (some (8, [(1, 8)])) false false false false true 2).2 = true := by decide +kernel
-- snapshot saved before its index: rejected
example : accept_rewrite1 exRepo 1 [.savePack 101 [exBlob2], .saveSnap 2 { exSnap with tree := 8, needs := [(1, 8)] },
      .saveIndex 201 [(101, [exBlob2])]] = false := by decide +kernel

end Restic.Props.C26
