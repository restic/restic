import Restic.Proofs.C06_Read
import Restic.Proofs.C06_Parse
import Restic.Gen.Source
/-!
# C06 — Pack files list back exactly the blobs written into them

Theorems about `Restic.Model.Pack` (byte-exact transcription of Packer.Add / Finalize / makeHeader /
verifyHeader / HeaderFull and List / readHeader / readRecords / parseHeaderEntry). They hold for
**all** blob sequences (any number of blobs, any mix of compressed / uncompressed entries), all
files (`List UInt8`) and every nonce of the right size; the layout constants are the regenerated
`Restic.Gen` facts. The cipher is a parameter with the laws `Crypto.Lawful`.
-/
namespace Restic.Props.C06
open Restic.Model.Pack Restic.Gen Restic.Proofs.C06

/-- the two facts about `crypto.Key` that the property assumes (C05: `open_seal`, `seal_len`) -/
structure Crypto.Lawful (k : Crypto) : Prop where
  -- asked only of nonces of the size that `List` cuts off the header (`buf[:ivSize]`)
  open_seal : ∀ n p, n.length = crypto_ivSize → k.openB n (k.sealB n p) = some p
  seal_len : ∀ n p, (k.sealB n p).length = p.length + crypto_macSize

/-- the type-byte table of the writer … -/
theorem facts_makeHeader_cases : makeHeader_cases =
    ["b.Type == restic.DataBlob && b.UncompressedLength == 0",
     "b.Type == restic.TreeBlob && b.UncompressedLength == 0",
     "b.Type == restic.DataBlob && b.UncompressedLength != 0",
     "b.Type == restic.TreeBlob && b.UncompressedLength != 0", "default"] := by decide +kernel

/-- … and of the reader -/
theorem facts_parseHeaderEntry_cases : Restic.Gen.parseHeaderEntry_cases = ["0", "2", "1", "3", "default"] := by decide

/-- the four guards of `readRecords`, in this order -/
theorem facts_readRecords_cases : readRecords_cases =
    ["hlen == 0", "hlen < crypto.Extension", "int64(hlen) > size-int64(headerLengthSize)",
     "int64(hlen) > MaxHeaderSize-int64(headerLengthSize)"] := by decide +kernel

private def idxOf (l : List String) (s : String) : Nat := l.findIdx (· == s)

/-- `Finalize` builds the header, seals it, appends the length, verifies, and only then writes -/
theorem facts_finalize_order :
    idxOf Finalize_calls "makeHeader" < idxOf Finalize_calls "p.k.Seal" ∧
    idxOf Finalize_calls "p.k.Seal" < idxOf Finalize_calls "binary.LittleEndian.AppendUint32" ∧
    idxOf Finalize_calls "binary.LittleEndian.AppendUint32" < idxOf Finalize_calls "verifyHeader" ∧
    idxOf Finalize_calls "verifyHeader" < idxOf Finalize_calls "p.wr.Write" ∧
    idxOf Finalize_calls "p.wr.Write" < Finalize_calls.length := by decide +kernel

/-- `MaxHeaderEntries` is the number of full-size entries that fit -/
structure MaxEntries : Prop where
  count_eq : pack_MaxHeaderEntries = (pack_MaxHeaderSize - pack_headerSize) / pack_entrySize
  plain_le : pack_plainEntrySize ≤ pack_entrySize
  entry_pos : 0 < pack_entrySize
  headerSize_le : pack_headerSize ≤ pack_MaxHeaderSize

theorem facts_maxEntries : MaxEntries := by constructor <;> decide

def entriesSize : List Blob → Nat
  | [] => 0
  | b :: bs => entrySizeOf b + entriesSize bs

theorem makeHeader_spec (bs : List Blob) (hwf : AllWF bs) :
    ∃ h, makeHeader bs = some h ∧ h.length = entriesSize bs ∧
      ∀ fuel pos, h.length ≤ fuel → parseLoop fuel h pos = .ok (withOffsets pos bs) := by
  induction bs with
  | nil => exact ⟨[], rfl, rfl, fun fuel pos _ => parseLoop_nil fuel pos⟩
  | cons b bs ih =>
    obtain ⟨e, he, hel, hpe⟩ := encEntry_spec b (hwf b (List.mem_cons_self ..))
    obtain ⟨r, hr, hrl, hpr⟩ := ih fun b' hb' => hwf b' (List.mem_cons_of_mem _ hb')
    have hpos := entrySizeOf_pos b
    refine ⟨e ++ r, by rw [makeHeader, he, hr], by rw [List.length_append, hel, hrl]; rfl, fun fuel pos hf => ?_⟩
    rw [List.length_append] at hf
    match fuel with
    | 0 => omega
    | f + 1 =>
      rw [parseLoop_step f _ pos _ _ (hpe r) hpos (by rw [List.length_append]; omega), List.drop_left' hel,
        hpr f (pos + b.length) (by omega)]
      rfl

theorem makeHeader_isSome (bs : List Blob) (hwf : AllWF bs) : ∃ h, makeHeader bs = some h :=
  (makeHeader_spec bs hwf).imp fun _ h => h.1

theorem makeHeader_length (bs : List Blob) (hwf : AllWF bs) (h : Bytes) (hm : makeHeader bs = some h) :
    h.length = entriesSize bs := by
  obtain ⟨_, hm', hl, -⟩ := makeHeader_spec bs hwf
  exact Option.some.inj (hm.symm.trans hm') ▸ hl

theorem _root_.Restic.Proofs.C06.parseLoop_makeHeader (bs : List Blob) (hwf : AllWF bs) (h : Bytes)
    (hm : makeHeader bs = some h) (fuel : Nat) (hf : h.length ≤ fuel) (pos : Nat) :
    parseLoop fuel h pos = .ok (withOffsets pos bs) := by
  obtain ⟨_, hm', -, hp⟩ := makeHeader_spec bs hwf
  obtain rfl := Option.some.inj (hm.symm.trans hm')
  exact hp fuel pos hf

theorem entrySizeOf_bounds (b : Blob) : pack_plainEntrySize ≤ entrySizeOf b ∧ entrySizeOf b ≤ pack_entrySize := by
  have hle := facts_maxEntries.plain_le
  unfold entrySizeOf
  split
  · exact ⟨hle, Nat.le_refl _⟩
  · exact ⟨Nat.le_refl _, hle⟩

theorem entriesSize_ge (bs : List Blob) (hne : bs ≠ []) : pack_plainEntrySize ≤ entriesSize bs := by
  match bs with
  | [] => exact absurd rfl hne
  | b :: bs => exact Nat.le_trans (entrySizeOf_bounds b).1 (Nat.le_add_right ..)

theorem entriesSize_le (bs : List Blob) : entriesSize bs ≤ bs.length * pack_entrySize := by
  induction bs with
  | nil => exact Nat.le_refl 0
  | cons b bs ih =>
    rw [entriesSize, List.length_cons, Nat.add_mul, Nat.one_mul, Nat.add_comm]
    exact Nat.add_le_add ih (entrySizeOf_bounds b).2

theorem calculateHeaderSize_eq (bs : List Blob) : calculateHeaderSize bs = pack_headerSize + entriesSize bs := by
  unfold calculateHeaderSize
  generalize pack_headerSize = s
  induction bs generalizing s with
  | nil => rfl
  | cons b bs ih => rw [List.foldl_cons, ih, entriesSize, Nat.add_assoc]; rfl

theorem list_of_headerOf_err (k : Crypto) (file : Bytes) (e : Err) (h : headerOf file = .err e) :
    list k file file.length = .err e := by
  unfold list
  rw [readHeader_eq, h]

/-- on a header that was read, the two slices `List` takes itself are in range -/
theorem list_of_headerOf_ok (k : Crypto) {file buf : Bytes} (h : headerOf file = .ok buf) :
    list k file file.length =
      match k.openB (buf.take crypto_ivSize) (buf.drop crypto_ivSize) with
      | none => .err .openFailed
      | some plain =>
        match parseLoop plain.length plain 0 with
        | .err e => .err e
        | .panic => .panic
        | .ok es => .ok (es, buf.length + pack_headerLengthSize) := by
  obtain ⟨-, -, hext, hmax⟩ := headerOf_ok h
  have hE := facts_layout.ext_eq; have h32 := facts_layout.max_lt
  unfold list
  rw [readHeader_eq, h]
  simp only [if_neg (Nat.not_lt.2 hext), slice?_ok buf 0 crypto_ivSize (Nat.zero_le _) (by omega),
    from?_ok buf crypto_ivSize (by omega), List.drop_zero, Nat.add_comm pack_headerLengthSize,
    Nat.mod_eq_of_lt (Nat.lt_of_le_of_lt hmax h32)]
  rfl

/-- what `List` does on a whole file, in the order of its steps -/
inductive ListOutcome (k : Crypto) (file : Bytes) : Res (List Blob × Nat) → Prop
  | guard {e} (hh : headerOf file = .err e) : ListOutcome k file (.err e)
  | openFailed {buf} (hh : headerOf file = .ok buf)
      (ho : k.openB (buf.take crypto_ivSize) (buf.drop crypto_ivSize) = none) : ListOutcome k file (.err .openFailed)
  | parseErr {buf plain e} (hh : headerOf file = .ok buf)
      (ho : k.openB (buf.take crypto_ivSize) (buf.drop crypto_ivSize) = some plain)
      (hp : parseLoop plain.length plain 0 = .err e) (he : e = .entryShort ∨ e = .invalidType) :
      ListOutcome k file (.err e)
  | ok {buf plain es hs} (hh : headerOf file = .ok buf)
      (ho : k.openB (buf.take crypto_ivSize) (buf.drop crypto_ivSize) = some plain)
      (hp : parseLoop plain.length plain 0 = .ok es) (wf : AllWF es) (off : withOffsets 0 es = es)
      (size : hs = buf.length + pack_headerLengthSize) : ListOutcome k file (.ok (es, hs))

theorem list_cases (k : Crypto) (file : Bytes) : ListOutcome k file (list k file file.length) := by
  cases hh : headerOf file with
  | panic => exact absurd hh (headerOf_ne_panic file)
  | err e => rw [list_of_headerOf_err k file e hh]; exact .guard hh
  | ok buf =>
    rw [list_of_headerOf_ok k hh]
    cases ho : k.openB (buf.take crypto_ivSize) (buf.drop crypto_ivSize) with
    | none => exact .openFailed hh ho
    | some plain =>
      rcases parseLoop_cases plain.length plain 0 (Nat.le_refl _) with (hp | hp) | ⟨es, hp, hwf, hoff⟩ <;>
        simp only [hp]
      · exact .parseErr hh ho hp (.inl rfl)
      · exact .parseErr hh ho hp (.inr rfl)
      · exact .ok hh ho hp hwf hoff rfl

theorem list_size (k : Crypto) (file : Bytes) (size : Nat) :
    list k file size =
      if size < pack_minFileSize then .err .fileTooShort
      else if size ≤ file.length then list k (file.take size) (file.take size).length else .err .readAt := by
  unfold list
  rw [readHeader_size]
  by_cases h1 : size < pack_minFileSize
  · rw [if_pos h1, if_pos h1]
  · rw [if_neg h1, if_neg h1]
    by_cases h2 : size ≤ file.length
    · rw [if_pos h2, if_pos h2, readHeader_eq]
    · rw [if_neg h2, if_neg h2]

theorem sealed_length {k : Crypto} (hk : Crypto.Lawful k) {nonce : Bytes} (hn : nonce.length = crypto_ivSize)
    (header : Bytes) : (nonce ++ k.sealB nonce header).length = header.length + crypto_Extension := by
  rw [List.length_append, hk.seal_len, hn, facts_layout.ext_eq]; omega

theorem trailer_length {k : Crypto} (hk : Crypto.Lawful k) {nonce : Bytes} (hn : nonce.length = crypto_ivSize)
    (header : Bytes) :
    ((nonce ++ k.sealB nonce header) ++ le32 (nonce ++ k.sealB nonce header).length).length =
      header.length + pack_headerSize := by
  rw [List.length_append, sealed_length hk hn, le32_length, facts_layout.headerSize_eq, facts_layout.hls_eq]; omega

/-- any file that ends with `nonce ‖ seal(makeHeader bs) ‖ le32(len)`, `bs` non-empty and well-formed, the cipher
lawful, lists exactly `bs` (with cumulative offsets) and reports the trailer's size — whatever precedes the
trailer, for every number of entries from one up to the header limit. -/
theorem list_trailer (k : Crypto) (hk : Crypto.Lawful k) (pre nonce header : Bytes) (bs : List Blob)
    (hn : nonce.length = crypto_ivSize) (hwf : AllWF bs) (hne : bs ≠ [])
    (hm : makeHeader bs = some header)
    (hmax : header.length + pack_headerSize ≤ pack_MaxHeaderSize) :
    list k (pre ++ (nonce ++ k.sealB nonce header) ++ le32 (nonce ++ k.sealB nonce header).length)
        (pre ++ (nonce ++ k.sealB nonce header) ++ le32 (nonce ++ k.sealB nonce header).length).length
      = .ok (withOffsets 0 bs, header.length + pack_headerSize) := by
  have hhs := facts_layout.headerSize_eq; have hmin := facts_layout.min_eq; have hmax32 := facts_layout.max_lt
  have hL := sealed_length hk hn header
  have hge := entriesSize_ge bs hne
  rw [← makeHeader_length bs hwf header hm] at hge
  have hho : headerOf _ = .ok (nonce ++ k.sealB nonce header) :=
    (headerOf_trailer pre _ (h32 := by omega) (hmin := by omega) (hext := by omega)).trans (if_neg (by omega))
  rw [list_of_headerOf_ok k hho, ← hn, List.take_left, List.drop_left, hk.open_seal nonce header hn]
  simp only [parseLoop_makeHeader bs hwf header hm header.length (Nat.le_refl _) 0, hL, hhs]
  rw [Nat.add_assoc, Nat.add_comm crypto_Extension]

theorem zip_all_beq_iff (as bs : List Blob) (hl : as.length = bs.length) :
    (as.zip bs).all (fun p => p.1 == p.2) = true ↔ as = bs := by
  induction as generalizing bs with
  | nil => cases bs with
    | nil => exact ⟨fun _ => rfl, fun _ => rfl⟩
    | cons b bs => cases hl
  | cons a as ih =>
    cases bs with
    | nil => cases hl
    | cons b bs =>
      rw [List.zip_cons_cons, List.all_cons, Bool.and_eq_true, beq_iff_eq, ih bs (Nat.succ.inj hl),
        List.cons.injEq]

theorem verifyHeader_ok_iff (k : Crypto) (enc : Bytes) (expected : List Blob) :
    verifyHeader k enc expected = .ok () ↔
      list k enc enc.length = .ok (expected, enc.length % 4294967296) := by
  unfold verifyHeader
  cases list k enc enc.length with
  | panic => exact ⟨nofun, nofun⟩
  | err e => exact ⟨nofun, nofun⟩
  | ok r =>
    obtain ⟨decoded, hs⟩ := r
    simp only [Res.ok.injEq, Prod.mk.injEq]
    by_cases c1 : hs ≠ enc.length % 4294967296
    · rw [if_pos c1]; exact ⟨nofun, fun h => absurd h.2 c1⟩
    by_cases c2 : decoded.length ≠ expected.length
    · rw [if_neg c1, if_pos c2]; exact ⟨nofun, fun h => absurd (congrArg List.length h.1) c2⟩
    have hz := zip_all_beq_iff decoded expected (Decidable.not_not.1 c2)
    rw [if_neg c1, if_neg c2]
    by_cases c3 : (decoded.zip expected).all (fun p => p.1 == p.2) = true
    · rw [if_pos c3]; exact ⟨fun _ => ⟨hz.1 c3, Decidable.not_not.1 c1⟩, fun _ => rfl⟩
    · rw [if_neg c3]; exact ⟨nofun, fun h => absurd (hz.2 h.1) c3⟩

/-- **Finalize succeeds and writes exactly the trailer** for well-formed blobs with consistent
offsets, as long as the header fits. -/
theorem finalize_ok (k : Crypto) (hk : Crypto.Lawful k) (nonce : Bytes) (bs : List Blob)
    (hn : nonce.length = crypto_ivSize) (hwf : AllWF bs) (hne : bs ≠ []) (hoff : withOffsets 0 bs = bs)
    (hmax : entriesSize bs + pack_headerSize ≤ pack_MaxHeaderSize) :
    ∃ header, makeHeader bs = some header ∧
      finalize k nonce bs =
        .ok ((nonce ++ k.sealB nonce header) ++ le32 (nonce ++ k.sealB nonce header).length) := by
  have hmax32 := facts_layout.max_lt
  obtain ⟨header, hm⟩ := makeHeader_isSome bs hwf
  have hhl := makeHeader_length bs hwf header hm
  refine ⟨header, hm, ?_⟩
  have hl := list_trailer k hk [] nonce header bs hn hwf hne hm (hhl ▸ hmax)
  rw [List.nil_append, hoff] at hl
  unfold finalize
  simp only [hm, (verifyHeader_ok_iff k _ bs).2
    (by rw [hl, trailer_length hk hn, Nat.mod_eq_of_lt (by omega)])]

def totalLength : List Blob → Nat
  | [] => 0
  | b :: bs => b.length + totalLength bs

theorem withOffsets_length (pos : Nat) (bs : List Blob) : (withOffsets pos bs).length = bs.length := by
  induction bs generalizing pos with
  | nil => rfl
  | cons b bs ih => simp [withOffsets, ih]

theorem withOffsets_append (pos : Nat) (as bs : List Blob) :
    withOffsets pos (as ++ bs) = withOffsets pos as ++ withOffsets (pos + totalLength as) bs := by
  induction as generalizing pos with
  | nil => simp [withOffsets, totalLength]
  | cons a as ih => simp only [List.cons_append, withOffsets, ih, totalLength]; rw [Nat.add_assoc]

theorem totalLength_append (as bs : List Blob) : totalLength (as ++ bs) = totalLength as + totalLength bs := by
  induction as with
  | nil => simp [totalLength]
  | cons a as ih => simp only [List.cons_append, totalLength, ih]; omega

structure Packer.Inv (p : Packer) : Prop where
  offsets : withOffsets 0 p.blobs = p.blobs
  bytes : p.bytes = totalLength p.blobs
  out : p.out.length = p.bytes

theorem Packer.inv_empty : Packer.Inv {} := ⟨rfl, rfl, rfl⟩

theorem Packer.inv_add (p : Packer) (hp : Packer.Inv p) (t : Nat) (id data : Bytes) (ulen : Nat) :
    Packer.Inv (p.add t id data ulen) where
  offsets := by simp only [Packer.add, withOffsets_append, hp.offsets, withOffsets, Nat.zero_add, hp.bytes]
  bytes := by simp only [Packer.add, totalLength_append, totalLength, hp.bytes]; omega
  out := by simp only [Packer.add, List.length_append, hp.out]

/-- a sequence of `Add` calls: (type, id, data, uncompressed length) -/
abbrev AddCall := Nat × Bytes × Bytes × Nat

def addAll (p : Packer) (adds : List AddCall) : Packer :=
  adds.foldl (fun p a => p.add a.1 a.2.1 a.2.2.1 a.2.2.2) p

/-- the well-formedness the header format needs of an `Add` call -/
def AddOK (a : AddCall) : Prop :=
  (a.1 = restic_DataBlob ∨ a.1 = restic_TreeBlob) ∧ a.2.1.length = restic_idSize ∧
  a.2.2.1.length < 4294967296 ∧ a.2.2.2 < 4294967296

theorem addAll_inv (p : Packer) (hp : Packer.Inv p) (adds : List AddCall) : Packer.Inv (addAll p adds) :=
  List.foldlRecOn adds _ hp fun p hp _ _ => Packer.inv_add p hp _ _ _ _

theorem addAll_blobs (p : Packer) (adds : List AddCall) :
    (addAll p adds).blobs = p.blobs ++
      expectedListing p.bytes (adds.map fun a => (a.1, a.2.1, a.2.2.1.length, a.2.2.2)) ∧
    (addAll p adds).out = p.out ++ (adds.map (·.2.2.1)).flatten := by
  induction adds generalizing p with
  | nil => simp [addAll, expectedListing]
  | cons a as ih =>
    have := ih (p.add a.1 a.2.1 a.2.2.1 a.2.2.2)
    simp only [addAll, List.foldl_cons] at this ⊢
    rw [this.1, this.2]
    simp [Packer.add, expectedListing]

theorem expectedListing_wf (pos : Nat) (adds : List AddCall) (h : ∀ a ∈ adds, AddOK a) :
    AllWF (expectedListing pos (adds.map fun a => (a.1, a.2.1, a.2.2.1.length, a.2.2.2))) := by
  induction adds generalizing pos with
  | nil => intro b hb; cases hb
  | cons a as ih =>
    intro b hb
    simp only [List.map_cons, expectedListing, List.mem_cons] at hb
    rcases hb with rfl | hb
    · obtain ⟨h1, h2, h3, h4⟩ := h a (List.mem_cons_self ..)
      exact { type := h1, id := h2, length := h3, ulen := h4 }
    · exact ih _ (fun a' ha' => h a' (List.mem_cons_of_mem _ ha')) b hb

/-- for every non-empty sequence of `Add` calls with data/tree types, 32-byte ids
and 32-bit lengths whose header fits into `MaxHeaderSize`, `Finalize` succeeds, and `List` on the
resulting pack file returns exactly the blobs added — same order, types, ids, stored and
uncompressed lengths, offsets the running sum of the stored lengths — and as header size the
number of bytes `Finalize` appended; the file is the blob data followed by that header. -/
theorem list_finalize (k : Crypto) (hk : Crypto.Lawful k) (nonce : Bytes) (adds : List AddCall)
    (hn : nonce.length = crypto_ivSize) (hne : adds ≠ []) (hok : ∀ a ∈ adds, AddOK a)
    (hmax : entriesSize (addAll {} adds).blobs + pack_headerSize ≤ pack_MaxHeaderSize) :
    let p := addAll {} adds
    let expected := expectedListing 0 (adds.map fun a => (a.1, a.2.1, a.2.2.1.length, a.2.2.2))
    ∃ p' : Packer, p.finalize k nonce = .ok p' ∧
      p.blobs = expected ∧
      list k p'.out p'.out.length = .ok (expected, pack_headerSize + entriesSize expected) ∧
      p'.out.length = totalLength expected + (pack_headerSize + entriesSize expected) ∧
      p'.out.take (totalLength expected) = (adds.map (·.2.2.1)).flatten ∧
      p'.bytes = p'.out.length := by
  intro p expected
  have hinv : Packer.Inv p := addAll_inv {} Packer.inv_empty adds
  obtain ⟨hb, hout⟩ : p.blobs = expected ∧ p.out = (adds.map (·.2.2.1)).flatten := addAll_blobs {} adds
  have hwf : AllWF p.blobs := hb ▸ expectedListing_wf 0 adds hok
  have hne' : p.blobs ≠ [] := by
    rw [hb]
    cases adds with
    | nil => exact absurd rfl hne
    | cons a as => exact List.cons_ne_nil _ _
  obtain ⟨header, hm, hfin⟩ := finalize_ok k hk nonce p.blobs hn hwf hne' hinv.offsets hmax
  have hhl := makeHeader_length p.blobs hwf header hm
  have htl := trailer_length hk hn header
  have hol : p.out.length = totalLength expected := by rw [hinv.out, hinv.bytes, hb]
  rw [hhl, hb, Nat.add_comm] at htl
  refine ⟨_, by rw [Packer.finalize, hfin], hb, ?_, ?_, ?_, ?_⟩
  · have := list_trailer k hk p.out nonce header p.blobs hn hwf hne' hm (hhl ▸ hmax)
    rw [hinv.offsets, hb, hhl, hb, Nat.add_comm, List.append_assoc] at this
    exact this
  · rw [List.length_append, htl, hol]
  · rw [← hol, List.take_left, hout]
  · simp only [List.length_append, hinv.out]

/-- for every cipher behaviour, every byte string and every claimed size, `List`
returns entries or an error: no slice expression is out of range and the parse loop ends within
its fuel. -/
theorem list_no_panic (k : Crypto) (file : Bytes) (size : Nat) : list k file size ≠ .panic := by
  rw [list_size]
  refine Proofs.ite_ne (fun _ => nofun) fun _ => Proofs.ite_ne (fun _ h => ?_) fun _ => nofun
  have hc := list_cases k (file.take size)
  rw [h] at hc
  cases hc

theorem verifyHeader_no_panic (k : Crypto) (enc : Bytes) (bs : List Blob) : verifyHeader k enc bs ≠ .panic := by
  unfold verifyHeader
  cases hle : list k enc enc.length with
  | panic => exact absurd hle (list_no_panic k enc enc.length)
  | err e => intro h; cases h
  | ok r => exact Proofs.ite_ne (fun _ => nofun) fun _ => Proofs.ite_ne (fun _ => nofun) fun _ => Proofs.ite_ne (fun _ => nofun) fun _ => nofun

theorem finalize_no_panic (k : Crypto) (nonce : Bytes) (bs : List Blob) : finalize k nonce bs ≠ .panic := by
  unfold finalize
  cases makeHeader bs with
  | none => intro h; cases h
  | some header =>
    simp only
    generalize nonce ++ k.sealB nonce header ++ le32 (nonce ++ k.sealB nonce header).length = enc
    cases hvv : verifyHeader k enc bs with
    | panic => exact absurd hvv (verifyHeader_no_panic k enc bs)
    | err e => intro h; cases h
    | ok u => intro h; cases h

theorem list_too_short (k : Crypto) (file : Bytes) (h : file.length < pack_minFileSize) :
    list k file file.length = .err .fileTooShort :=
  list_of_headerOf_err k file _ ((headerOf_ladder file).fileTooShort h)

/-- the length field (last four bytes, little endian) decides: zero, smaller than the crypto
overhead, larger than what precedes it, or larger than `MaxHeaderSize - 4` are all rejected -/
theorem list_bad_length_field (k : Crypto) (file : Bytes) (hn : pack_minFileSize ≤ file.length) :
    let hlen := unle32 (file.drop (file.length - pack_headerLengthSize))
    (hlen = 0 → list k file file.length = .err .hlenZero) ∧
    (0 < hlen → hlen < crypto_Extension → list k file file.length = .err .hlenTooShort) ∧
    (crypto_Extension ≤ hlen → file.length < hlen + pack_headerLengthSize →
      list k file file.length = .err .hlenLargerThanFile) ∧
    (crypto_Extension ≤ hlen → hlen + pack_headerLengthSize ≤ file.length →
      pack_MaxHeaderSize < hlen + pack_headerLengthSize → list k file file.length = .err .hlenLargerThanMax) := by
  intro hlen
  have L := headerOf_ladder file
  exact ⟨fun h0 => list_of_headerOf_err k file _ (L.hlenZero hn h0),
    fun h1 h2 => list_of_headerOf_err k file _ (L.hlenTooShort hn h1 h2),
    fun h1 h2 => list_of_headerOf_err k file _ (L.hlenLargerThanFile hn h1 h2),
    fun h1 h2 h3 => list_of_headerOf_err k file _ ((L.fits hn h1 h2).trans (if_pos h3))⟩

/-- no wrong listing: whenever `List` returns entries for a file, the
file ends with `nonce ‖ ct ‖ le32(|nonce ‖ ct|)` where `ct` was accepted by the cipher's `Open`
(MAC check) under `nonce`; the entries are the parse of that authenticated plaintext, are
well-formed, carry cumulative offsets, and the reported size is exactly that trailer, within
`MaxHeaderSize`. So a truncated, extended or edited file can only be listed if the bytes in front
of its (new) end still authenticate — which the MAC excludes. -/
theorem list_ok_authentic (k : Crypto) (file : Bytes) (es : List Blob) (hs : Nat)
    (h : list k file file.length = .ok (es, hs)) :
    ∃ pre nonce ct plain,
      file = pre ++ (nonce ++ ct) ++ le32 (nonce ++ ct).length ∧ nonce.length = crypto_ivSize ∧
      k.openB nonce ct = some plain ∧ parseLoop plain.length plain 0 = .ok es ∧
      hs = (nonce ++ ct).length + pack_headerLengthSize ∧ hs ≤ pack_MaxHeaderSize ∧
      AllWF es ∧ withOffsets 0 es = es := by
  have hc := list_cases k file
  rw [h] at hc
  cases hc with
  | @ok buf plain _ _ hh ho hp hwf hoff hsz =>
    obtain ⟨pre, hfile, hext, hmax⟩ := headerOf_ok hh
    have hiv : crypto_ivSize ≤ buf.length := by have := facts_layout.ext_eq; omega
    exact ⟨pre, buf.take crypto_ivSize, buf.drop crypto_ivSize, plain,
      (List.take_append_drop ..).symm ▸ hfile, List.length_take_of_le hiv, ho, hp,
      (List.take_append_drop ..).symm ▸ hsz, hsz ▸ hmax, hwf, hoff⟩

/-- the error "invalid header, too short" of `List` is unreachable when the size is the file's
length: the length-field guard has already excluded it -/
theorem list_never_headerTooShort (k : Crypto) (file : Bytes) :
    list k file file.length ≠ .err .headerTooShort := by
  intro h
  have hc := list_cases k file
  rw [h] at hc
  cases hc with
  | guard hh => exact headerOf_ne_headerTooShort file hh
  | parseErr _ _ _ he => rcases he with he | he <;> cases he

/-- `HeaderFull` is false exactly while one more (full-size) entry still fits -/
theorem headerFull_iff (n : Nat) : headerFull n = false ↔ n + 1 ≤ pack_MaxHeaderEntries := by
  have hhm := facts_maxEntries.headerSize_le
  unfold headerFull
  rw [decide_eq_false_iff_not, facts_maxEntries.count_eq, Nat.le_div_iff_mul_le facts_maxEntries.entry_pos]
  omega

theorem fits_of_count (bs : List Blob) (h : bs.length ≤ pack_MaxHeaderEntries) :
    entriesSize bs + pack_headerSize ≤ pack_MaxHeaderSize := by
  have hhm := facts_maxEntries.headerSize_le
  have h1 := Nat.le_trans (entriesSize_le bs) (Nat.mul_le_mul_right pack_entrySize h)
  have h3 : pack_MaxHeaderEntries * pack_entrySize ≤ pack_MaxHeaderSize - pack_headerSize :=
    facts_maxEntries.count_eq ▸ Nat.div_mul_le_self _ _
  omega

/-- so: if `HeaderFull` was false when the last blob was added, `Finalize` will not hit the limit -/
theorem fits_of_not_full (bs : List Blob) (hne : bs ≠ []) (h : headerFull (bs.length - 1) = false) :
    entriesSize bs + pack_headerSize ≤ pack_MaxHeaderSize := by
  apply fits_of_count
  have := (headerFull_iff _).1 h
  have : 0 < bs.length := List.length_pos_iff.2 hne
  omega

theorem entriesSize_compressed (bs : List Blob) (hc : ∀ b ∈ bs, b.ulen ≠ 0) :
    entriesSize bs = bs.length * pack_entrySize := by
  induction bs with
  | nil => exact (Nat.zero_mul _).symm
  | cons b bs ih =>
    rw [entriesSize, entrySizeOf, if_pos (hc b (List.mem_cons_self ..)),
      ih fun b' hb' => hc b' (List.mem_cons_of_mem _ hb'), List.length_cons, Nat.add_mul, Nat.one_mul,
      Nat.add_comm]

/-- the limit is tight for compressed entries: one entry more than `MaxHeaderEntries` does not fit -/
theorem over_limit (bs : List Blob) (hc : ∀ b ∈ bs, b.ulen ≠ 0) (h : pack_MaxHeaderEntries < bs.length) :
    pack_MaxHeaderSize < entriesSize bs + pack_headerSize := by
  rw [entriesSize_compressed bs hc]
  have h1 : (pack_MaxHeaderEntries + 1) * pack_entrySize ≤ bs.length * pack_entrySize :=
    Nat.mul_le_mul_right _ h
  have h2 : pack_MaxHeaderSize - pack_headerSize < (pack_MaxHeaderEntries + 1) * pack_entrySize :=
    facts_maxEntries.count_eq ▸ Nat.lt_mul_of_div_lt (Nat.lt_succ_self _) facts_maxEntries.entry_pos
  omega

/-- **A header beyond the limit is never written**: `Finalize` fails ("header decoding failed")
whenever the entries exceed `MaxHeaderSize`. -/
theorem finalize_overfull (k : Crypto) (hk : Crypto.Lawful k) (nonce : Bytes) (bs : List Blob)
    (hn : nonce.length = crypto_ivSize) (hwf : AllWF bs)
    (hover : pack_MaxHeaderSize < entriesSize bs + pack_headerSize)
    (h32 : entriesSize bs + pack_headerSize < 4294967296) :
    finalize k nonce bs = .err .verifyDecode := by
  have hminmax : pack_minFileSize ≤ pack_MaxHeaderSize := by decide
  obtain ⟨header, hm⟩ := makeHeader_isSome bs hwf
  have hL := sealed_length hk hn header
  have hT : (nonce ++ k.sealB nonce header).length + pack_headerLengthSize = entriesSize bs + pack_headerSize := by
    rw [hL, makeHeader_length bs hwf header hm, facts_layout.headerSize_eq]; omega
  have hho := (headerOf_trailer [] (nonce ++ k.sealB nonce header)
    (h32 := Nat.lt_of_le_of_lt (Nat.le_add_right ..) (hT ▸ h32))
    (hmin := by rw [List.length_nil, Nat.zero_add, hT]; exact Nat.le_trans hminmax (Nat.le_of_lt hover))
    (hext := hL ▸ Nat.le_add_left ..)).trans (if_pos (hT ▸ hover))
  rw [List.nil_append] at hho
  unfold finalize verifyHeader
  simp only [hm, list_of_headerOf_err k _ _ hho]

theorem finalize_eq_ok {k : Crypto} {nonce : Bytes} {bs : List Blob} {h : Bytes} (hf : finalize k nonce bs = .ok h) :
    ∃ header, makeHeader bs = some header ∧
      h = nonce ++ k.sealB nonce header ++ le32 (nonce ++ k.sealB nonce header).length ∧
      verifyHeader k h bs = .ok () := by
  unfold finalize at hf
  cases hm : makeHeader bs with
  | none => rw [hm] at hf; cases hf
  | some header =>
    simp only [hm] at hf
    generalize henc : nonce ++ k.sealB nonce header ++ le32 (nonce ++ k.sealB nonce header).length = enc at hf
    cases hv : verifyHeader k enc bs with
    | panic => rw [hv] at hf; cases hf
    | err e => rw [hv] at hf; cases hf
    | ok u => rw [hv] at hf; cases hf; exact ⟨header, rfl, henc.symm, hv⟩

/-- verify before write: whatever the cipher does, if `Finalize` returns bytes
to append, then `List` on exactly those bytes returns exactly the packer's blobs, every blob is
representable (data/tree type, 32-byte id, 32-bit lengths) and the offsets are cumulative. -/
theorem finalize_sound (k : Crypto) (nonce : Bytes) (bs : List Blob) (h : Bytes)
    (hf : finalize k nonce bs = .ok h) :
    list k h h.length = .ok (bs, h.length % 4294967296) ∧ AllWF bs ∧ withOffsets 0 bs = bs := by
  obtain ⟨_, _, _, hv⟩ := finalize_eq_ok hf
  have hl := (verifyHeader_ok_iff k h bs).1 hv
  have hc := list_cases k h
  rw [hl] at hc
  cases hc with
  | ok _ _ _ hwf hoff => exact ⟨hl, hwf, hoff⟩

/-- **Wide lengths are caught**: a blob whose stored or uncompressed length
does not fit into 32 bits, whose type is not data/tree, or a packer with inconsistent offsets never
yields a pack — the truncating `uint32` conversion in `makeHeader` is caught by `verifyHeader`. -/
theorem finalize_rejects_wide (k : Crypto) (nonce : Bytes) (bs : List Blob)
    (hbad : (∃ b ∈ bs, 4294967296 ≤ b.length ∨ 4294967296 ≤ b.ulen ∨
              ¬ (b.type = restic_DataBlob ∨ b.type = restic_TreeBlob)) ∨ withOffsets 0 bs ≠ bs) :
    ∀ h, finalize k nonce bs ≠ .ok h := by
  intro h hf
  obtain ⟨_, hwf, hoff⟩ := finalize_sound k nonce bs h hf
  rcases hbad with ⟨b, hb, h1 | h1 | h1⟩ | hbad
  · exact Nat.not_le.2 (hwf b hb).length h1
  · exact Nat.not_le.2 (hwf b hb).ulen h1
  · exact h1 (hwf b hb).type
  · exact hbad hoff

theorem offsetsOK_iff (pos : Nat) (bs : List Blob) : offsetsOK pos bs = true ↔ withOffsets pos bs = bs := by
  induction bs generalizing pos with
  | nil => exact ⟨fun _ => rfl, fun _ => rfl⟩
  | cons b bs ih =>
    cases b
    simp only [offsetsOK, withOffsets, Bool.and_eq_true, beq_iff_eq, ih, List.cons.injEq, Blob.mk.injEq,
      true_and, and_true, eq_comm (a := pos)]

theorem representable_iff (bs : List Blob) :
    representable bs = true ↔
      bs ≠ [] ∧ AllWF bs ∧ withOffsets 0 bs = bs ∧ entriesSize bs + pack_headerSize ≤ pack_MaxHeaderSize := by
  unfold representable
  simp only [Bool.and_eq_true, Bool.not_eq_true', List.isEmpty_eq_false_iff, List.all_eq_true, Bool.or_eq_true,
    beq_iff_eq, decide_eq_true_eq, offsetsOK_iff, calculateHeaderSize_eq, and_assoc, Nat.add_comm pack_headerSize]
  exact and_congr_right fun _ => and_congr_left' ⟨fun h b hb => ⟨(h b hb).1, (h b hb).2.1, (h b hb).2.2.1, (h b hb).2.2.2⟩,
    fun h b hb => ⟨(h b hb).type, (h b hb).id, (h b hb).length, (h b hb).ulen⟩⟩

/-- `Finalize` succeeds exactly for representable packer contents: the model meets `specFinalize`
(for headers below 4 GiB, i.e. fewer than about 10⁸ entries). -/
theorem finalize_spec (k : Crypto) (hk : Crypto.Lawful k) (nonce : Bytes) (bs : List Blob)
    (hn : nonce.length = crypto_ivSize) (h32 : entriesSize bs + pack_headerSize < 4294967296) :
    specFinalize bs (match finalize k nonce bs with | .ok _ => true | _ => false) = true := by
  unfold specFinalize
  by_cases hr : representable bs = true
  · obtain ⟨hne, hwf, hoff, hsz⟩ := (representable_iff bs).1 hr
    obtain ⟨header, _, hfin⟩ := finalize_ok k hk nonce bs hn hwf hne hoff hsz
    rw [hr, hfin]; rfl
  · rw [Bool.eq_false_iff.2 hr]
    cases hf : finalize k nonce bs with
    | panic => rfl
    | err e => rfl
    | ok h =>
      obtain ⟨hl, hwf, hoff⟩ := finalize_sound k nonce bs h hf
      refine absurd ((representable_iff bs).2 ⟨?_, hwf, hoff, Nat.le_of_not_lt fun hover => ?_⟩) hr
      · -- an empty packer yields a file shorter than the minimum
        rintro rfl
        have hplain := facts_layout.plain_eq; have hhs := facts_layout.headerSize_eq; have hmin := facts_layout.min_eq
        obtain ⟨_, hm, rfl, _⟩ := finalize_eq_ok hf
        cases hm
        rw [list_too_short k _ (by rw [trailer_length hk hn]; simp only [List.length_nil]; omega)] at hl
        cases hl
      · rw [finalize_overfull k hk nonce bs hn hwf hover h32] at hf
        cases hf

/-- the conclusion of `list_finalize` is exactly what `specListing` checks on the implementation -/
theorem list_finalize_spec (k : Crypto) (hk : Crypto.Lawful k) (nonce : Bytes) (adds : List AddCall)
    (hn : nonce.length = crypto_ivSize) (hne : adds ≠ []) (hok : ∀ a ∈ adds, AddOK a)
    (hmax : entriesSize (addAll {} adds).blobs + pack_headerSize ≤ pack_MaxHeaderSize) :
    ∃ p' es hs, (addAll {} adds).finalize k nonce = .ok p' ∧ list k p'.out p'.out.length = .ok (es, hs) ∧
      specListing (adds.map fun a => (a.1, a.2.1, a.2.2.1.length, a.2.2.2)) p'.out.length es hs = true := by
  obtain ⟨p', hfin, _, hl, hlen, _, _⟩ := list_finalize k hk nonce adds hn hne hok hmax
  refine ⟨p', _, _, hfin, hl, ?_⟩
  have hsum : ∀ (l : List (Nat × Bytes × Nat × Nat)) (pos s : Nat),
      l.foldl (fun s a => s + a.2.2.1) s = s + totalLength (expectedListing pos l) := by
    intro l
    induction l with
    | nil => intro pos s; rfl
    | cons a l ih =>
      intro pos s
      rw [List.foldl_cons, expectedListing, totalLength, ih (pos + a.2.2.1), Nat.add_assoc]
  unfold specListing
  simp only [beq_self_eq_true, Bool.true_and, Bool.and_eq_true, beq_iff_eq]
  exact ⟨by rw [hsum _ 0 0, hlen]; omega, (calculateHeaderSize_eq _).symm⟩

/-- a toy cipher satisfying the laws: the "ciphertext" is the plaintext followed by 16 zero bytes -/
def toyCrypto : Crypto where
  sealB := fun _ p => p ++ List.replicate crypto_macSize 0
  openB := fun _ ct => if crypto_macSize ≤ ct.length ∧ ct.drop (ct.length - crypto_macSize) = List.replicate crypto_macSize 0
    then some (ct.take (ct.length - crypto_macSize)) else none

theorem toyCrypto_lawful : Crypto.Lawful toyCrypto where
  open_seal := by
    intro n p _
    simp only [toyCrypto, List.length_append, List.length_replicate, Nat.add_sub_cancel, List.drop_left,
      List.take_left, Nat.le_add_left, and_self, if_true]
  seal_len := by intro n p; simp only [toyCrypto, List.length_append, List.length_replicate]

/-- a plain data blob and a compressed tree blob -/
def exampleAdds : List AddCall :=
  [(restic_DataBlob, List.replicate 32 7, [1, 2, 3], 0), (restic_TreeBlob, List.replicate 32 9, [4], 70000)]

/-- the hypotheses of `list_finalize` are satisfiable -/
example : Crypto.Lawful toyCrypto ∧ (List.replicate 16 (1 : UInt8)).length = crypto_ivSize ∧ exampleAdds ≠ [] ∧
    (∀ a ∈ exampleAdds, AddOK a) ∧
    entriesSize (addAll {} exampleAdds).blobs + pack_headerSize ≤ pack_MaxHeaderSize := by
  refine ⟨toyCrypto_lawful, by decide, by decide, ?_, by decide⟩
  intro a ha
  simp only [exampleAdds, List.mem_cons, List.not_mem_nil, or_false] at ha
  rcases ha with rfl | rfl <;> (unfold AddOK; decide)

/-- the model lists that pack back, with offsets 0 and 3 and header size 36+37+41 -/
example : ((addAll {} exampleAdds).finalize toyCrypto (List.replicate 16 1)).rec
    (fun p' => (list toyCrypto p'.out p'.out.length).rec (fun r => (r.1.map (·.offset), r.2)) (fun _ => ([], 0)) ([], 0))
    (fun _ => ([], 0)) ([], 0) = ([0, 3], 114) := by decide +kernel

/-- `HeaderFull` flips exactly at `MaxHeaderEntries` -/
example : headerFull (pack_MaxHeaderEntries - 1) = false ∧ headerFull pack_MaxHeaderEntries = true := by decide +kernel

example : list toyCrypto (List.replicate 80 0) 80 = .err .hlenZero ∧
    list toyCrypto (List.replicate 10 0) 10 = .err .fileTooShort := by decide +kernel

example : ∀ h, finalize toyCrypto (List.replicate 16 1)
    [{ type := restic_DataBlob, id := List.replicate 32 0, length := 5, offset := 0, ulen := 4294967296 }] ≠ .ok h :=
  finalize_rejects_wide _ _ _ (Or.inl ⟨_, List.mem_cons_self .., Or.inr (Or.inl (Nat.le_refl _))⟩)

end Restic.Props.C06
