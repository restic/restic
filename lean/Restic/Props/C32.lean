import Restic.Model.Copy
import Restic.Proofs.Fold
import Restic.Gen.Source
/-!
# C32 — copy transfers snapshots faithfully and idempotently

Theorems about `Restic.Model.Copy` (transcription of collectAllSnapshots / similarSnapshots /
copyTreeBatched / copyTree / copySaveSnapshot). For all source and destination states, all
reachability oracles, all ways of cutting the selected snapshots into batches, all crash points.
-/
namespace Restic.Props.C32
open Restic.Model.Copy

theorem hasTags_sub (sn : Snap) : ∀ (l : List String), (∀ t ∈ l, t ∈ sn.tags) → hasTags sn l = true
  | [], _ => rfl
  | t :: rest, h => by
    unfold hasTags
    have ht : sn.tags.contains t = true := by simpa using h t List.mem_cons_self
    by_cases h1 : (t == "" && sn.tags.isEmpty) = true
    · simp [h1]
    · simp only [h1, Bool.false_eq_true, if_false, ht, Bool.not_true]
      exact hasTags_sub sn rest (fun t' ht' => h t' (List.mem_cons_of_mem _ ht'))

/-- a snapshot written by `copySaveSnapshot` is `similarSnapshots` to its source -/
theorem similar_copy (sn : Snap) (nid : ID) : similar (copySnap sn nid) sn = true := by
  unfold similar copySnap
  simp only [bne_self_eq_false, Bool.or_self, Bool.false_eq_true, if_false]
  have h1 : hasPaths { sn with id := nid, parent := none, original := some (persistentID sn) } sn.paths = true := by
    simp [hasPaths]
  have h2 : hasTags { sn with id := nid, parent := none, original := some (persistentID sn) } sn.tags = true :=
    hasTags_sub _ _ (fun t ht => ht)
  simp only [h1, h2, Bool.not_true, Bool.or_self, Bool.false_eq_true, if_false]
  simp [List.zip, List.zipWith_self]

theorem alreadyCopied_mono (dst more : List Snap) (sn : Snap) (h : alreadyCopied dst sn = true) :
    alreadyCopied (dst ++ more) sn = true := by
  unfold alreadyCopied dstByOriginal at *
  simp only [List.any_eq_true, List.mem_filter, List.mem_append] at h ⊢
  obtain ⟨d, ⟨hd, hk⟩, hs⟩ := h
  exact ⟨d, ⟨Or.inl hd, hk⟩, hs⟩

theorem persistentID_ne_null (sn : Snap) (h : sn.id ≠ nullID) : persistentID sn ≠ nullID := by
  unfold persistentID
  split
  · rename_i o _
    by_cases ho : (o == nullID) = true
    · simp only [ho, if_true]; exact h
    · simp only [ho, Bool.false_eq_true, if_false]; simpa using ho
  · exact h

theorem alreadyCopied_of_mem (dst : List Snap) (sn : Snap) (nid : ID) (h : sn.id ≠ nullID)
    (hm : copySnap sn nid ∈ dst) : alreadyCopied dst sn = true := by
  unfold alreadyCopied dstByOriginal
  simp only [List.any_eq_true, List.mem_filter]
  refine ⟨copySnap sn nid, ⟨hm, ?_⟩, similar_copy sn nid⟩
  simp [copySnap, persistentID_ne_null sn h]

theorem copied_is_recognised (dst : List Snap) (sn : Snap) (nid : ID) (h : sn.id ≠ nullID) :
    alreadyCopied (dst ++ [copySnap sn nid]) sn = true :=
  alreadyCopied_of_mem _ sn nid h (List.mem_append_right _ (List.mem_singleton.mpr rfl))

/-- **copy_idempotent**: after a run that saved a copy of every selected snapshot, a second run
    with the same request selects no snapshot at all, whatever the destination contained before and
    whatever IDs it assigned. The only hypothesis: no snapshot's own storage ID is the null ID
    (IDs are SHA-256 values). -/
theorem copy_idempotent (requested dst0 : List Snap) (newId : Snap → ID)
    (hid : ∀ sn ∈ requested, sn.id ≠ nullID) :
    selected requested (dst0 ++ (selected requested dst0).map (fun sn => copySnap sn (newId sn))) = [] := by
  unfold selected
  rw [List.filter_eq_nil_iff]
  intro sn hsn
  simp only [Bool.not_eq_true', Bool.not_eq_false]
  by_cases hc : alreadyCopied dst0 sn = true
  · exact alreadyCopied_mono dst0 _ sn hc
  · -- it was selected, so its copy is in the destination now
    exact alreadyCopied_of_mem _ sn (newId sn) (hid sn hsn) (List.mem_append_right _
      (List.mem_map.mpr ⟨sn, List.mem_filter.mpr ⟨hsn, by simpa using hc⟩, rfl⟩))

theorem copy_idempotent_spec (requested dst0 : List Snap) (newId : Snap → ID)
    (hid : ∀ sn ∈ requested, sn.id ≠ nullID) :
    specIdempotent requested (dst0 ++ (selected requested dst0).map (fun sn => copySnap sn (newId sn))) = true := by
  unfold specIdempotent; rw [copy_idempotent requested dst0 newId hid]; rfl

theorem skip_sound (dst0 : List Snap) (sn : Snap) (h : alreadyCopied dst0 sn = true) :
    ∃ d ∈ dst0, d.tree = sn.tree ∧ similar d sn = true ∧ (d.original = some (persistentID sn) ∨ d.id = persistentID sn) := by
  unfold alreadyCopied dstByOriginal at h
  simp only [List.any_eq_true, List.mem_filter, Bool.or_eq_true, beq_iff_eq] at h
  obtain ⟨d, ⟨hd, hk⟩, hs⟩ := h
  refine ⟨d, hd, ?_, hs, ?_⟩
  · unfold similar at hs
    by_cases ht : d.tree = sn.tree
    · exact ht
    · have : (d.tree != sn.tree) = true := by simpa using ht
      simp [this] at hs
  · rcases hk with hk | hk
    · left
      cases ho : d.original with
      | none => rw [ho] at hk; simp at hk
      | some o => rw [ho] at hk; simp only [Bool.and_eq_true, beq_iff_eq] at hk; rw [hk.2]
    · exact Or.inr hk

/-- **copy_faithful_all** (snapshot level): after the run every requested snapshot has a destination
    snapshot with the same tree and equal fields carrying its persistent ID — either the one that
    made the skip test succeed (`skip_sound`) or the copy just written. -/
theorem copy_faithful_all (requested dst0 : List Snap) (newId : Snap → ID) :
    specFaithful requested (dst0 ++ (selected requested dst0).map (fun sn => copySnap sn (newId sn))) = true := by
  unfold specFaithful
  simp only [List.all_eq_true, List.any_eq_true, List.mem_append, Bool.and_eq_true, Bool.or_eq_true,
    beq_iff_eq]
  intro sn hsn
  by_cases hc : alreadyCopied dst0 sn = true
  · obtain ⟨d, hd, h1, h2, h3⟩ := skip_sound dst0 sn hc
    exact ⟨d, Or.inl hd, ⟨h1, h2⟩, h3⟩
  · refine ⟨copySnap sn (newId sn), Or.inr ?_, ⟨rfl, similar_copy sn _⟩, Or.inl rfl⟩
    exact List.mem_map.mpr ⟨sn, List.mem_filter.mpr ⟨hsn, by simpa using hc⟩, rfl⟩

/-- the same with the skip test's soundness as a hypothesis, which `skip_sound` shows to hold always -/
theorem copy_faithful (requested dst0 : List Snap) (newId : Snap → ID)
    (hskip : ∀ sn ∈ requested, alreadyCopied dst0 sn = true →
      ∃ d ∈ dst0, d.tree = sn.tree ∧ similar d sn = true ∧ (d.original = some (persistentID sn) ∨ d.id = persistentID sn)) :
    specFaithful requested (dst0 ++ (selected requested dst0).map (fun sn => copySnap sn (newId sn))) = true :=
  copy_faithful_all requested dst0 newId

theorem apply_grows (d : Dst) (e : Ev) : (d.apply e).has0 = d.has0 ∧
    (∀ p ∈ d.packs, p ∈ (d.apply e).packs) ∧ ∀ x ∈ d.indexed, x ∈ (d.apply e).indexed := by
  cases e <;> exact ⟨rfl, fun _ h => by simp [Dst.apply, h], fun _ h => by simp [Dst.apply, h]⟩

theorem avail_mono (d : Dst) (e : Ev) (h : Handle) (ha : d.avail h = true) : (d.apply e).avail h = true := by
  obtain ⟨h0, hp, hi⟩ := apply_grows d e
  unfold Dst.avail at *
  simp only [Bool.or_eq_true, List.any_eq_true, Bool.and_eq_true, beq_iff_eq, List.contains_eq_mem,
    decide_eq_true_eq] at ha ⊢
  rw [h0]
  exact ha.imp id fun ⟨x, hx, h1, h2⟩ => ⟨x, hi x hx, h1, hp _ h2⟩

theorem restorable_mono (reach : ID → List Handle) (d : Dst) (e : Ev) (sn : Snap)
    (h : d.restorable reach sn = true) : (d.apply e).restorable reach sn = true := by
  unfold Dst.restorable at *
  rw [List.all_eq_true] at *
  intro x hx; exact avail_mono d e x (h x hx)

/-- what `accept` demands of one event: a snapshot is saved only when everything it reaches can be loaded -/
def guard (reach : ID → List Handle) (d : Dst) : Ev → Bool
  | .saveSnap sn => d.restorable reach sn
  | _ => true

theorem accept_guarded (reach : ID → List Handle) : Restic.Proofs.Trace.Guarded Dst.apply (guard reach) (accept reach) :=
  ⟨fun _ => rfl, fun _ e _ => by cases e <;> rfl⟩

/-- a guarded step keeps "every snapshot written so far is restorable": what was available stays
    available, and the new snapshot passed the guard -/
theorem apply_restorable (reach : ID → List Handle) (d : Dst) (e : Ev)
    (h0 : ∀ sn ∈ d.snaps, d.restorable reach sn = true) (hg : guard reach d e = true) :
    ∀ sn ∈ (d.apply e).snaps, (d.apply e).restorable reach sn = true := by
  intro s hs
  refine restorable_mono reach d e s ?_
  cases e with
  | savePack | saveIndex => exact h0 s hs
  | saveSnap s0 => exact (List.mem_append.mp hs).elim (h0 s) fun h => List.mem_singleton.mp h ▸ hg

/-- **prefix_safe** (any accepted trace, any crash point): if every snapshot the run has
    written so far is restorable at the start, then after every prefix of an
    accepted trace every snapshot written by the run is restorable — an interrupted copy never
    leaves a destination snapshot whose data is missing. -/
theorem prefix_safe (reach : ID → List Handle) : ∀ (t : List Ev) (d : Dst),
    accept reach d t = true → (∀ sn ∈ d.snaps, d.restorable reach sn = true) →
    ∀ k, ∀ sn ∈ (d.applyAll (t.take k)).snaps, (d.applyAll (t.take k)).restorable reach sn = true :=
  fun _ _ hacc h0 k =>
    (accept_guarded reach).inv (apply_restorable reach) h0 ((accept_guarded reach).take hacc k)

/-- `copyTree` for one snapshot: the step of the fold in `enqueueBatch` -/
def enqueueStep (reach : ID → List Handle) (a : List Handle × List Handle) (sn : Snap) : List Handle × List Handle :=
  let c := ((reach sn.tree).filter (fun h => !a.1.contains h)).eraseDups
  (a.1 ++ c, a.2 ++ c)

theorem enqueueBatch_eq (reach : ID → List Handle) (has : List Handle) (batch : List Snap) :
    enqueueBatch reach has batch = batch.foldl (enqueueStep reach) (has, []) := rfl

/-- the upload list started anywhere; `u` is what the batch enqueues -/
theorem enqueue_spec (reach : ID → List Handle) (batch : List Snap) : ∀ (has acc : List Handle), ∃ u,
    batch.foldl (enqueueStep reach) (has, acc) = (has ++ u, acc ++ u) ∧
    ∀ sn ∈ batch, ∀ h ∈ reach sn.tree, h ∈ has ++ u := by
  induction batch with
  | nil => exact fun has acc => ⟨[], by simp, fun _ h => (nomatch h)⟩
  | cons sn rest ih =>
    intro has acc
    let c := ((reach sn.tree).filter (fun h => !has.contains h)).eraseDups
    obtain ⟨u, hu, hr⟩ := ih (has ++ c) (acc ++ c)
    refine ⟨c ++ u, hu.trans (by rw [List.append_assoc, List.append_assoc]), fun s hs h hh => ?_⟩
    rw [← List.append_assoc]
    rcases List.mem_cons.mp hs with rfl | hs
    · refine List.mem_append_left _ ?_
      by_cases hm : h ∈ has
      · exact List.mem_append_left _ hm
      · exact List.mem_append_right _ (List.mem_eraseDups.mpr (List.mem_filter.mpr ⟨hh, by simpa using hm⟩))
    · exact hr s hs h hh

/-- invariant linking the transcription's "known" set to the destination state -/
def Known (d : Dst) (has : List Handle) : Prop := ∀ h ∈ has, d.avail h = true

/-- `rest` is a continuation, accepted from every state that still knows `has`: so the state after the saves is
    never named, and `runBatches_accepted` hands in its own recursive call. -/
theorem accept_snaps (reach : ID → List Handle) (has : List Handle) : ∀ (l : List Snap) (d : Dst)
    (f : Snap → Snap), (∀ sn, (f sn).tree = sn.tree) → Known d has → (∀ sn ∈ l, ∀ h ∈ reach sn.tree, h ∈ has) →
    ∀ rest, (∀ d', Known d' has → accept reach d' rest = true) →
    accept reach d (l.map (fun sn => Ev.saveSnap (f sn)) ++ rest) = true
  | [], d, f, _, hk, _, rest, hrest => by simpa using hrest d hk
  | sn :: l, d, f, hf, hk, hl, rest, hrest => by
    simp only [List.map_cons, List.cons_append, accept, Bool.and_eq_true]
    refine ⟨?_, ?_⟩
    · unfold Dst.restorable
      rw [List.all_eq_true]
      intro x hx
      rw [hf sn] at hx
      exact hk x (hl sn List.mem_cons_self x hx)
    · exact accept_snaps reach has l _ f hf (fun x hx => avail_mono d _ x (hk x hx))
        (fun s hs => hl s (List.mem_cons_of_mem _ hs)) rest hrest

theorem runBatches_accepted (reach : ID → List Handle) : ∀ (batches : List (List Snap)) (has : List Handle)
    (k : Nat) (d : Dst), Known d has → accept reach d (runBatches reach has batches k) = true
  | [], has, k, d, _ => rfl
  | b :: rest, has, k, d, hk => by
    obtain ⟨u, hr, hreach⟩ := enqueue_spec reach b has []
    simp only [runBatches, runBatch, enqueueBatch_eq, hr, List.nil_append]
    have hcont := fun d' (hk' : Known d' (has ++ u)) => runBatches_accepted reach rest (has ++ u) (k+1) d' hk'
    by_cases he : u.isEmpty = true
    · rw [if_pos he, List.nil_append]
      cases List.isEmpty_iff.mp he
      exact accept_snaps reach _ b d (fun sn => copySnap sn s!"new-{k}-{sn.id}") (fun _ => rfl)
        (by rwa [List.append_nil]) hreach _ hcont
    · simp only [if_neg he, List.cons_append, List.nil_append, accept]
      refine accept_snaps reach _ b _ (fun sn => copySnap sn s!"new-{k}-{sn.id}") (fun _ => rfl)
        (fun x hx => ?_) hreach _ hcont
      rcases List.mem_append.mp hx with hx | hx
      · exact avail_mono _ _ x (avail_mono _ _ x (hk x hx))
      · -- the new index lists `x` in the new pack
        refine Bool.or_eq_true_iff.mpr (Or.inr (List.any_eq_true.mpr
          ⟨(_, x), List.mem_append_right _ (List.mem_map.mpr ⟨x, hx, rfl⟩), ?_⟩))
        simp [Dst.apply]

/-- the transcription of `copyTreeBatched` only produces accepted traces: the blobs of a batch
    are in stored, indexed packs before any snapshot of the batch is saved -/
theorem copyRun_accepted (reach : ID → List Handle) (has0 : List Handle) (batches : List (List Snap)) :
    accept reach { has0, packs := [], indexed := [], snaps := [] } (copyRun reach has0 batches) = true := by
  unfold copyRun
  apply runBatches_accepted
  intro x hx
  simp [Dst.avail, hx]

/-- **copy_prefix_safe** for the transcription: at every crash point of `copy`, for every way of
    batching, every snapshot the run has written into the destination is restorable. -/
theorem copy_prefix_safe (reach : ID → List Handle) (has0 : List Handle) (batches : List (List Snap)) (k : Nat) :
    let d0 : Dst := { has0, packs := [], indexed := [], snaps := [] }
    ∀ sn ∈ (d0.applyAll ((copyRun reach has0 batches).take k)).snaps,
      (d0.applyAll ((copyRun reach has0 batches).take k)).restorable reach sn = true := by
  intro d0
  exact prefix_safe reach _ d0 (copyRun_accepted reach has0 batches) (by intro sn hsn; cases hsn) k

/-- **resume_prefix_safe**: let a first run be cut after any `k` operations, and let `copy` run again on that
    destination with any sound view `has1` of it (everything in `has1` can be loaded — e.g. the index of the
    crashed destination, possibly after `repair index`; not necessarily closed under reachability: it may list
    a tree blob whose data blobs never arrived). Then at every prefix `j` of the second run every snapshot
    stored by either run is restorable. What this needs: `copyTree` enqueues every reachable blob the destination
    does not know and never skips a subtree because its tree blob is known; "tree blob indexed in dst" is not
    "tree completely copied". -/
theorem resume_prefix_safe (reach : ID → List Handle) (has0 : List Handle) (batches1 : List (List Snap))
    (k : Nat) (has1 : List Handle) (batches2 : List (List Snap)) (j : Nat)
    (hk : Known (Dst.applyAll { has0, packs := [], indexed := [], snaps := [] } ((copyRun reach has0 batches1).take k)) has1) :
    let d1 := Dst.applyAll { has0, packs := [], indexed := [], snaps := [] } ((copyRun reach has0 batches1).take k)
    ∀ sn ∈ (d1.applyAll ((copyRun reach has1 batches2).take j)).snaps,
      (d1.applyAll ((copyRun reach has1 batches2).take j)).restorable reach sn = true := by
  intro d1
  exact prefix_safe reach (copyRun reach has1 batches2) d1
    (runBatches_accepted reach batches2 has1 0 d1 hk)
    (copy_prefix_safe reach has0 batches1 k) j

/-- the destination's own availability view is always a sound `has1` -/
theorem known_of_avail (d : Dst) (has1 : List Handle) (h : ∀ x ∈ has1, d.avail x = true) : Known d has1 := h

/-- `copyTreeBatched` (calls listed by end position): `copyTree`, called in the closure passed to
    `WithBlobUploader`, ends before `WithBlobUploader` returns (which flushes packs and index), and
    `copySaveSnapshot` comes after that. -/
theorem copyTreeBatched_order :
    Restic.Gen.copyTreeBatched_calls.idxOf "copyTree" < Restic.Gen.copyTreeBatched_calls.idxOf "dstRepo.WithBlobUploader"
    ∧ Restic.Gen.copyTreeBatched_calls.idxOf "dstRepo.WithBlobUploader" < Restic.Gen.copyTreeBatched_calls.idxOf "copySaveSnapshot"
    ∧ "copySaveSnapshot" ∈ Restic.Gen.copyTreeBatched_calls := by decide +kernel

/-- `copySaveSnapshot` saves the snapshot; `copyTree` asks the destination index which blobs it
    has and uploads through `repository.CopyBlobs` -/
theorem copy_calls :
    "data.SaveSnapshot" ∈ Restic.Gen.copySaveSnapshot_calls
    ∧ "repository.CopyBlobs" ∈ Restic.Gen.copyTree_calls
    ∧ "dstRepo.LookupBlobSize" ∈ Restic.Gen.copyTree_calls := by decide +kernel

def s1 : Snap := ⟨"s1", "t1", none, some "p0", 5, "h", "u", 1, 1, ["/a"], ["x", "x"], []⟩
def s2 : Snap := ⟨"s2", "t2", some "orig2", none, 6, "h", "u", 1, 1, ["/a"], [], ["e"]⟩
def exReach : ID → List Handle := fun t => if t == "t1" then ["1:t1", "0:b1", "0:b2"] else ["1:t2", "0:b2", "0:b3"]

example : copyRun exReach ["0:b2"] [[s1], [s2]] =
  [.savePack "newpack0" ["1:t1", "0:b1"], .saveIndex [("newpack0", "1:t1"), ("newpack0", "0:b1")],
   .saveSnap (copySnap s1 "new-0-s1"),
   .savePack "newpack1" ["1:t2", "0:b3"], .saveIndex [("newpack1", "1:t2"), ("newpack1", "0:b3")],
   .saveSnap (copySnap s2 "new-1-s2")] := by decide +kernel
example : selected [s1, s2] [copySnap s1 "n1", copySnap s2 "n2"] = [] := by decide +kernel
example : selected [s1, s2] [copySnap s1 "n1"] = [s2] := by decide +kernel
/-- the acceptor is not trivial: a snapshot saved before its index is rejected -/
example : accept exReach ⟨[], [], [], []⟩
  [.savePack "p" ["1:t1", "0:b1", "0:b2"], .saveSnap (copySnap s1 "n"), .saveIndex [("p", "1:t1"), ("p", "0:b1"), ("p", "0:b2")]] = false := by decide +kernel
/-- resumed copy into a destination that knows the tree blob `1:t1` but not its data (the state a
    cut between tree pack + index and data pack leaves): the data blobs are uploaded -/
example : copyRun exReach ["1:t1"] [[s1]] =
  [.savePack "newpack0" ["0:b1", "0:b2"], .saveIndex [("newpack0", "0:b1"), ("newpack0", "0:b2")],
   .saveSnap (copySnap s1 "new-0-s1")] := by decide +kernel
/-- … whereas a run that skips the subtree because its tree blob is known
    saves the snapshot without them, which the acceptor rejects -/
example : accept exReach ⟨["1:t1"], [], [], []⟩ [.saveSnap (copySnap s1 "n")] = false := by decide +kernel

/-- before commit c0943c159 of /repo a null `original` defeated the skip test; with the fixed
    transcription the copy is recognised -/
example : selected [{ s1 with original := some nullID }] [copySnap { s1 with original := some nullID } "n"] = [] := by decide +kernel

end Restic.Props.C32
