import Restic.Model.Incremental
import Restic.Proofs.Fold
import Restic.Gen.Source
/-!
# C40 — Incremental backups store the same tree as full backups (composite)

Statement (properties.jsonl): a backup that uses a parent snapshot produces the same tree as a
backup of the same source without a parent, provided files whose content changed also changed size,
mtime, ctime or inode (subject to --ignore-ctime or --ignore-inode). With --skip-if-unchanged, the
snapshot is omitted exactly when a parent exists and its tree equals the new tree.

Model (`Restic.Model.Incremental`): transcription of `fileChanged`, `allBlobsPresent`, the re-use
branch of `Archiver.save`, the `saveDir` recursion with `TreeFinder.Find`/`loadSubtree`, the
`SkipIfUnchanged` test of `Archiver.Snapshot`, the option logic of `findParentSnapshot`.
The theorems are for all source trees, all parent trees (ANY tree, not only one produced by restic),
all index states and all flag combinations. The rest of the composite property is taken as given,
not imported: `chunkIDs`, a parameter of every theorem here, stands for "chunk lists are a function
of the content" (C17); that trees with equal nodes have equal ids is C41, that identical content is
stored once is C16.
-/
namespace Restic.Props.C40
open Restic.Model.Incremental

/-- the name `saveList` and `HypOKL` look up in the parent (there an inline `match`) -/
def srcName : Src → Bytes
  | .file n .. => n
  | .other n _ => n
  | .dir n .. => n

theorem saveList_cons {ID : Type} (chunkIDs : Bytes → List ID) (inIndex : ID → Bool) (fl : Flags)
    (prev : List (TNode ID)) (c : Src) (cs : List Src) :
    saveList chunkIDs inIndex fl prev (c :: cs) =
      save chunkIDs inIndex fl (findNode prev (srcName c)) c :: saveList chunkIDs inIndex fl prev cs := by
  cases c <;> rfl

theorem hypOKL_cons {ID : Type} [DecidableEq ID] (chunkIDs : Bytes → List ID) (fl : Flags)
    (prev : List (TNode ID)) (c : Src) (cs : List Src) :
    HypOKL chunkIDs fl prev (c :: cs) =
      (HypOK chunkIDs fl (findNode prev (srcName c)) c && HypOKL chunkIDs fl prev cs) := by
  cases c <;> rfl

theorem save_file_cases {ID : Type} (chunkIDs : Bytes → List ID) (inIndex : ID → Bool) (fl : Flags)
    (previous : Option (TNode ID)) (n : Bytes) (md : Nat) (fi : FileInfo) (c : Bytes) :
    save chunkIDs inIndex fl previous (.file n md fi c) = .file n md fi (chunkIDs c) ∨
    ∃ pn pmd pfi pc, previous = some (.file pn pmd pfi pc) ∧ fileChanged fi previous fl = false ∧
      save chunkIDs inIndex fl previous (.file n md fi c) = .file n md fi pc := by
  rcases previous with _ | ⟨pn, pmd, pfi, pc⟩ | _ | _
  · exact .inl rfl
  · rw [show save chunkIDs inIndex fl (some (.file pn pmd pfi pc)) (.file n md fi c) =
        if !fileChanged fi (some (.file pn pmd pfi pc)) fl then
          if allBlobsPresent inIndex pc then .file n md fi pc else .file n md fi (chunkIDs c)
        else .file n md fi (chunkIDs c) from rfl]
    cases hc : fileChanged fi (some (.file pn pmd pfi pc)) fl with
    | true => exact .inl rfl
    | false =>
      cases hp : allBlobsPresent inIndex pc with
      | true => exact .inr ⟨pn, pmd, pfi, pc, rfl, rfl, rfl⟩
      | false => exact .inl rfl
  · exact .inl rfl
  · exact .inl rfl

/-- a regular file: under the hypothesis the node carries the chunk list of the current content -/
theorem save_file {ID : Type} [DecidableEq ID] (chunkIDs : Bytes → List ID) (inIndex : ID → Bool) (fl : Flags)
    (previous : Option (TNode ID)) (n : Bytes) (md : Nat) (fi : FileInfo) (c : Bytes)
    (h : HypOK chunkIDs fl previous (.file n md fi c) = true) :
    save chunkIDs inIndex fl previous (.file n md fi c) = .file n md fi (chunkIDs c) := by
  rcases save_file_cases chunkIDs inIndex fl previous n md fi c with h1 | ⟨pn, pmd, pfi, pc, rfl, hc, h1⟩
  · exact h1
  · change (fileChanged fi (some (.file pn pmd pfi pc)) fl || pc == chunkIDs c) = true at h
    rw [hc] at h
    rw [h1, eq_of_beq h]

mutual
/-- with or without a parent, whatever the index and the flags of the run without one -/
theorem save_eq_full {ID : Type} [DecidableEq ID] (chunkIDs : Bytes → List ID) (inIndex inIndex' : ID → Bool) (fl fl' : Flags) :
    ∀ (previous : Option (TNode ID)) (s : Src), HypOK chunkIDs fl previous s = true →
      save chunkIDs inIndex fl previous s = save chunkIDs inIndex' fl' none s
  | previous, .file n md fi c, h =>
    (save_file chunkIDs inIndex fl previous n md fi c h).trans (save_file chunkIDs inIndex' fl' none n md fi c rfl).symm
  | _, .other .., _ => rfl
  | previous, .dir n md cs, h =>
    congrArg (TNode.dir n md) (saveList_eq_full chunkIDs inIndex inIndex' fl fl' (subtreeOf previous) cs h)
theorem saveList_eq_full {ID : Type} [DecidableEq ID] (chunkIDs : Bytes → List ID) (inIndex inIndex' : ID → Bool) (fl fl' : Flags) :
    ∀ (prev : List (TNode ID)) (l : List Src), HypOKL chunkIDs fl prev l = true →
      saveList chunkIDs inIndex fl prev l = saveList chunkIDs inIndex' fl' [] l
  | _, [], _ => rfl
  | prev, c :: cs, h => by
    rw [hypOKL_cons, Bool.and_eq_true] at h
    rw [saveList_cons, saveList_cons, save_eq_full chunkIDs inIndex inIndex' fl fl' _ c h.1,
      saveList_eq_full chunkIDs inIndex inIndex' fl fl' prev cs h.2]
    rfl
end

/-- **incremental_eq_full**: under `HypOK` (wherever `fileChanged` says "unchanged" for a file, the
    parent's content list is what chunking the current content yields) the tree stored with a parent
    equals the tree stored without one — also when blobs of the parent are missing from the index
    (the file is then stored again). -/
theorem incremental_eq_full {ID : Type} [DecidableEq ID] (chunkIDs : Bytes → List ID) (inIndex : ID → Bool) (fl : Flags)
    (parent : TNode ID) (root : Src) (h : HypOK chunkIDs fl (some parent) root = true) :
    incrBackup chunkIDs inIndex fl parent root = fullBackup chunkIDs root :=
  save_eq_full chunkIDs inIndex (fun _ => true) fl ⟨false, false⟩ (some parent) root h

mutual
theorem tnode_beq_refl {ID : Type} [DecidableEq ID] : ∀ t : TNode ID, TNode.beq t t = true
  | .file n m fi c => by
    show (n == n && m == m && fi == fi && c == c) = true
    simp only [beq_self_eq_true, Bool.and_self]
  | .other n m => by
    show (n == n && m == m) = true
    simp only [beq_self_eq_true, Bool.and_self]
  | .dir n m cs => by
    show (n == n && m == m && TNode.beqL cs cs) = true
    simp only [beq_self_eq_true, Bool.true_and, tnode_beqL_refl cs]
theorem tnode_beqL_refl {ID : Type} [DecidableEq ID] : ∀ l : List (TNode ID), TNode.beqL l l = true
  | [] => rfl
  | a :: as => by
    show (TNode.beq a a && TNode.beqL as as) = true
    rw [tnode_beq_refl a, tnode_beqL_refl as]; rfl
end

theorem incremental_specOK {ID : Type} [DecidableEq ID] (chunkIDs : Bytes → List ID) (inIndex : ID → Bool) (fl : Flags)
    (parent : TNode ID) (root : Src) :
    specOK (HypOK chunkIDs fl (some parent) root) (incrBackup chunkIDs inIndex fl parent root) (fullBackup chunkIDs root) = true := by
  unfold specOK
  cases h : HypOK chunkIDs fl (some parent) root with
  | false => rfl
  | true =>
    rw [incremental_eq_full chunkIDs inIndex fl parent root h]
    simp [tnode_beq_refl]


def findSrc (olds : List Src) (name : Bytes) : Option Src := olds.find? (srcName · = name)

def subSrc : Option Src → List Src
  | some (.dir _ _ cs) => cs
  | _ => []

/-- `fileChanged` does not look at content lists. -/
theorem fileChanged_file {ID : Type} (fi : FileInfo) (n : Bytes) (m : Nat) (nfi : FileInfo) (c : List ID) (fl : Flags) :
    fileChanged fi (some (.file n m nfi c)) fl = fileChanged (ID := Unit) fi (some (.file n m nfi [])) fl := rfl

mutual
/-- the proviso of C40 between the source at the time of the parent backup (`old`) and now:
    a regular file that was a regular file at the same place and whose content changed is
    detected by `fileChanged` (size, mtime, or — unless ignored — ctime or inode changed), asked about
    the old file info alone: a node at `ID := Unit` without content list (`fileChanged_file`) -/
def Proviso (fl : Flags) (old : Option Src) : Src → Bool
  | .file _ _ fi c =>
    match old with
    | some (.file on omd ofi oc) => fileChanged (ID := Unit) fi (some (.file on omd ofi [])) fl || c == oc
    | _ => true
  | .other .. => true
  | .dir _ _ cs => ProvisoL fl (subSrc old) cs
def ProvisoL (fl : Flags) (olds : List Src) : List Src → Bool
  | [] => true
  | c :: cs => Proviso fl (findSrc olds (srcName c)) c && ProvisoL fl olds cs
end

def nodeMd {ID : Type} : TNode ID → Nat
  | .file _ m .. => m
  | .other _ m => m
  | .dir _ m _ => m

def srcMd : Src → Nat
  | .file _ m .. => m
  | .other _ m => m
  | .dir _ m _ => m

/-- metadata (and the name) of every stored node are the current ones, whatever the parent holds —
    no hypothesis needed -/
theorem metadata_fresh {ID : Type} (chunkIDs : Bytes → List ID) (inIndex : ID → Bool) (fl : Flags) (prev : Option (TNode ID)) (s : Src) :
    nodeMd (save chunkIDs inIndex fl prev s) = srcMd s ∧ (save chunkIDs inIndex fl prev s).name = srcName s := by
  cases s with
  | file n md fi c =>
    rcases save_file_cases chunkIDs inIndex fl prev n md fi c with h | ⟨_, _, _, _, _, _, h⟩ <;>
      rw [h] <;> exact ⟨rfl, rfl⟩
  | other n md => exact ⟨rfl, rfl⟩
  | dir n md cs => exact ⟨rfl, rfl⟩

theorem find_saveList {ID : Type} (chunkIDs : Bytes → List ID) (olds : List Src) (name : Bytes) :
    findNode (saveList chunkIDs (fun _ => true) ⟨false, false⟩ ([] : List (TNode ID)) olds) name =
      (findSrc olds name).map (fullBackup chunkIDs) := by
  induction olds with
  | nil => rfl
  | cons o os ih =>
    rw [saveList_cons]
    unfold findNode findSrc at *
    rw [List.find?_cons, List.find?_cons, (metadata_fresh chunkIDs _ _ _ o).2, ih]
    cases decide (srcName o = name) <;> rfl

theorem subtreeOf_fullBackup {ID : Type} (chunkIDs : Bytes → List ID) (old : Option Src) :
    subtreeOf (old.map (fullBackup chunkIDs)) =
      saveList chunkIDs (fun _ => true) ⟨false, false⟩ ([] : List (TNode ID)) (subSrc old) := by
  rcases old with _ | _ | _ | _ <;> rfl

mutual
theorem hyp_from_history {ID : Type} [DecidableEq ID] (chunkIDs : Bytes → List ID) (fl : Flags) :
    ∀ (old : Option Src) (new : Src), Proviso fl old new = true →
      HypOK chunkIDs fl (old.map (fullBackup chunkIDs)) new = true
  | old, .file _ _ fi c, h => by
    rcases old with _ | ⟨on, omd, ofi, oc⟩ | _ | _
    · rfl
    · -- the parent node is `.file on omd ofi (chunkIDs oc)`
      show (fileChanged fi (some (.file on omd ofi (chunkIDs oc))) fl || chunkIDs oc == chunkIDs c) = true
      rw [fileChanged_file]
      rcases Bool.or_eq_true_iff.mp h with hc | hc
      · rw [hc]; rfl
      · cases eq_of_beq hc; rw [beq_self_eq_true, Bool.or_true]
    · rfl
    · rfl
  | _, .other .., _ => rfl
  | old, .dir _ _ cs, h => by
    show HypOKL chunkIDs fl (subtreeOf (old.map (fullBackup chunkIDs))) cs = true
    rw [subtreeOf_fullBackup]
    exact hyp_from_historyL chunkIDs fl (subSrc old) cs h
theorem hyp_from_historyL {ID : Type} [DecidableEq ID] (chunkIDs : Bytes → List ID) (fl : Flags) :
    ∀ (olds : List Src) (news : List Src), ProvisoL fl olds news = true →
      HypOKL chunkIDs fl (saveList chunkIDs (fun _ => true) ⟨false, false⟩ [] olds) news = true
  | _, [], _ => rfl
  | olds, c :: cs, h => by
    obtain ⟨h1, h2⟩ : Proviso fl (findSrc olds (srcName c)) c = true ∧ ProvisoL fl olds cs = true :=
      Bool.and_eq_true_iff.mp h
    rw [hypOKL_cons, find_saveList, Bool.and_eq_true]
    exact ⟨hyp_from_history chunkIDs fl _ c h1, hyp_from_historyL chunkIDs fl olds cs h2⟩
end

/-- **incremental_eq_full_history**: `HypOK` follows from the proviso of the property. If the parent
    tree was produced by a backup of the earlier state `old` and every file whose content changed
    since is detected by `fileChanged`, the incremental backup stores the full tree. -/
theorem incremental_eq_full_history {ID : Type} [DecidableEq ID] (chunkIDs : Bytes → List ID) (inIndex : ID → Bool) (fl : Flags)
    (old new : Src) (h : Proviso fl (some old) new = true) :
    incrBackup chunkIDs inIndex fl (fullBackup chunkIDs old) new = fullBackup chunkIDs new :=
  incremental_eq_full chunkIDs inIndex fl _ new (hyp_from_history chunkIDs fl (some old) new h)

/-- One backup of a chain; carried along: the current state of the source, the tree stored for it, and
    whether every state so far met the proviso with respect to its predecessor. -/
def chainStep {ID : Type} [DecidableEq ID] (chunkIDs : Bytes → List ID) (inIndex : ID → Bool) (fl : Flags)
    (acc : Src × TNode ID × Bool) (s : Src) : Src × TNode ID × Bool :=
  (s, incrBackup chunkIDs inIndex fl acc.2.1 s, acc.2.2 && Proviso fl (some acc.1) s)

/-- Along any chain of backups in which each state satisfies the proviso with respect to its
    predecessor, every incremental backup stores the full tree (the fold is that of `chainStep`). -/
theorem chain_eq_full {ID : Type} [DecidableEq ID] (chunkIDs : Bytes → List ID) (inIndex : ID → Bool) (fl : Flags)
    (s0 : Src) (rest : List Src) :
    (List.foldl (fun (acc : Src × TNode ID × Bool) (s : Src) =>
        (s, incrBackup chunkIDs inIndex fl acc.2.1 s, acc.2.2 && Proviso fl (some acc.1) s))
      (s0, fullBackup chunkIDs s0, true) rest).2.2 = true →
    (List.foldl (fun (acc : Src × TNode ID × Bool) (s : Src) =>
        (s, incrBackup chunkIDs inIndex fl acc.2.1 s, acc.2.2 && Proviso fl (some acc.1) s))
      (s0, fullBackup chunkIDs s0, true) rest).2.1 =
      fullBackup chunkIDs ((s0 :: rest).getLast (by simp)) := by
  intro h
  -- invariant of the fold: while the flag is up, the tree carried along is the full tree of the state
  have inv := Restic.Proofs.foldl_seen (f := chainStep chunkIDs inIndex fl)
    (P := fun seen acc => acc.1 = (s0 :: seen).getLast (by simp) ∧
      (acc.2.2 = true → acc.2.1 = fullBackup chunkIDs acc.1))
    (fun seen acc s hinv => ⟨(List.getLast_concat (l := s0 :: seen)).symm, fun hb => by
      obtain ⟨hb, hp⟩ := Bool.and_eq_true_iff.mp hb
      show incrBackup chunkIDs inIndex fl acc.2.1 s = _
      rw [hinv.2 hb]
      exact incremental_eq_full_history chunkIDs inIndex fl acc.1 s hp⟩)
    rest (init := (s0, fullBackup chunkIDs s0, true)) ⟨rfl, fun _ => rfl⟩
  exact inv.1 ▸ inv.2 h

theorem skipSnapshot_eq {TID : Type} [DecidableEq TID] (skipIfUnchanged : Bool) (parentTree : Option (Option TID)) (rootTree : TID) :
    skipSnapshot skipIfUnchanged parentTree rootTree = (skipIfUnchanged && decide (parentTree = some (some rootTree))) := by
  rcases parentTree with _ | _ | t
  · cases skipIfUnchanged <;> rfl
  · cases skipIfUnchanged <;> rfl
  · cases skipIfUnchanged
    · rfl
    · show decide (t = rootTree) = decide (some (some t) = some (some rootTree))
      simp only [Option.some.injEq]

/-- **skip_iff** (C40, second part): the snapshot is omitted exactly when skipping was requested, a
    parent exists, and the parent's tree is the new tree -/
theorem skip_iff {TID : Type} [DecidableEq TID] (skipIfUnchanged : Bool) (parentTree : Option (Option TID)) (rootTree : TID) :
    skipSnapshot skipIfUnchanged parentTree rootTree = true ↔
      skipIfUnchanged = true ∧ ∃ pt, parentTree = some pt ∧ pt = some rootTree := by
  rw [skipSnapshot_eq, Bool.and_eq_true, decide_eq_true_eq]
  exact and_congr_right fun _ => ⟨fun h => ⟨_, h, rfl⟩, fun ⟨_, h1, h2⟩ => h2 ▸ h1⟩

theorem skip_specOK {TID : Type} [DecidableEq TID] (skipIfUnchanged : Bool) (parentTree : Option (Option TID)) (rootTree : TID) :
    skipSpecOK skipIfUnchanged parentTree.isSome (parentTree = some (some rootTree))
      (skipSnapshot skipIfUnchanged parentTree rootTree) = true := by
  rw [skipSnapshot_eq, skipSpecOK, beq_iff_eq]
  -- the parent exists whenever its tree is the new tree
  cases parentTree with
  | none => rw [Bool.and_assoc]; rfl
  | some pt => rw [Option.isSome_some, Bool.and_true]

theorem force_no_parent {S : Type} (explicitParent : Bool) (fl : Option (Option S)) :
    findParentSnapshot true explicitParent fl = .noParent := rfl

/-- without `--force` a found snapshot is used; "none found" is an error only for an explicit `--parent` -/
theorem no_parent_found_ok {S : Type} : findParentSnapshot (S := S) false false (some none) = .noParent ∧
    findParentSnapshot (S := S) false true (some none) = .error ∧
    (∀ s : S, ∀ e, findParentSnapshot false e (some (some s)) = .parent s) := ⟨rfl, rfl, fun _ _ => rfl⟩

/-- the option mapping of the backup command: `--ignore-inode` switches the ctime check off too -/
theorem cliFlags_spec (c i : Bool) : cliFlags c i = ⟨c || i, i⟩ := by
  cases c <;> cases i <;> rfl

/-- the first switch of `fileChanged` and the comparisons that follow, as transcribed -/
theorem fileChanged_shape :
    Gen.fileChanged_cases = ["node == nil", "node.Type != data.NodeTypeFile", "uint64(fi.Size) != node.Size", "!fi.ModTime.Equal(node.ModTime)"] ∧
    Gen.fileChanged_calls = ["uint64", "fi.ModTime.Equal", "fi.ChangeTime.Equal"] := ⟨rfl, rfl⟩

/-- `save`: `fileChanged` is consulted before `allBlobsPresent`, both before the file is opened
    for reading; the re-use branch takes fresh metadata (`nodeFromFileInfo`) -/
theorem reuse_order :
    Gen.archiver_save_calls_c40.findIdx (· == "fileChanged") < Gen.archiver_save_calls_c40.findIdx (· == "arch.allBlobsPresent") ∧
    Gen.archiver_save_calls_c40.findIdx (· == "arch.allBlobsPresent") < Gen.archiver_save_calls_c40.findIdx (· == "arch.nodeFromFileInfo") ∧
    Gen.archiver_save_calls_c40.findIdx (· == "arch.nodeFromFileInfo") < Gen.archiver_save_calls_c40.findIdx (· == "meta.MakeReadable") ∧
    Gen.archiver_save_calls_c40.findIdx (· == "meta.MakeReadable") < Gen.archiver_save_calls_c40.findIdx (· == "arch.fileSaver.Save") ∧
    Gen.archiver_save_calls_c40.findIdx (· == "arch.fileSaver.Save") < Gen.archiver_save_calls_c40.length := by decide +kernel

/-- `Snapshot`: the tree comparison happens after the tree is stored and before the snapshot is saved -/
theorem skip_test_position :
    Gen.archiver_Snapshot_calls.findIdx (· == "arch.saveTree") < Gen.archiver_Snapshot_calls.findIdx (· == "rootTreeID.Equal") ∧
    Gen.archiver_Snapshot_calls.findIdx (· == "rootTreeID.Equal") < Gen.archiver_Snapshot_calls.findIdx (· == "data.SaveSnapshot") ∧
    Gen.archiver_Snapshot_calls.getLast? = some "data.SaveSnapshot" := by decide +kernel

theorem findParent_shape : Gen.findParentSnapshot_calls = ["opts.Tags.Flatten", "f.FindLatest", "errors.Is"] := rfl

def fi0 : FileInfo := { size := 3, mtime := 100, ctime := 100, inode := 7 }
/-- toy chunking: one chunk per byte -/
def ch : Bytes → List Nat := fun c => c.map (·.toNat)

def oldT : Src := .dir [115] 1 [.file [97] 2 fi0 [1, 2, 3], .file [98] 2 fi0 [4, 5, 6], .dir [100] 1 [.file [120] 2 fi0 [7]], .other [108] 3]
/-- `a` edited with a new mtime, `b` untouched, `d` replaced by a file, `l` now a directory, `n` new -/
def newT : Src := .dir [115] 9 [.file [97] 2 { fi0 with mtime := 200 } [1, 2, 9], .file [98] 5 fi0 [4, 5, 6], .file [100] 2 fi0 [8],
  .dir [108] 1 [.file [121] 2 fi0 [3]], .file [110] 2 fi0 []]

example : Proviso ⟨false, false⟩ (some oldT) newT = true ∧
    TNode.beq (incrBackup ch (fun _ => true) ⟨false, false⟩ (fullBackup ch oldT) newT) (fullBackup ch newT) = true := by decide +kernel

/-- the proviso is needed: content changed, size/mtime kept, ctime and inode ignored → the parent's
    stale chunk list is re-used and the trees differ (the model predicts the difference that the
    correspondence stream `stale` observes on the real code) -/
def staleT : Src := .dir [115] 1 [.file [97] 2 { fi0 with ctime := 300 } [1, 2, 4], .file [98] 2 fi0 [4, 5, 6], .dir [100] 1 [.file [120] 2 fi0 [7]], .other [108] 3]
example : Proviso ⟨true, true⟩ (some oldT) staleT = false ∧
    TNode.beq (incrBackup ch (fun _ => true) ⟨true, true⟩ (fullBackup ch oldT) staleT) (fullBackup ch staleT) = false ∧
    -- with the ctime check on, the same edit is detected
    TNode.beq (incrBackup ch (fun _ => true) ⟨false, false⟩ (fullBackup ch oldT) staleT) (fullBackup ch staleT) = true := by decide +kernel

/-- blobs of the parent missing from the index: the file is stored again, the tree is still the full tree -/
example : TNode.beq (incrBackup ch (fun id => id != 5) ⟨false, false⟩ (fullBackup ch oldT) newT) (fullBackup ch newT) = true := by decide +kernel

end Restic.Props.C40
