import Restic.Model.TreeCodec
import Restic.Gen.Source
/-!
# C41 — Trees are encoded deterministically and without loss

Theorems about `Restic.Model.TreeCodec`: the builder (`AddNode`/`Finalize`), the tree saver loop,
the tree iterator and the `MarshalJSON`/`UnmarshalJSON` wrapper.  `encoding/json` and `strconv`
are oracles; the laws assumed about them (J1, J2, J3) are explicit hypotheses (`Laws`, `Obj`).
-/
namespace Restic.Props.C41
open Restic.Model.TreeCodec


theorem bytesLt_iff (a b : Bytes) : bytesLt a b = true ↔ a < b := by
  induction a generalizing b with
  | nil => cases b <;> simp [bytesLt]
  | cons x xs ih =>
    cases b with
    | nil => simp [bytesLt]
    | cons y ys =>
      rw [bytesLt, List.cons_lt_cons_iff]
      by_cases h1 : x < y
      · simp [h1]
      · by_cases h2 : y < x
        · have : x ≠ y := fun h => by subst h; exact h1 h2
          simp [h1, h2, this]
        · have : x = y := UInt8.le_antisymm (UInt8.not_lt.1 h2) (UInt8.not_lt.1 h1)
          simp [this, ih]

theorem bytesLt_irrefl (a : Bytes) : bytesLt a a = false :=
  Bool.eq_false_iff.2 fun h => List.lt_irrefl a ((bytesLt_iff a a).1 h)

theorem bytesLt_trans {a b c : Bytes} (h1 : bytesLt a b = true) (h2 : bytesLt b c = true) :
    bytesLt a c = true :=
  (bytesLt_iff a c).2 (List.lt_trans ((bytesLt_iff a b).1 h1) ((bytesLt_iff b c).1 h2))

theorem bytesLt_asymm {a b : Bytes} (h1 : bytesLt a b = true) : bytesLt b a = false :=
  Bool.eq_false_iff.2 fun h => List.lt_asymm ((bytesLt_iff a b).1 h1) ((bytesLt_iff b a).1 h)

theorem bytesLt_nil_right (a : Bytes) : bytesLt a [] = false := by cases a <;> rfl

theorem ne_nil_of_bytesLt {a n : Bytes} (h : bytesLt a n = true) : n ≠ [] :=
  fun hn => Bool.false_ne_true ((bytesLt_nil_right a).symm.trans (hn ▸ h))

/-- names strictly increasing, starting above `last` (`last = []` initially: every name non-empty) -/
def sortedFrom (last : Bytes) : List (Bytes × Bytes) → Prop
  | [] => True
  | (n, _) :: r => bytesLt last n = true ∧ sortedFrom n r

/-- what the builder appends for a list of (name, encoding) -/
def emit (last : Bytes) : List (Bytes × Bytes) → Bytes
  | [] => []
  | (n, e) :: r => (if last ≠ [] then [44] else []) ++ e ++ emit n r

def withSome (l : List (Bytes × Bytes)) : List (Bytes × Option Bytes) := l.map fun p => (p.1, some p.2)

/-- the builder after a successful `AddNode` of `name` with encoding `e` -/
def pushed (b : Builder) (name e : Bytes) : Builder :=
  { buf := b.buf ++ (if b.lastName ≠ [] then [44] else []) ++ e, lastName := name, count := b.count + 1 }

theorem addNode_ok {b : Builder} {n e : Bytes} (h : bytesLt b.lastName n = true) :
    addNode b n (some e) = .ok (pushed b n e) := by
  simp only [addNode, bytesLe, h, Bool.not_true, Bool.false_eq_true, if_false, pushed]

theorem addNode_notOrdered {b : Builder} {n : Bytes} {enc : Option Bytes} (h : bytesLt b.lastName n = false) :
    addNode b n enc = .notOrdered := by
  simp only [addNode, bytesLe, h, Bool.not_false, if_true]

theorem buildFrom_sorted (b : Builder) (l : List (Bytes × Bytes)) (h : sortedFrom b.lastName l) :
    buildFrom b (withSome l) = some (b.buf ++ emit b.lastName l ++ treeSuffix) := by
  induction l generalizing b with
  | nil => rw [emit, List.append_nil]; rfl
  | cons p r ih =>
    obtain ⟨n, e⟩ := p
    simp only [withSome, List.map_cons, buildFrom, addNode_ok h.1]
    exact (ih (pushed b n e) h.2).trans (by simp only [pushed, emit, List.append_assoc])

theorem buildFrom_unsorted (b : Builder) (l : List (Bytes × Bytes)) (h : ¬ sortedFrom b.lastName l) :
    buildFrom b (withSome l) = none := by
  induction l generalizing b with
  | nil => exact absurd trivial h
  | cons p r ih =>
    obtain ⟨n, e⟩ := p
    by_cases h1 : bytesLt b.lastName n = true
    · simp only [withSome, List.map_cons, buildFrom, addNode_ok h1]
      exact ih _ fun h2 => h ⟨h1, h2⟩
    · simp only [withSome, List.map_cons, buildFrom, addNode_notOrdered (Bool.eq_false_iff.2 h1)]

def tailEncs : List Bytes → Bytes
  | [] => []
  | e :: r => 44 :: e ++ tailEncs r

def joinEncs : List Bytes → Bytes
  | [] => []
  | e :: r => e ++ tailEncs r

theorem emit_tail (last : Bytes) (hl : last ≠ []) (l : List (Bytes × Bytes)) (h : sortedFrom last l) :
    emit last l = tailEncs (l.map (·.2)) := by
  induction l generalizing last with
  | nil => rfl
  | cons p r ih =>
    obtain ⟨n, e⟩ := p
    simp [emit, tailEncs, hl, ih n (ne_nil_of_bytesLt h.1) h.2]

theorem emit_join (l : List (Bytes × Bytes)) (h : sortedFrom [] l) :
    emit [] l = joinEncs (l.map (·.2)) := by
  cases l with
  | nil => rfl
  | cons p r =>
    obtain ⟨n, e⟩ := p
    simp [emit, joinEncs, emit_tail n (ne_nil_of_bytesLt h.1) r h.2]

/-- for strictly sorted names the blob is `{"nodes":[` e1 `,` e2 … `]}` newline -/
theorem buildTree_sorted (l : List (Bytes × Bytes)) (h : sortedFrom [] l) :
    buildTree (withSome l) = some (treePrefix ++ joinEncs (l.map (·.2)) ++ treeSuffix) := by
  have := buildFrom_sorted newBuilder l h
  rw [buildTree, this]
  simp only [newBuilder, emit_join l h]

/-- **buildTree_unsorted** (DESIGN's `unsorted_rejected`): a list whose names are not strictly
    increasing (or that contains an empty name) is refused by the builder — no tree blob is produced -/
theorem buildTree_unsorted (l : List (Bytes × Bytes)) (h : ¬ sortedFrom [] l) :
    buildTree (withSome l) = none := buildFrom_unsorted newBuilder l h

theorem buildTree_isSome_iff (l : List (Bytes × Bytes)) :
    (buildTree (withSome l)).isSome = true ↔ sortedFrom [] l := by
  by_cases h : sortedFrom [] l
  · simp [buildTree_sorted l h, h]
  · simp [buildTree_unsorted l h, h]


theorem sortedFrom_all {last : Bytes} {l : List (Bytes × Bytes)} (h : sortedFrom last l) :
    ∀ p ∈ l, bytesLt last p.1 = true := by
  induction l generalizing last with
  | nil => intro p hp; cases hp
  | cons q r ih =>
    obtain ⟨n, e⟩ := q
    intro p hp
    rcases List.mem_cons.mp hp with h' | h'
    · subst h'; exact h.1
    · exact bytesLt_trans h.1 (ih h.2 p h')

/-- in a strictly sorted list the head does not occur again -/
theorem mem_tail_of_sorted {last : Bytes} {a : Bytes × Bytes} {r r' : List (Bytes × Bytes)}
    (h : sortedFrom last (a :: r)) (hsub : ∀ p ∈ r, p ∈ a :: r') : ∀ p ∈ r, p ∈ r' := fun p hp =>
  (List.mem_cons.1 (hsub p hp)).resolve_left fun hpa =>
    Bool.eq_false_iff.1 (bytesLt_irrefl a.1) (hpa ▸ sortedFrom_all h.2 p hp)

theorem sorted_unique {last1 last2 : Bytes} {l1 l2 : List (Bytes × Bytes)}
    (h1 : sortedFrom last1 l1) (h2 : sortedFrom last2 l2) (hm : ∀ p, p ∈ l1 ↔ p ∈ l2) : l1 = l2 := by
  induction l1 generalizing last1 last2 l2 with
  | nil =>
    match l2 with
    | [] => rfl
    | q :: r => exact absurd ((hm q).mpr List.mem_cons_self) List.not_mem_nil
  | cons a r1 ih =>
    match l2 with
    | [] => exact absurd ((hm a).mp List.mem_cons_self) List.not_mem_nil
    | b :: r2 =>
      -- each head is the least element of its list, so the heads agree
      have hab : a = b := by
        rcases List.mem_cons.1 ((hm a).1 List.mem_cons_self) with h | ha
        · exact h
        rcases List.mem_cons.1 ((hm b).2 List.mem_cons_self) with h | hb
        · exact h.symm
        exact absurd (sortedFrom_all h1.2 b hb) (Bool.eq_false_iff.1 (bytesLt_asymm (sortedFrom_all h2.2 a ha)))
      subst hab
      rw [ih h1.2 h2.2 fun p => ⟨mem_tail_of_sorted h1 (fun p hp => (hm p).1 (List.mem_cons_of_mem _ hp)) p,
        mem_tail_of_sorted h2 (fun p hp => (hm p).2 (List.mem_cons_of_mem _ hp)) p⟩]

/-- **tree_deterministic**: two successful builds from the same set of entries (whatever order
    or multiplicity bookkeeping produced the two lists) give identical bytes -/
theorem tree_deterministic (l1 l2 : List (Bytes × Bytes)) (b1 b2 : Bytes)
    (h1 : buildTree (withSome l1) = some b1) (h2 : buildTree (withSome l2) = some b2)
    (hm : ∀ p, p ∈ l1 ↔ p ∈ l2) : b1 = b2 := by
  have s1 : sortedFrom [] l1 := (buildTree_isSome_iff l1).mp (by simp [h1])
  have s2 : sortedFrom [] l2 := (buildTree_isSome_iff l2).mp (by simp [h2])
  have := sorted_unique s1 s2 hm
  subst this
  rw [h1] at h2; exact Option.some.inj h2


/-- J3 (law about the stdlib encoder and the decoder's scanner): `e` is one JSON object — it
    starts with `{` and scanning stops exactly at its end, whatever follows.  Checked for every
    encoding in the correspondence run (the model iterator is run on the real bytes). -/
structure Obj (e : Bytes) : Prop where
  head : ∃ r, e = 123 :: r
  delim : ∀ rest, scanValue (e ++ rest) = some (e, rest)

theorem skipWS_brace (r : Bytes) : skipWS (123 :: r) = 123 :: r := rfl
theorem skipWS_comma (r : Bytes) : skipWS (44 :: r) = 44 :: r := rfl
theorem skipComma_brace (r : Bytes) : skipComma (123 :: r) = 123 :: r := rfl
theorem skipComma_comma (r : Bytes) : skipComma (44 :: r) = r := rfl

theorem iterNext_obj {e : Bytes} (he : Obj e) (rest : Bytes) :
    iterNext (e ++ rest) = .node e rest ∧ iterNext (44 :: (e ++ rest)) = .node e rest := by
  obtain ⟨r, rfl⟩ := he.head
  have hd := he.delim rest
  rw [List.cons_append] at hd ⊢
  -- what is left is `dec.More()` on `{` resp. `,`: neither is `]` or `}`
  constructor <;>
  · simp only [iterNext, skipWS_brace, skipWS_comma, skipComma_brace, skipComma_comma, hd]
    rfl

theorem iterAll_tail (S : Bytes) (hS : iterNext S = .eof) (encs : List Bytes) (h : ∀ e ∈ encs, Obj e)
    (fuel : Nat) (hf : encs.length < fuel) :
    iterAll fuel (tailEncs encs ++ S) = (encs, true) := by
  induction encs generalizing fuel with
  | nil =>
    match fuel, hf with
    | f + 1, _ => rw [iterAll, tailEncs, List.nil_append, hS]
  | cons e r ih =>
    match fuel, hf with
    | f + 1, hf =>
      rw [iterAll, tailEncs, List.append_assoc, List.cons_append, (iterNext_obj (h e List.mem_cons_self) _).2]
      simp only [ih (fun x hx => h x (List.mem_cons_of_mem _ hx)) f (Nat.lt_of_succ_lt_succ hf)]

theorem iterAll_join (S : Bytes) (hS : iterNext S = .eof) (encs : List Bytes) (h : ∀ e ∈ encs, Obj e)
    (fuel : Nat) (hf : encs.length < fuel) :
    iterAll fuel (joinEncs encs ++ S) = (encs, true) := by
  match fuel, hf with
  | f + 1, hf =>
    match encs with
    | [] => rw [iterAll, joinEncs, List.nil_append, hS]
    | e :: r =>
      rw [iterAll, joinEncs, List.append_assoc, (iterNext_obj (h e List.mem_cons_self) _).1]
      simp only [iterAll_tail S hS r (fun x hx => h x (List.mem_cons_of_mem _ hx)) f (Nat.lt_of_succ_lt_succ hf)]

theorem tailEncs_length (encs : List Bytes) : encs.length ≤ (tailEncs encs).length := by
  induction encs with
  | nil => exact Nat.le_refl 0
  | cons e r ih => rw [tailEncs, List.length_append, List.length_cons, List.length_cons]; omega

theorem joinEncs_length (encs : List Bytes) (h : ∀ e ∈ encs, Obj e) :
    encs.length ≤ (joinEncs encs).length := by
  match encs with
  | [] => exact Nat.le_refl 0
  | e :: r =>
    obtain ⟨x, rfl⟩ := (h e List.mem_cons_self).head
    have := tailEncs_length r
    rw [joinEncs, List.length_append, List.length_cons, List.length_cons]; omega

/-- a key without quote or backslash that is not `nodes` -/
def KeyOK (k : Bytes) : Prop := k ≠ nodesKey ∧ ∀ c ∈ k, c ≠ 34 ∧ c ≠ 92

/-- `v` is one JSON value for the scanner when followed by `,` or `}` -/
def ValOK (v : Bytes) : Prop :=
  ∀ rest, scanValue (v ++ 44 :: rest) = some (v, 44 :: rest) ∧
          scanValue (v ++ 125 :: rest) = some (v, 125 :: rest)

/-- `"k":v,` for every unknown member in front of "nodes" -/
def renderPre : List (Bytes × Bytes) → Bytes
  | [] => []
  | (k, v) :: r => 34 :: k ++ [34, 58] ++ v ++ [44] ++ renderPre r

/-- `,"k":v` for every unknown member behind the array -/
def renderPost : List (Bytes × Bytes) → Bytes
  | [] => []
  | (k, v) :: r => 44 :: 34 :: k ++ [34, 58] ++ v ++ renderPost r

/-- `"nodes":[` -/
def nodesOpen : Bytes := 34 :: nodesKey ++ [34, 58, 91]

theorem scanStr_plain (k rest acc : Bytes) (h : ∀ c ∈ k, c ≠ 34 ∧ c ≠ 92) :
    scanStr (k ++ 34 :: rest) acc = some (acc.reverse ++ k, rest) := by
  induction k generalizing acc with
  | nil => unfold scanStr; simp
  | cons c cs ih =>
    have hc := h c List.mem_cons_self
    have := ih (c :: acc) (fun x hx => h x (List.mem_cons_of_mem _ hx))
    simp only [List.cons_append]
    unfold scanStr
    simp [hc.1, hc.2, this]

/-- the key and the colon of a member, as `initLoop` and `tailLoop` scan them -/
theorem scan_member {k : Bytes} (v X : Bytes) (hk : ∀ c ∈ k, c ≠ 34 ∧ c ≠ 92) :
    scanStr (k ++ 34 :: 58 :: (v ++ X)) [] = some (k, 58 :: (v ++ X)) ∧
    expect 58 (58 :: (v ++ X)) = some (v ++ X) :=
  ⟨scanStr_plain k _ [] hk, rfl⟩

theorem initLoop_member (f : Nat) {k v X : Bytes} (hk : KeyOK k) (hv : scanValue (v ++ X) = some (v, X)) :
    initLoop (f + 1) (34 :: (k ++ 34 :: 58 :: (v ++ X))) = initLoop f X := by
  obtain ⟨hkey, hcolon⟩ := scan_member v X hk.2
  have hs : skipWS (skipComma (34 :: (k ++ 34 :: 58 :: (v ++ X)))) = 34 :: (k ++ 34 :: 58 :: (v ++ X)) := rfl
  rw [initLoop, hs]
  simp only [hkey, hcolon, if_neg hk.1, hv]

theorem tailLoop_member (f : Nat) {k v X : Bytes} (hk : KeyOK k) (hv : scanValue (v ++ X) = some (v, X)) :
    tailLoop (f + 1) (44 :: 34 :: (k ++ 34 :: 58 :: (v ++ X))) = tailLoop f X := by
  obtain ⟨hkey, hcolon⟩ := scan_member v X hk.2
  have hs : skipWS (skipComma (44 :: 34 :: (k ++ 34 :: 58 :: (v ++ X)))) = 34 :: (k ++ 34 :: 58 :: (v ++ X)) := rfl
  rw [tailLoop, hs]
  simp only [hkey, hcolon, hv]
  rfl

theorem initLoop_comma (f : Nat) (Y : Bytes) : initLoop f (44 :: 34 :: Y) = initLoop f (34 :: Y) := by
  cases f <;> rfl

theorem initLoop_pre (pre : List (Bytes × Bytes)) (hp : ∀ m ∈ pre, KeyOK m.1 ∧ ValOK m.2)
    (f : Nat) (hf : pre.length < f) (rest : Bytes) :
    initLoop f (renderPre pre ++ nodesOpen ++ rest) = some rest := by
  induction pre generalizing f with
  | nil =>
    match f, hf with
    | f + 1, _ => rfl
  | cons m r ih =>
    obtain ⟨k, v⟩ := m
    match f, hf with
    | f + 1, hf =>
      obtain ⟨hk, hv⟩ : KeyOK k ∧ ValOK v := hp (k, v) List.mem_cons_self
      -- what follows the `,` begins with the quote of the next key
      obtain ⟨Y, hY⟩ : ∃ Y, renderPre r ++ nodesOpen ++ rest = 34 :: Y := by
        match r with
        | [] => exact ⟨_, rfl⟩
        | (k', v') :: r' => exact ⟨_, rfl⟩
      have ihr := ih (fun x hx => hp x (List.mem_cons_of_mem _ hx)) f (Nat.lt_of_succ_lt_succ hf)
      rw [hY] at ihr
      simp only [renderPre, List.append_assoc, List.cons_append, List.nil_append, hY]
      rw [initLoop_member f hk (hv _).1, initLoop_comma, ihr]

theorem tailLoop_post (post : List (Bytes × Bytes)) (hp : ∀ m ∈ post, KeyOK m.1 ∧ ValOK m.2) (tl : Bytes)
    (f : Nat) (hf : post.length < f) : tailLoop f (renderPost post ++ 125 :: tl) = .eof := by
  induction post generalizing f with
  | nil =>
    match f, hf with
    | f + 1, _ => rfl
  | cons m r ih =>
    obtain ⟨k, v⟩ := m
    match f, hf with
    | f + 1, hf =>
      obtain ⟨hk, hv⟩ : KeyOK k ∧ ValOK v := hp (k, v) List.mem_cons_self
      -- the value is followed by the `,` of the next member or by the closing `}`
      have hval : scanValue (v ++ (renderPost r ++ 125 :: tl)) = some (v, renderPost r ++ 125 :: tl) := by
        match r with
        | [] => exact (hv tl).2
        | (k', v') :: r' => exact (hv _).1
      simp only [renderPost, List.append_assoc, List.cons_append, List.nil_append]
      rw [tailLoop_member f hk hval, ih (fun x hx => hp x (List.mem_cons_of_mem _ hx)) f (Nat.lt_of_succ_lt_succ hf)]

theorem renderPre_length (pre : List (Bytes × Bytes)) : pre.length ≤ (renderPre pre).length := by
  induction pre with
  | nil => exact Nat.le_refl 0
  | cons m r ih => simp only [renderPre, List.length_cons, List.length_append]; omega

theorem renderPost_length (post : List (Bytes × Bytes)) : post.length ≤ (renderPost post).length := by
  induction post with
  | nil => exact Nat.le_refl 0
  | cons m r ih => simp only [renderPost, List.length_cons, List.length_append]; omega

/-- The iterator on a tree document `{ members "nodes":[e1,…] members } tail` delivers exactly the
    encodings in the array and ends without error. -/
theorem decodeRaw_document (pre post : List (Bytes × Bytes))
    (hpre : ∀ m ∈ pre, KeyOK m.1 ∧ ValOK m.2) (hpost : ∀ m ∈ post, KeyOK m.1 ∧ ValOK m.2)
    (encs : List Bytes) (h : ∀ e ∈ encs, Obj e) (tl : Bytes) :
    decodeRaw (123 :: (renderPre pre ++ nodesOpen ++ (joinEncs encs ++ 93 :: (renderPost post ++ 125 :: tl))))
      = some (encs, true) := by
  -- each loop's fuel is the length of its input + 1; a member or an encoding takes at least one byte
  have h1 := renderPre_length pre
  have h2 := joinEncs_length encs h
  have h3 := renderPost_length post
  have hS : iterNext (93 :: (renderPost post ++ 125 :: tl)) = .eof :=
    tailLoop_post post hpost tl _ (by rw [List.length_append]; omega)
  have hinit : iterInit (123 :: (renderPre pre ++ nodesOpen ++ (joinEncs encs ++ 93 :: (renderPost post ++ 125 :: tl))))
      = some (joinEncs encs ++ 93 :: (renderPost post ++ 125 :: tl)) :=
    initLoop_pre pre hpre _ (by simp only [List.length_append]; omega) _
  rw [decodeRaw, hinit]
  exact congrArg some (iterAll_join _ hS encs h _ (by rw [List.length_append]; omega))

/-- **unknown_keys_ignored**: members with unknown keys before and after `"nodes"` (as a future
    format might add) do not change what the iterator delivers. -/
theorem unknown_keys_ignored (pre post : List (Bytes × Bytes))
    (hpre : ∀ m ∈ pre, KeyOK m.1 ∧ ValOK m.2) (hpost : ∀ m ∈ post, KeyOK m.1 ∧ ValOK m.2)
    (encs : List Bytes) (h : ∀ e ∈ encs, Obj e) :
    decodeRaw ([123] ++ renderPre pre ++ nodesOpen ++ (joinEncs encs ++ (93 :: (renderPost post ++ [125]))))
      = some (encs, true) :=
  decodeRaw_document pre post hpre hpost encs h []

/-- **decodeRaw_build** (iterator ∘ builder): iterating over a built tree yields exactly the node
    encodings that were added, in order, and ends without error -/
theorem decodeRaw_build (encs : List Bytes) (h : ∀ e ∈ encs, Obj e) :
    decodeRaw (treePrefix ++ joinEncs encs ++ treeSuffix) = some (encs, true) :=
  decodeRaw_document [] [] nofun nofun encs h [10]

/-- the fields that are stored as plain JSON strings are valid UTF-8 (hypothesis of the round
    trip; without it the unchanged code alters the field — finding F7) -/
def PlainOK (o : Oracles) (n : Node) : Prop :=
  o.validUTF8 n.typ = true ∧ o.validUTF8 n.user = true ∧ o.validUTF8 n.group = true ∧
  o.validUTF8 n.error = true ∧ (∀ x ∈ n.xattrs, o.validUTF8 x.1 = true) ∧
  (∀ g ∈ n.generic, o.validUTF8 g.1 = true)

def YearsOK (n : Node) : Prop :=
  (0 ≤ n.mtime.year ∧ n.mtime.year ≤ 9999) ∧ (0 ≤ n.atime.year ∧ n.atime.year ≤ 9999) ∧
  (0 ≤ n.ctime.year ∧ n.ctime.year ≤ 9999)

/-- laws assumed about the stdlib oracles.  `canon` = "generic attribute values are JSON in the
    form `json.Marshal` writes" (restic only stores such values). -/
structure Laws (o : Oracles) (canon : List (Bytes × Bytes) → Prop) : Prop where
  /-- `strconv.Quote` output is `"` … `"` and valid UTF-8 -/
  quote_shape : ∀ s, ∃ m, o.quote s = 34 :: (m ++ [34]) ∧ o.validUTF8 m = true
  /-- J1 -/
  unquote_quote : ∀ s, o.unquote (o.quote s) = some s
  valid_nil : o.validUTF8 [] = true
  /-- J2: decoding an encoded struct gives the struct back when its plain strings are valid
      UTF-8, years are 0–9999, generic values canonical, and `linktarget_raw` is absent or
      non-empty; an invalid `linktarget` string may come back altered (the raw copy does not) -/
  dec_enc : ∀ (v : Node) (b : Bytes), o.validUTF8 v.name = true → PlainOK o v → YearsOK v →
      canon v.generic → v.raw ≠ some [] → o.jsonEnc v = some b →
      ∃ lt, o.jsonDec b = some { v with linkTarget := lt } ∧
        (o.validUTF8 v.linkTarget = true → lt = v.linkTarget)

theorem fixTime_id {t : Time} (h : 0 ≤ t.year ∧ t.year ≤ 9999) : fixTime t = t := by
  unfold fixTime
  have h1 : ¬ t.year < 0 := by omega
  have h2 : ¬ t.year > 9999 := by omega
  simp [h1, h2]

/-- `fixTime` always lands in 0–9999, so `json.Marshal` never fails on a timestamp -/
theorem fixTime_range (t : Time) : 0 ≤ (fixTime t).year ∧ (fixTime t).year ≤ 9999 := by
  unfold fixTime
  split
  · simp
  · split
    · simp
    · constructor <;> omega

/-- **node_roundtrip**: every field of a node survives encode → decode: names and link targets
    with arbitrary bytes, extended and generic attributes, numbers, content, subtree, and
    timestamps within years 0–9999.  (Plain-string fields must be valid UTF-8, see `PlainOK`.) -/
theorem node_roundtrip {o : Oracles} {canon : List (Bytes × Bytes) → Prop} (L : Laws o canon)
    (n : Node) (b : Bytes) (hraw : n.raw = none) (hp : PlainOK o n) (hy : YearsOK n)
    (hg : canon n.generic) (hm : marshalNode o n = .ok b) : unmarshalNode o b = some n := by
  obtain ⟨m, hq, hmv⟩ := L.quote_shape n.name
  have huq : o.unquote (34 :: (m ++ [34])) = some n.name := hq ▸ L.unquote_quote n.name
  -- what is handed to `json.Marshal`: the inner part of the quoted name, the raw link target if needed
  have hwrap : wrapNode o n =
      { n with name := m, raw := (if o.validUTF8 n.linkTarget = true then none else some n.linkTarget) } := by
    simp only [wrapNode, hq, fixTime_id hy.1, fixTime_id hy.2.1, fixTime_id hy.2.2, List.drop_succ_cons,
      List.drop_zero, List.dropLast_concat]
  unfold marshalNode at hm
  rw [hraw, hwrap] at hm
  cases henc : o.jsonEnc
      { n with name := m, raw := (if o.validUTF8 n.linkTarget = true then none else some n.linkTarget) } with
  | none => rw [henc] at hm; cases hm
  | some b' =>
    rw [henc] at hm
    cases hm
    by_cases hv : o.validUTF8 n.linkTarget = true
    · rw [if_pos hv] at henc
      obtain ⟨lt, hdec, hlt⟩ := L.dec_enc { n with name := m, raw := none } b hmv hp hy hg nofun henc
      rw [unmarshalNode, hdec]
      simp only [List.cons_append, huq, hlt hv]
      cases n; cases hraw; rfl
    · rw [if_neg hv] at henc
      -- an invalid link target is not empty, so its raw copy is decoded
      have hne : some n.linkTarget ≠ some [] := fun h => hv (Option.some.inj h ▸ L.valid_nil)
      obtain ⟨lt, hdec, -⟩ := L.dec_enc { n with name := m, raw := some n.linkTarget } b hmv hp hy hg hne henc
      rw [unmarshalNode, hdec]
      simp only [List.cons_append, huq]
      cases n; cases hraw; rfl

/-- decoded nodes never carry `LinkTargetRaw`, so encoding them again cannot hit the
    "LinkTargetRaw must not be set manually" panic -/
theorem unmarshal_raw_none {o : Oracles} {b : Bytes} {n : Node} (h : unmarshalNode o b = some n) :
    n.raw = none := by
  unfold unmarshalNode at h
  cases hd : o.jsonDec b with
  | none => rw [hd] at h; cases h
  | some nj =>
    cases hu : o.unquote (34 :: nj.name ++ [34]) with
    | none => simp only [hd, hu] at h; cases h
    | some name =>
      simp only [hd, hu] at h; cases h
      cases hr : nj.raw <;> rfl

theorem marshal_no_panic {o : Oracles} {n : Node} (h : n.raw = none) : marshalNode o n ≠ .panic := by
  simp only [marshalNode, h, Option.isSome_none, Bool.false_eq_true, if_false]
  split <;> simp

/-- a name is never handed to the JSON encoder as is: what is encoded is the `strconv.Quote`d
    form, which is valid UTF-8 for *every* byte string (this is why names survive) -/
theorem wrapped_name_valid {o : Oracles} {canon : List (Bytes × Bytes) → Prop} (L : Laws o canon)
    (n : Node) : o.validUTF8 (wrapNode o n).name = true := by
  obtain ⟨m, hq, hmv⟩ := L.quote_shape n.name
  simp [wrapNode, hq, hmv]

/-- an invalid-UTF-8 link target is always accompanied by its raw copy -/
theorem wrapped_raw {o : Oracles} (n : Node) :
    o.validUTF8 n.linkTarget = false → (wrapNode o n).raw = some n.linkTarget := by
  intro h; simp [wrapNode, h]


/-- `json.Marshal` of every node of a list (what `AddNode` does one by one) -/
def marshalAll (o : Oracles) : List Node → Option (List (Bytes × Bytes))
  | [] => some []
  | n :: r =>
    match marshalNode o n, marshalAll o r with
    | .ok b, some l => some ((n.name, b) :: l)
    | _, _ => none

/-- `Decode(&node)` for every raw value the iterator delivers -/
def unmarshalAll (o : Oracles) : List Bytes → Option (List Node)
  | [] => some []
  | e :: r =>
    match unmarshalNode o e, unmarshalAll o r with
    | some n, some l => some (n :: l)
    | _, _ => none

/-- SaveTree: marshal and add all nodes, finalize -/
def encodeTree (o : Oracles) (nodes : List Node) : Option Bytes :=
  match marshalAll o nodes with
  | some l => buildTree (withSome l)
  | none => none

/-- LoadTree + full iteration -/
def decodeTree (o : Oracles) (b : Bytes) : Option (List Node) :=
  match decodeRaw b with
  | some (raws, true) => unmarshalAll o raws
  | _ => none

def NodeOK (o : Oracles) (canon : List (Bytes × Bytes) → Prop) (n : Node) : Prop :=
  n.raw = none ∧ PlainOK o n ∧ YearsOK n ∧ canon n.generic

theorem marshalAll_cons {o : Oracles} {n : Node} {r : List Node} {l : List (Bytes × Bytes)}
    (h : marshalAll o (n :: r) = some l) :
    ∃ b l', marshalNode o n = .ok b ∧ marshalAll o r = some l' ∧ l = (n.name, b) :: l' := by
  unfold marshalAll at h
  cases hm : marshalNode o n <;> cases hr : marshalAll o r <;> rw [hm, hr] at h <;> cases h
  exact ⟨_, _, rfl, rfl, rfl⟩

theorem unmarshalAll_marshalAll {o : Oracles} {canon : List (Bytes × Bytes) → Prop} (L : Laws o canon)
    (nodes : List Node) (l : List (Bytes × Bytes)) (hok : ∀ n ∈ nodes, NodeOK o canon n)
    (h : marshalAll o nodes = some l) : unmarshalAll o (l.map (·.2)) = some nodes := by
  induction nodes generalizing l with
  | nil => cases h; rfl
  | cons n r ih =>
    obtain ⟨b, l', hm, hr, rfl⟩ := marshalAll_cons h
    obtain ⟨h1, h2, h3, h4⟩ := hok n List.mem_cons_self
    simp only [List.map_cons, unmarshalAll, node_roundtrip L n b h1 h2 h3 h4 hm,
      ih l' (fun x hx => hok x (List.mem_cons_of_mem _ hx)) hr]

theorem marshalAll_obj {o : Oracles} (J3 : ∀ n b, marshalNode o n = .ok b → Obj b)
    (nodes : List Node) (l : List (Bytes × Bytes)) (h : marshalAll o nodes = some l) :
    ∀ e ∈ l.map (·.2), Obj e := by
  induction nodes generalizing l with
  | nil => cases h; nofun
  | cons n r ih =>
    obtain ⟨b, l', hm, hr, rfl⟩ := marshalAll_cons h
    exact List.forall_mem_cons.2 ⟨J3 n b hm, ih l' hr⟩

/-- **tree_roundtrip**: a directory listing that the builder accepts (names strictly increasing)
    decodes to exactly the nodes that were encoded — every field of every entry. -/
theorem tree_roundtrip {o : Oracles} {canon : List (Bytes × Bytes) → Prop} (L : Laws o canon)
    (J3 : ∀ n b, marshalNode o n = .ok b → Obj b)
    (nodes : List Node) (hok : ∀ n ∈ nodes, NodeOK o canon n) (bytes : Bytes)
    (h : encodeTree o nodes = some bytes) : decodeTree o bytes = some nodes := by
  unfold encodeTree at h
  cases hl : marshalAll o nodes with
  | none => rw [hl] at h; cases h
  | some l =>
    simp only [hl] at h
    have hs : sortedFrom [] l := (buildTree_isSome_iff l).mp (by simp [h])
    rw [buildTree_sorted l hs] at h
    injection h with h
    subst h
    simp only [decodeTree, decodeRaw_build _ (marshalAll_obj J3 nodes l hl)]
    exact unmarshalAll_marshalAll L nodes l hok hl

theorem marshalAll_names {o : Oracles} (nodes : List Node) (l : List (Bytes × Bytes))
    (h : marshalAll o nodes = some l) : l.map (·.1) = nodes.map (·.name) := by
  induction nodes generalizing l with
  | nil => cases h; rfl
  | cons n r ih =>
    obtain ⟨b, l', hm, hr, rfl⟩ := marshalAll_cons h
    rw [List.map_cons, List.map_cons, ih l' hr]

/-- the (name, encoding) pairs of the futures that delivered a node -/
def futNodes : List Fut → List (Bytes × Bytes)
  | [] => []
  | .node n :: r =>
    match n.enc with
    | some e => (n.name, e) :: futNodes r
    | none => futNodes r
  | _ :: r => futNodes r

/-- a future that does not abort the save: a node, an excluded item or an ignored error -/
def benign : Fut → Prop
  | .failed c i => c = false ∧ i = true
  | .excluded => True
  | .node n => n.enc.isSome = true

/-- The futures' completion order is not an input of the loop (`take` is called on them in list
    order): excluded items and ignored errors are skipped and the blob is the builder's encoding of
    the delivered nodes in list order. -/
theorem saveLoop_sorted (futs : List Fut) (hb : ∀ f ∈ futs, benign f) (b : Builder)
    (hs : sortedFrom b.lastName (futNodes futs)) (last : Option TNode) (w : Nat) :
    ∃ w', saveLoop futs b last w =
      .ok (b.buf ++ emit b.lastName (futNodes futs) ++ treeSuffix) w' := by
  induction futs generalizing b last w with
  | nil => exact ⟨w, by rw [futNodes, emit, List.append_nil]; rfl⟩
  | cons f fs ih =>
    have hfs : ∀ f ∈ fs, benign f := fun x hx => hb x (List.mem_cons_of_mem _ hx)
    have hf := hb f List.mem_cons_self
    match f with
    | .failed c i =>
      obtain ⟨rfl, rfl⟩ := hf
      exact ih hfs b hs last (w + 1)
    | .excluded => exact ih hfs b hs last w
    | .node ⟨name, none, key⟩ => cases hf
    | .node ⟨name, some e, key⟩ =>
      obtain ⟨w', hw'⟩ := ih hfs (pushed b name e) hs.2 (some ⟨name, some e, key⟩) w
      refine ⟨w', ?_⟩
      simp only [saveLoop, addNode_ok hs.1, hw']
      simp only [pushed, futNodes, emit, List.append_assoc]

theorem treeSave_eq_build (futs : List Fut) (hb : ∀ f ∈ futs, benign f)
    (hs : sortedFrom [] (futNodes futs)) :
    ∃ w', some (treeSave futs) = (buildTree (withSome (futNodes futs))).map (fun b => SaveRes.ok b w') := by
  obtain ⟨w', hw'⟩ := saveLoop_sorted futs hb newBuilder hs none 0
  exact ⟨w', by rw [treeSave, hw', buildTree, buildFrom_sorted newBuilder _ hs]; rfl⟩

/-- bytes produced, ignoring the errFn call counter -/
def saveBytes : SaveRes → Option Bytes
  | .ok b _ => some b
  | .err _ => none

theorem saveLoop_last_key (fs : List Fut) (b : Builder) (l1 l2 : TNode) (hk : l1.key = l2.key) (w1 w2 : Nat) :
    saveBytes (saveLoop fs b (some l1) w1) = saveBytes (saveLoop fs b (some l2) w2) := by
  induction fs generalizing b l1 l2 w1 w2 with
  | nil => rfl
  | cons f fs ih =>
    match f with
    | .failed c i =>
      simp only [saveLoop]
      cases c
      · cases i
        · rfl
        · exact ih b l1 l2 hk _ _
      · rfl
    | .excluded => exact ih b l1 l2 hk _ _
    | .node n =>
      simp only [saveLoop]
      cases addNode b n.name n.enc with
      | ok b' => exact ih _ n n rfl _ _
      | notOrdered =>
        simp only [hk]
        by_cases h : n.key = l2.key
        · simp only [if_pos h]; exact ih _ n n rfl _ _
        · simp only [if_neg h]
      | marshalErr => rfl

theorem addNode_again {b b' : Builder} {n : TNode} (h : addNode b n.name n.enc = .ok b') {n' : TNode}
    (hn : n'.name = n.name) : addNode b' n'.name n'.enc = .notOrdered := by
  have hlast : b'.lastName = n.name := by
    unfold addNode at h
    by_cases h1 : bytesLe n.name b.lastName = true
    · rw [if_pos h1] at h; cases h
    · rw [if_neg h1] at h
      cases he : n.enc with
      | none => rw [he] at h; cases h
      | some e => rw [he] at h; cases h; rfl
  exact addNode_notOrdered (by rw [hlast, hn, bytesLt_irrefl])

/-- a second copy of the node just added (same name, `Equals`) is skipped with a warning; the blob
    is the same as without the copy. -/
theorem saveLoop_dup (n n' : TNode) (fs : List Fut) (b b' : Builder) (last : Option TNode) (w : Nat)
    (h : addNode b n.name n.enc = .ok b') (hn : n'.name = n.name) (hk : n'.key = n.key) :
    saveBytes (saveLoop (.node n :: .node n' :: fs) b last w) = saveBytes (saveLoop (.node n :: fs) b last w) := by
  simp only [saveLoop, h, addNode_again h hn, hk, if_true]
  exact saveLoop_last_key fs b' n' n hk _ _

/-- a different node under the same name aborts the save (no blob with duplicate names) -/
theorem saveLoop_conflict (n n' : TNode) (fs : List Fut) (b b' : Builder) (last : Option TNode) (w : Nat)
    (h : addNode b n.name n.enc = .ok b') (hn : n'.name = n.name) (hk : n'.key ≠ n.key) :
    saveLoop (.node n :: .node n' :: fs) b last w = .err "order" := by
  simp only [saveLoop, h, addNode_again h hn, if_neg hk]


def pairsOf (names encs : List Bytes) : List (Bytes × Bytes) := names.zip encs

theorem strictSorted_cons (x : Bytes) (r : List (Bytes × Bytes)) :
    strictSorted (x :: r.map (·.1)) = true ↔ bytesLt [] x = true ∧ sortedFrom x r := by
  induction r generalizing x with
  | nil => simp [strictSorted, sortedFrom]
  | cons p r ih =>
    obtain ⟨y, e⟩ := p
    simp only [List.map_cons, strictSorted, Bool.and_eq_true, ih y, sortedFrom]
    constructor
    · rintro ⟨⟨h1, h2⟩, _, h4⟩; exact ⟨h1, h2, h4⟩
    · rintro ⟨h1, h2, h4⟩
      refine ⟨⟨h1, h2⟩, ?_, h4⟩
      cases y with
      | nil => rw [bytesLt_nil_right] at h2; cases h2
      | cons c cs => rfl

theorem strictSorted_iff (l : List (Bytes × Bytes)) :
    strictSorted (l.map (·.1)) = true ↔ sortedFrom [] l := by
  cases l with
  | nil => simp [strictSorted, sortedFrom]
  | cons p r =>
    obtain ⟨x, e⟩ := p
    simp only [List.map_cons, strictSorted_cons, sortedFrom]

/-- the model's value for `decodedEncs` of `specTree` (where the driver puts what the implementation's
    iterator delivered): the raw values if iteration over the built blob ended cleanly -/
def decodedOf (built : Option Bytes) : Option (List Bytes) :=
  match built with
  | none => none
  | some b =>
    match decodeRaw b with
    | some (raws, true) => some raws
    | _ => none

/-- **model_meets_specTree**: builder + iterator of the model satisfy the executable statement for
    every list of entries (sorted or not), given J3 for the encodings -/
theorem model_meets_specTree (l : List (Bytes × Bytes)) (h : ∀ e ∈ l.map (·.2), Obj e) :
    specTree (l.map (·.1)) (l.map (·.2)) (buildTree (withSome l)) (decodedOf (buildTree (withSome l))) = true := by
  by_cases hs : sortedFrom [] l
  · have hss := (strictSorted_iff l).mpr hs
    have hd := decodeRaw_build _ h
    simp only [List.append_assoc] at hd
    simp [specTree, buildTree_sorted l hs, decodedOf, hd, hss]
  · have hss : strictSorted (l.map (·.1)) = false := by
      cases hx : strictSorted (l.map (·.1)) with
      | false => rfl
      | true => exact absurd ((strictSorted_iff l).mp hx) hs
    simp [specTree, buildTree_unsorted l hs, hss]

theorem model_meets_specNode {o : Oracles} {canon : List (Bytes × Bytes) → Prop} (L : Laws o canon)
    (n : Node) (b : Bytes) (hok : NodeOK o canon n) (hm : marshalNode o n = .ok b) :
    specNode n (unmarshalNode o b) = true := by
  obtain ⟨h1, h2, h3, h4⟩ := hok
  simp [specNode, node_roundtrip L n b h1 h2 h3 h4 hm]

/-- T1: `MarshalJSON` fixes the three timestamps, quotes the name and tests the link target before
    handing the struct to `json.Marshal`; `UnmarshalJSON` unquotes after `json.Unmarshal` -/
theorem marshal_call_order :
    (Restic.Gen.Node_MarshalJSON_calls.count "fixTime" = 3) ∧
    (Restic.Gen.Node_MarshalJSON_calls.idxOf "strconv.Quote" < Restic.Gen.Node_MarshalJSON_calls.idxOf "json.Marshal") ∧
    (Restic.Gen.Node_MarshalJSON_calls.idxOf "utf8.ValidString" < Restic.Gen.Node_MarshalJSON_calls.idxOf "json.Marshal") ∧
    "json.Marshal" ∈ Restic.Gen.Node_MarshalJSON_calls ∧
    (Restic.Gen.Node_UnmarshalJSON_calls.idxOf "json.Unmarshal" < Restic.Gen.Node_UnmarshalJSON_calls.idxOf "strconv.Unquote") ∧
    "strconv.Unquote" ∈ Restic.Gen.Node_UnmarshalJSON_calls := by decide +kernel

/-- T1: the tree saver takes each future (in the `range nodes` loop) before it adds the node, and
    finalizes afterwards; the directory entries were sorted by `sort.Strings` -/
theorem saver_call_order :
    (Restic.Gen.treeSaver_save_calls.idxOf "fn.take" < Restic.Gen.treeSaver_save_calls.idxOf "builder.AddNode") ∧
    (Restic.Gen.treeSaver_save_calls.idxOf "builder.AddNode" < Restic.Gen.treeSaver_save_calls.idxOf "builder.Finalize") ∧
    "builder.Finalize" ∈ Restic.Gen.treeSaver_save_calls ∧
    "fnr.node.Equals" ∈ Restic.Gen.treeSaver_save_calls ∧
    "sort.Strings" ∈ Restic.Gen.dirToNodeAndEntries_calls ∧
    "json.Marshal" ∈ Restic.Gen.TreeJSONBuilder_AddNode_calls := by decide +kernel


/-- a node with non-UTF-8 bytes in its name, link target and extended attribute -/
def exNode : Node :=
  { name := [97, 255], linkTarget := [255], raw := none,
    mtime := ⟨2024, [1]⟩, atime := ⟨0, []⟩, ctime := ⟨9999, [2]⟩,
    typ := [102], user := [117], group := [], error := [], xattrs := [([120], [0, 255])], generic := [],
    nums := [420, 1000], content := some [[1, 2]], subtree := none }

def exEnc : Bytes := [123, 34, 97, 34, 58, 34, 125, 34, 125]   -- {"a":"}"}

/-- a toy oracle: quoting adds quotes, bytes below 128 are valid UTF-8, and the JSON codec knows
    one node -/
def exOracles : Oracles :=
  { quote := fun s => 34 :: (s ++ [34]),
    unquote := fun q => some ((q.drop 1).dropLast),
    validUTF8 := fun s => s.all (· < 128),
    jsonEnc := fun v => if v = wrapNode
        { quote := fun s => 34 :: (s ++ [34]), unquote := fun _ => none, validUTF8 := fun s => s.all (· < 128),
          jsonEnc := fun _ => none, jsonDec := fun _ => none } exNode then some exEnc else none,
    jsonDec := fun b => if b = exEnc then some { exNode with name := [97, 255], raw := some [255] } else none }

example : marshalNode exOracles exNode = .ok exEnc := by decide +kernel
example : unmarshalNode exOracles exEnc = some exNode := by decide +kernel
example : specNode exNode (unmarshalNode exOracles exEnc) = true := by decide +kernel

/-- the scanner treats `{"a":"}"}` as one object whatever follows (J3 instance) -/
example : Obj exEnc := by
  refine ⟨⟨_, rfl⟩, fun rest => ?_⟩
  simp [exEnc, scanValue, skipWS, isWS, scanComp]

example : buildTree [([97], some exEnc), ([98], some exEnc)] =
    some (treePrefix ++ exEnc ++ [44] ++ exEnc ++ treeSuffix) := by decide +kernel
example : decodeRaw (treePrefix ++ exEnc ++ [44] ++ exEnc ++ treeSuffix) = some ([exEnc, exEnc], true) := by decide +kernel
example : buildTree [([98], some exEnc), ([97], some exEnc)] = none := by decide +kernel
example : buildTree [([], some exEnc)] = none := by decide +kernel
example : treeSave [.node ⟨[97], some exEnc, 1⟩, .excluded, .node ⟨[97], some exEnc, 1⟩, .failed false true,
    .node ⟨[98], some exEnc, 2⟩] = .ok (treePrefix ++ exEnc ++ [44] ++ exEnc ++ treeSuffix) 2 := by decide +kernel
example : treeSave [.node ⟨[97], some exEnc, 1⟩, .node ⟨[97], some exEnc, 7⟩] = .err "order" := by decide +kernel

/-! ### Observation (outside the statement of C41, transcribed faithfully)
`treeIterator.next` passes an `io.EOF` from `dec.Token()` on as a clean end of the tree.  A tree
document that is cut off at a token boundary is therefore accepted as a complete (shorter) tree;
reproduced on the real iterator (docs/C41.md). -/
example : decodeRaw treePrefix = some ([], true) := by decide +kernel
example : decodeRaw (treePrefix ++ exEnc ++ [44]) = some ([exEnc], true) := by decide +kernel

end Restic.Props.C41
