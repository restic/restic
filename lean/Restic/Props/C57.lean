import Restic.Model.Find
/-!
# C57 — ID prefixes resolve to the unique matching file or an error

Theorems about `Restic.Model.Find` (transcription of `restic.Find`). All statements hold for every
listing (any length, any order, duplicates and the all-zero ID included), every prefix (empty,
odd length, longer than a name, non-hex bytes) and every naming function.
-/
namespace Restic.Props.C57
open Restic.Model.Find

variable {ID : Type} (name : ID → List UInt8)

/-- the Go comparison `len(name) >= len(prefix) && prefix == name[:len(prefix)]` is "is a prefix of" -/
theorem matchesP_eq (p : List UInt8) (id : ID) : matchesP name p id = p.isPrefixOf (name id) := by
  rw [matchesP, Bool.eq_iff_iff, Bool.and_eq_true, decide_eq_true_eq, beq_iff_eq, List.isPrefixOf_iff_prefix]
  exact ⟨fun h => List.prefix_iff_eq_take.mpr h.2, fun h => ⟨h.length_le, List.prefix_iff_eq_take.mp h⟩⟩

theorem matching_cons (a : ID) (as : List ID) (p : List UInt8) :
    matching name (a :: as) p = if p.isPrefixOf (name a) then a :: matching name as p else matching name as p :=
  List.filter_cons

theorem loop_char (p : List UInt8) (ids : List ID) (st : Option ID) :
    loop name p st ids =
      match st, matching name ids p with
      | none, [] => some none
      | none, [x] => some (some x)
      | none, _ :: _ :: _ => none
      | some m, [] => some (some m)
      | some _, _ :: _ => none := by
  induction ids generalizing st with
  | nil => cases st <;> rfl
  | cons a as ih =>
    rw [loop, step.eq_def, matchesP_eq, matching_cons]
    by_cases hm : p.isPrefixOf (name a) = true
    · rw [if_pos hm, if_pos hm]
      cases st with
      | none => exact (ih (some a)).trans (by cases matching name as p <;> rfl)
      | some m => rfl
    · rw [if_neg hm, if_neg hm]; exact ih st

theorem find_eq (ids : List ID) (lf : Bool) (p : List UInt8) :
    find name ids lf p =
      if lf then (if 2 ≤ (matching name ids p).length then .multiple else .listErr) else expected name ids p := by
  rw [find, expected, loop_char]
  rcases matching name ids p with _ | ⟨x, _ | ⟨y, ys⟩⟩ <;> cases lf <;> rfl

/-- **find_spec** (C57): `Find` returns the unique listed ID whose name starts with the prefix,
    `NoIDByPrefixError` when there is none, and `MultipleIDMatchesError` when there are several. -/
theorem find_spec (ids : List ID) (p : List UInt8) :
    find name ids false p = expected name ids p :=
  find_eq name ids false p

/-- the transcription meets the executable specification used by the driver -/
theorem find_specOK [BEq ID] [LawfulBEq ID] (ids : List ID) (p : List UInt8) :
    specOK name ids p (find name ids false p) = true := by
  unfold specOK
  rw [find_spec]
  cases expected name ids p <;> simp [BEq.beq, instBEqRes.beq]

theorem mem_matching (ids : List ID) (p : List UInt8) (y : ID) :
    y ∈ matching name ids p ↔ y ∈ ids ∧ p <+: name y := by
  rw [matching, List.mem_filter, List.isPrefixOf_iff_prefix]

theorem expected_noID_iff (ids : List ID) (p : List UInt8) :
    expected name ids p = .noID ↔ matching name ids p = [] := by
  rw [expected]
  rcases matching name ids p with _ | ⟨a, _ | ⟨b, bs⟩⟩ <;> simp

theorem expected_ok_iff (ids : List ID) (p : List UInt8) (x : ID) :
    expected name ids p = .ok x ↔ matching name ids p = [x] := by
  rw [expected]
  rcases matching name ids p with _ | ⟨a, _ | ⟨b, bs⟩⟩ <;> simp

theorem expected_multiple_iff (ids : List ID) (p : List UInt8) :
    expected name ids p = .multiple ↔ 2 ≤ (matching name ids p).length := by
  rw [expected]
  rcases matching name ids p with _ | ⟨a, _ | ⟨b, bs⟩⟩ <;> simp

theorem find_ok_unique (ids : List ID) (p : List UInt8) (x : ID)
    (h : find name ids false p = .ok x) :
    x ∈ ids ∧ p <+: name x ∧ ∀ y ∈ ids, p <+: name y → y = x := by
  rw [find_spec, expected_ok_iff] at h
  have hmem (y : ID) : y ∈ [x] ↔ y ∈ ids ∧ p <+: name y := h ▸ mem_matching name ids p y
  have hx := (hmem x).mp (List.mem_singleton_self x)
  exact ⟨hx.1, hx.2, fun y hy hp => List.mem_singleton.mp ((hmem y).mpr ⟨hy, hp⟩)⟩

theorem find_noID_iff (ids : List ID) (p : List UInt8) :
    find name ids false p = .noID ↔ ∀ y ∈ ids, ¬ p <+: name y := by
  rw [find_spec, expected_noID_iff, List.eq_nil_iff_forall_not_mem]
  simp only [mem_matching, not_and]

theorem find_multiple_iff (ids : List ID) (p : List UInt8) :
    find name ids false p = .multiple ↔ 2 ≤ (matching name ids p).length := by
  rw [find_spec]; exact expected_multiple_iff name ids p

/-- the result does not depend on the order in which the backend lists the files
    (map iteration order, parallel listing) -/
theorem find_perm (ids ids' : List ID) (p : List UInt8) (h : ids.Perm ids') :
    find name ids false p = find name ids' false p := by
  rw [find_spec, find_spec, expected, expected]
  have hp : (matching name ids p).Perm (matching name ids' p) := h.filter _
  -- a permutation of `[]` or `[x]` is the same list; otherwise both lists have two or more entries
  generalize matching name ids p = l, matching name ids' p = l' at hp ⊢
  rcases l with _ | ⟨a, _ | ⟨b, bs⟩⟩
  · rw [List.nil_perm.mp hp]
  · rw [List.singleton_perm.mp hp]
  · rcases l' with _ | ⟨c, _ | ⟨d, ds⟩⟩
    · cases List.nil_perm.mp hp.symm
    · cases List.singleton_perm.mp hp.symm
    · rfl

/-- empty prefix: every listed file matches, so the answer is `ok` exactly for one-element listings -/
theorem find_empty_prefix (ids : List ID) :
    find name ids false [] = match ids with | [] => .noID | [x] => .ok x | _ :: _ :: _ => .multiple := by
  have hall : ids.filter (fun id => ([] : List UInt8).isPrefixOf (name id)) = ids :=
    List.filter_eq_self.mpr fun _ _ => rfl
  rw [find_spec, expected, matching, hall]
  rcases ids with _ | ⟨a, _ | ⟨b, bs⟩⟩ <;> rfl

/-- a lister error is passed on unless an ambiguity was already detected -/
theorem find_listErr (ids : List ID) (p : List UInt8) :
    find name ids true p = if 2 ≤ (matching name ids p).length then .multiple else .listErr :=
  find_eq name ids true p

/-! ### The code before the fix (null ID as "no match yet") -/

/-- the loop state of `find` that a loop state of the old code stands for -/
def stateOf (isNull : ID → Bool) (m : ID) : Option ID := if isNull m then none else some m

theorem stepSentinel_sim (isNull : ID → Bool) (p : List UInt8) (m a : ID) (ha : isNull a = false) :
    (stepSentinel name isNull p m a).map (stateOf isNull) = step name p (stateOf isNull m) a := by
  rw [stepSentinel, step.eq_def, stateOf]
  by_cases hm : matchesP name p a = true
  · rw [if_pos hm, if_pos hm]
    cases hn : isNull m
    · rfl
    · exact congrArg some (if_neg (ne_true_of_eq_false ha))
  · rw [if_neg hm, if_neg hm]; rfl

theorem loopSentinel_sim (isNull : ID → Bool) (p : List UInt8) (ids : List ID)
    (h : ∀ id ∈ ids, isNull id = false) (m : ID) :
    (loopSentinel name isNull p m ids).map (stateOf isNull) = loop name p (stateOf isNull m) ids := by
  induction ids generalizing m with
  | nil => rfl
  | cons a as ih =>
    rw [loopSentinel, loop, ← stepSentinel_sim name isNull p m a (h a (List.mem_cons_self ..))]
    cases stepSentinel name isNull p m a with
    | none => rfl
    | some m' => exact ih (fun id hid => h id (List.mem_cons_of_mem _ hid)) m'

theorem findSentinel_eq_find (isNull : ID → Bool) (null : ID) (hnull : isNull null = true)
    (ids : List ID) (lf : Bool) (p : List UInt8) (h : ∀ id ∈ ids, isNull id = false) :
    findSentinel name isNull null ids lf p = find name ids lf p := by
  have hs : stateOf isNull null = none := if_pos hnull
  rw [findSentinel, find, ← hs, ← loopSentinel_sim name isNull p ids h null]
  cases loopSentinel name isNull p null ids with
  | none => rfl
  | some m => cases lf <;> cases hn : isNull m <;> simp [stateOf, hn]

/-- C57 for the old code, with the hypothesis it needs -/
theorem findSentinel_spec (isNull : ID → Bool) (null : ID) (hnull : isNull null = true)
    (ids : List ID) (p : List UInt8) (h : ∀ id ∈ ids, isNull id = false) :
    findSentinel name isNull null ids false p = expected name ids p := by
  rw [findSentinel_eq_find name isNull null hnull ids false p h, find_spec]

/-! Without that hypothesis the old code violates C57 (finding F12); negation witnesses on
    concrete 32-byte IDs, replayed on the implementation by the correspondence stream. -/

def idA : ID32 := 0 :: 1 :: List.replicate 30 0   -- 0001 0000…

/-- two files match the prefix "00" (the null ID and `idA`), yet the old code answers `ok idA` -/
theorem sentinel_hides_ambiguity :
    findSentinel hexName isNull32 null32 [null32, idA] false [48, 48] = .ok idA
    ∧ expected hexName [null32, idA] [48, 48] = .multiple := by decide

/-- the null ID alone is the unique match, yet the old code answers `NoIDByPrefixError` -/
theorem sentinel_misses_null :
    findSentinel hexName isNull32 null32 [null32] false [48] = .noID
    ∧ expected hexName [null32] [48] = .ok null32 := by decide

/-- the old code's answer depends on the listing order -/
theorem sentinel_order_dependent :
    findSentinel hexName isNull32 null32 [idA, null32] false [48, 48] = .multiple
    ∧ findSentinel hexName isNull32 null32 [null32, idA] false [48, 48] = .ok idA :=
  ⟨by decide, sentinel_hides_ambiguity.1⟩

def idB : ID32 := 0 :: 2 :: List.replicate 30 0   -- 0002 0000…
example : find hexName [null32, idA, idB] false [48, 48, 48, 49] = .ok idA := by decide +kernel
example : find hexName [null32, idA, idB] false [48, 48, 48] = .multiple := by decide +kernel
example : find hexName [null32, idA, idB] false [48, 48, 48, 48] = .ok null32 := by decide +kernel
example : find hexName [null32, idA, idB] false [102] = .noID := by decide +kernel
example : find hexName [null32, idA] false [] = .multiple := by decide +kernel
example : ∀ id ∈ [idA, idB], isNull32 id = false := by decide +kernel

end Restic.Props.C57
