import Restic.Model.Lock
import Restic.Gen.Source
import Restic.Gen.Consts
/-!
# C12 — An exclusive lock never coexists with another active lock

`Restic.Model.Lock` for all schedules, under the timing hypothesis `R + M + 2·eps ≤ S`, which holds for the
constants of the current source (`timing_gen`).
-/
namespace Restic.Props.C12
open Restic.Model.Lock

def timingOK (P : Params) : Prop := P.R + P.M + 2 * P.eps ≤ P.S

/-- the file the process relies on: the replacement between writing and adopting it (regular or forced
    refresh), else the one `lockID` names -/
def lockFile (p : Proc) : Option Nat :=
  if p.pc = .refreshing ∨ p.pc = .stale2 ∨ p.pc = .stale3 then p.f2 else p.f1

/-- the guard of `tick` as an invariant, and the stamp `p.t` is that of the lock file -/
def Good (P : Params) (now : Nat) (p : Proc) : Prop :=
  urgent p = true → lockFile p = some p.t ∧ p.t ≤ now ∧ now ≤ p.t + P.R + P.M

def Mutex (s : Sys) : Prop :=
  ∀ (i j : Nat) (p q : Proc), i ≠ j → s.procs[i]? = some p → s.procs[j]? = some q →
    holds p = true → holds q = true → conflict p.excl q.excl = false

/-- the process believes it holds the lock, or is in a forced refresh of a lock it held whose old file is
    still in the repository; a pc not asked for a file is `urgent` (`claims_file`) -/
def claims (p : Proc) : Bool :=
  holds p || ((p.pc == .stale0 || p.pc == .stale1 || p.pc == .stale2) && p.f1.isSome) || p.pc == .stale3

def Claims (s : Sys) : Prop :=
  ∀ (i j : Nat) (p q : Proc), i ≠ j → s.procs[i]? = some p → s.procs[j]? = some q →
    claims p = true → claims q = true → conflict p.excl q.excl = false

def Inv (P : Params) (s : Sys) : Prop := (∀ p ∈ s.procs, Good P s.now p) ∧ Claims s

theorem claims_of_holds (p : Proc) (h : holds p = true) : claims p = true := by simp [claims, h]

theorem Mutex_of_Claims (s : Sys) (h : Claims s) : Mutex s :=
  fun i j p q hij hp hq hph hqh => h i j p q hij hp hq (claims_of_holds p hph) (claims_of_holds q hqh)

theorem conflict_comm (a b : Bool) : conflict a b = conflict b a := by
  simp [conflict, Bool.or_comm]

theorem clearB_iff (s : Sys) (i : Nat) (e : Bool) :
    clearB s i e = true ↔ ∀ (j : Nat) (q : Proc), s.procs[j]? = some q → j ≠ i → filePresent q = true →
      conflict e q.excl = false := by
  simp only [clearB, List.all_eq_true, Bool.or_eq_true, beq_iff_eq, Bool.not_eq_true']
  constructor
  · intro h j q hq hj hf
    have := h (q, j) (List.mem_zipIdx_iff_getElem?.mpr hq)
    rcases this with (h1 | h1) | h1
    · exact absurd h1 hj
    · simp [hf] at h1
    · exact h1
  · intro h pj hm
    have hq := List.mem_zipIdx_iff_getElem?.mp hm
    by_cases hj : pj.2 = i
    · exact Or.inl (Or.inl hj)
    · cases hf : filePresent pj.1
      · exact Or.inl (Or.inr rfl)
      · exact Or.inr (h pj.2 pj.1 hq hj hf)

theorem good_file (P : Params) (now : Nat) (p : Proc) (h : Good P now p) (hu : urgent p = true) :
    filePresent p = true := by
  have := (h hu).1
  unfold lockFile at this
  unfold filePresent
  split at this <;> simp [this]

theorem holds_urgent (p : Proc) (h : holds p = true) : urgent p = true := by
  simp only [holds, Bool.or_eq_true, beq_iff_eq] at h
  simp only [urgent, Bool.or_eq_true, beq_iff_eq]
  rcases h with h | h
  · exact Or.inl (Or.inl (Or.inl (Or.inr h)))
  · exact Or.inl (Or.inl (Or.inr h))

theorem good_of_not_urgent (P : Params) (now : Nat) {p : Proc} (h : urgent p = false) : Good P now p :=
  fun hu => absurd (h.symm.trans hu) Bool.false_ne_true

theorem good_fresh (P : Params) {now : Nat} {p : Proc} (hl : lockFile p = some now) (ht : p.t = now) :
    Good P now p :=
  fun _ => ⟨ht ▸ hl, Nat.le_of_eq ht, by omega⟩

theorem good_same (P : Params) {now : Nat} {p p' : Proc} (hg : Good P now p) (hu : urgent p = true)
    (hl : lockFile p' = lockFile p) (ht : p'.t = p.t) : Good P now p' :=
  fun _ => hl ▸ ht ▸ hg hu

theorem removeStale_some {P : Params} {now : Nat} {c k : Bool} {p p' : Proc}
    (st : localStep P now c p (.removeStale k) = some p') :
    ∃ b, getFile p k = some b ∧ canJudgeStale P now b = true ∧ clearFile p k = p' := by
  simp only [localStep] at st
  cases hb : getFile p k with
  | none => rw [hb] at st; cases st
  | some b =>
    rw [hb] at st
    obtain ⟨h1, h2⟩ := Option.ite_none_right_eq_some.mp st
    exact ⟨b, rfl, h1, Option.some.inj h2⟩

/-- where the timing hypothesis enters: a file stamped within `R + M` of now is too young for any remover
    whose clock is within `eps` of real time -/
theorem fresh_not_stale {P : Params} (ht : timingOK P) {now t : Nat} (h : now ≤ t + P.R + P.M) :
    canJudgeStale P now t = false := by
  unfold timingOK at ht
  simp only [canJudgeStale, decide_eq_false_iff_not]
  omega

theorem lockFile_clearFile {p : Proc} {k : Bool} (h : getFile p k ≠ lockFile p) :
    lockFile (clearFile p k) = lockFile p := by
  by_cases hr : p.pc = .refreshing ∨ p.pc = .stale2 ∨ p.pc = .stale3 <;> cases k <;>
    simp only [getFile, lockFile, clearFile, hr, if_true, if_false, Bool.false_eq_true, ne_eq,
      not_true_eq_false] at h ⊢

theorem local_good (P : Params) (ht : timingOK P) (now : Nat) (c : Bool) (p p' : Proc) (a : LAct)
    (hg : Good P now p) (st : localStep P now c p a = some p') : Good P now p' := by
  cases a with
  | removeStale k =>
    obtain ⟨b, hb, hs, rfl⟩ := removeStale_some st
    intro hu
    have hu0 : urgent p = true := by cases k <;> exact hu
    obtain ⟨hl, -, h2⟩ := hg hu0
    -- the lock file of an urgent process cannot be judged stale, so the removed file is another one
    have hne : getFile p k ≠ lockFile p := by
      rw [hb, hl]
      intro e
      cases e
      rw [fresh_not_stale ht h2] at hs
      cases hs
    exact good_same P hg hu0 (lockFile_clearFile hne) (by cases k <;> rfl) hu
  | create | refreshCreate | srCreate =>
    obtain ⟨_, h'⟩ := Option.ite_none_right_eq_some.mp st; cases h'
    exact good_fresh P rfl rfl
  | check2ok | srCheck2 =>
    obtain ⟨hc, h'⟩ := Option.ite_none_right_eq_some.mp st; cases h'
    exact good_same P hg (by simp only [urgent, hc.1]; rfl) (by simp only [lockFile, hc.1]; rfl) rfl
  | refreshRemove | srAdopt =>
    obtain ⟨hc, h'⟩ := Option.ite_none_right_eq_some.mp st; cases h'
    exact good_same P hg (by simp only [urgent, hc]; rfl) (by simp only [lockFile, hc]; rfl) rfl
  | removeDead k =>
    obtain ⟨hc, h'⟩ := Option.ite_none_right_eq_some.mp st; cases h'
    exact good_of_not_urgent P now (by cases k <;> simp only [clearFile, urgent, hc.1] <;> rfl)
  | _ => -- the pc reached is not urgent
    obtain ⟨_, h'⟩ := Option.ite_none_right_eq_some.mp st; cases h'
    exact good_of_not_urgent P now rfl

theorem clearFile_excl (p : Proc) (k : Bool) : (clearFile p k).excl = p.excl := by
  cases k <;> rfl

theorem local_excl (P : Params) (now : Nat) (c : Bool) (p p' : Proc) (a : LAct)
    (st : localStep P now c p a = some p') : p'.excl = p.excl := by
  cases a with
  | removeStale k => obtain ⟨_, _, _, rfl⟩ := removeStale_some st; exact clearFile_excl p k
  | removeDead k => obtain ⟨_, h⟩ := Option.ite_none_right_eq_some.mp st; cases h; exact clearFile_excl p k
  | _ => obtain ⟨_, h⟩ := Option.ite_none_right_eq_some.mp st; cases h; rfl

theorem clearFile_claims (p : Proc) (k : Bool) (h : claims (clearFile p k) = true) : claims p = true := by
  cases k
  · simp only [clearFile, Bool.false_eq_true, if_false, claims, holds, Bool.or_eq_true, Bool.and_eq_true,
      beq_iff_eq] at h ⊢
    rcases h with (h | h) | h
    · exact Or.inl (Or.inl h)
    · cases h.2
    · exact Or.inr h
  · exact h

/-- a claim is inherited, except at `check2ok` (`created` to `holding`), which needs the conflict check `c` -/
theorem local_claims (P : Params) (now : Nat) (c : Bool) (p p' : Proc) (a : LAct)
    (st : localStep P now c p a = some p') (h : claims p' = true) :
    claims p = true ∨ (c = true ∧ p.pc = .created) := by
  cases a with
  | removeStale k => obtain ⟨_, _, _, rfl⟩ := removeStale_some st; exact Or.inl (clearFile_claims p k h)
  | removeDead k =>
    obtain ⟨_, h'⟩ := Option.ite_none_right_eq_some.mp st; cases h'
    exact Or.inl (clearFile_claims p k h)
  | check2ok =>
    obtain ⟨hc, h'⟩ := Option.ite_none_right_eq_some.mp st; cases h'
    exact Or.inr ⟨hc.2, hc.1⟩
  | refreshCreate | refreshRemove | expire | srAdopt =>
    obtain ⟨hc, h'⟩ := Option.ite_none_right_eq_some.mp st; cases h'
    exact Or.inl (by simp only [claims, holds, hc]; rfl)
  | srCheck1 | srCheck2 =>
    obtain ⟨hc, h'⟩ := Option.ite_none_right_eq_some.mp st; cases h'
    exact Or.inl (by simp only [claims, holds, hc.1, hc.2]; rfl)
  | srCreate =>
    obtain ⟨hc, h'⟩ := Option.ite_none_right_eq_some.mp st; cases h'
    have hf : p.f1.isSome = true := by simpa [claims, holds] using h
    exact Or.inl (by simp only [claims, holds, hc, hf]; rfl)
  -- the pc reached carries no claim
  | _ => obtain ⟨_, h'⟩ := Option.ite_none_right_eq_some.mp st; cases h'; cases h

theorem claims_file (P : Params) (now : Nat) (p : Proc) (hg : Good P now p) (h : claims p = true) :
    filePresent p = true := by
  simp only [claims, Bool.or_eq_true, Bool.and_eq_true, beq_iff_eq] at h
  rcases h with (h | h) | h
  · exact good_file P now p hg (holds_urgent p h)
  · simp [filePresent, h.2]
  · exact good_file P now p hg (by simp [urgent, h])

theorem pairwise_set {α : Type} {R : α → α → Prop} (hsym : ∀ u v, R u v → R v u) {l : List α} {i : Nat} {x : α}
    (hi : i < l.length) (hl : ∀ (a b : Nat) (u v : α), a ≠ b → l[a]? = some u → l[b]? = some v → R u v)
    (hx : ∀ (j : Nat) (v : α), j ≠ i → l[j]? = some v → R x v) (a b : Nat) (u v : α) (hab : a ≠ b)
    (hu : (l.set i x)[a]? = some u) (hv : (l.set i x)[b]? = some v) : R u v := by
  by_cases hai : a = i
  · subst hai
    rw [List.getElem?_set_self hi] at hu
    rw [List.getElem?_set_ne hab] at hv
    exact Option.some.inj hu ▸ hx b v (Ne.symm hab) hv
  · rw [List.getElem?_set_ne (Ne.symm hai)] at hu
    by_cases hbi : b = i
    · subst hbi
      rw [List.getElem?_set_self hi] at hv
      exact hsym _ _ (Option.some.inj hv ▸ hx a u hab hu)
    · rw [List.getElem?_set_ne (Ne.symm hbi)] at hv
      exact hl a b u v hab hu hv

theorem step_inv (P : Params) (ht : timingOK P) (s s' : Sys) (a : Act) (h : Inv P s)
    (st : step P s a = some s') : Inv P s' := by
  obtain ⟨hG, hM⟩ := h
  cases a with
  | tick =>
    obtain ⟨hall, hs⟩ := Option.ite_none_right_eq_some.mp st
    cases hs
    refine ⟨fun p hp hu => ?_, hM⟩
    have h1 := hG p hp hu
    simp only [List.all_eq_true, Bool.or_eq_true, Bool.not_eq_true', decide_eq_true_eq] at hall
    rcases hall p hp with h2 | h2
    · rw [hu] at h2; cases h2
    · exact ⟨h1.1, by have := h1.2.1; show p.t ≤ s.now + 1; omega, by show s.now + 1 ≤ _; omega⟩
  | proc i la =>
    simp only [step] at st
    cases hp : s.procs[i]? with
    | none => simp only [hp] at st; cases st
    | some p =>
      simp only [hp] at st
      cases hl : localStep P s.now (clearB s i p.excl) p la with
      | none => simp only [hl] at st; cases st
      | some p' =>
        simp only [hl, Option.some.injEq] at st
        subst st
        obtain ⟨hi, _⟩ := List.getElem?_eq_some_iff.mp hp
        have hgp' := local_good P ht s.now _ p p' la (hG p (List.mem_of_getElem? hp)) hl
        refine ⟨fun x hx => ?_, ?_⟩
        · rcases List.mem_or_eq_of_mem_set hx with hx | rfl
          · exact hG x hx
          · exact hgp'
        · refine pairwise_set (R := fun u v => claims u = true → claims v = true → conflict u.excl v.excl = false)
            (fun u v h hv hu => conflict_comm u.excl v.excl ▸ h hu hv) hi
            hM fun j q hj hq hp'h hqh => ?_
          rw [local_excl P s.now _ p p' la hl]
          -- `p'` has its claim from `p`, or gained it at the second check: then no other process had a
          -- conflicting file, and a process with a claim has a file
          rcases local_claims P s.now _ p p' la hl hp'h with hph | ⟨hc, _⟩
          · exact hM i j p q (Ne.symm hj) hp hq hph hqh
          · exact (clearB_iff s i p.excl).mp hc j q hq hj
              (claims_file P s.now q (hG q (List.mem_of_getElem? hq)) hqh)

theorem start_inv (P : Params) (s0 : Sys)
    (h0 : ∀ p ∈ s0.procs, p.pc = .idle ∨ p.pc = .dead ∨ p.pc = .stale0)
    (hc : ∀ (i j : Nat) (p q : Proc), i ≠ j → s0.procs[i]? = some p → s0.procs[j]? = some q →
      p.pc = .stale0 → q.pc = .stale0 → conflict p.excl q.excl = false) : Inv P s0 := by
  have hst : ∀ p ∈ s0.procs, claims p = true → p.pc = .stale0 := fun p hp hcl => by
    rcases h0 p hp with h1 | h1 | h1
    · rw [claims, holds, h1] at hcl; cases hcl
    · rw [claims, holds, h1] at hcl; cases hcl
    · exact h1
  refine ⟨fun p hp => good_of_not_urgent P _ ?_, fun i j p q hij hp hq hph hqh =>
    hc i j p q hij hp hq (hst p (List.mem_of_getElem? hp) hph) (hst q (List.mem_of_getElem? hq) hqh)⟩
  rcases h0 p hp with h1 | h1 | h1 <;> rw [urgent, h1] <;> rfl

theorem init_idle (now : Nat) (excls : List Bool) : ∀ p ∈ (init now excls).procs, p.pc = .idle := by
  intro p hp
  obtain ⟨e, _, rfl⟩ := List.mem_map.mp hp
  rfl

theorem init_inv (P : Params) (now : Nat) (excls : List Bool) : Inv P (init now excls) :=
  start_inv P _ (fun p hp => Or.inl (init_idle now excls p hp))
    fun _ _ p _ _ hp _ hp0 _ => by rw [init_idle now excls p (List.mem_of_getElem? hp)] at hp0; cases hp0

theorem inv_holder {P : Params} (ht : timingOK P) {s : Sys} (h : Inv P s) {p : Proc} (hp : p ∈ s.procs)
    (hh : holds p = true) :
    lockFile p = some p.t ∧ filePresent p = true ∧ canJudgeStale P s.now p.t = false :=
  have hu := holds_urgent p hh
  ⟨(h.1 p hp hu).1, good_file P s.now p (h.1 p hp) hu, fresh_not_stale ht (h.1 p hp hu).2.2⟩

theorem run_inv (P : Params) (ht : timingOK P) : ∀ (acts : List Act) (s s' : Sys),
    Inv P s → run P s acts = some s' → Inv P s'
  | [], s, s', h, hr => by cases hr; exact h
  | a :: as, s, s', h, hr => by
    simp only [run] at hr
    cases h1 : step P s a with
    | none => rw [h1] at hr; cases hr
    | some s1 => rw [h1] at hr; exact run_inv P ht as s1 s' (step_inv P ht s s1 a h h1) hr

/-- The start state may also contain holders whose lock expired and who are in a forced refresh (`stale0`:
    backend frozen, lock arbitrarily old — the situation outside the timing assumption that
    `refreshStaleLock` is there for), as long as these former co-holders do not conflict with each other.
    Whatever others do meanwhile (remove the expired lock, take an exclusive lock), an expired holder comes
    back to `holding` only through `srAdopt`, i.e. only if its old lock file is still there, and mutual
    exclusion holds in every reachable state. -/
theorem mutex_from_expired (P : Params) (ht : timingOK P) (s0 : Sys)
    (h0 : ∀ p ∈ s0.procs, p.pc = .idle ∨ p.pc = .dead ∨ p.pc = .stale0)
    (hc : ∀ (i j : Nat) (p q : Proc), i ≠ j → s0.procs[i]? = some p → s0.procs[j]? = some q →
      p.pc = .stale0 → q.pc = .stale0 → conflict p.excl q.excl = false)
    (acts : List Act) (s : Sys) (h : run P s0 acts = some s) :
    Mutex s ∧ ∀ p ∈ s.procs, holds p = true → filePresent p = true :=
  have hinv := run_inv P ht acts s0 s (start_inv P s0 h0 hc) h
  ⟨Mutex_of_Claims s hinv.2, fun _ hp hh => (inv_holder ht hinv hp hh).2.1⟩

/-- The same from any starting state in which every process is idle or dead (dead processes may have left
    arbitrary lock files behind: stale locks of crashed runs, locks of hosts that never go away, …). -/
theorem mutex_from (P : Params) (ht : timingOK P) (s0 : Sys)
    (h0 : ∀ p ∈ s0.procs, p.pc = .idle ∨ p.pc = .dead) (acts : List Act) (s : Sys)
    (h : run P s0 acts = some s) : Mutex s ∧ ∀ p ∈ s.procs, holds p = true → filePresent p = true :=
  mutex_from_expired P ht s0 (fun p hp => (h0 p hp).elim Or.inl fun h => Or.inr (Or.inl h))
    (fun _ _ p _ _ hp _ hp0 _ => by
      rcases h0 p (List.mem_of_getElem? hp) with h1 | h1 <;> rw [h1] at hp0 <;> cases hp0)
    acts s h

/-- For every number of processes, every assignment of shared/exclusive, every starting time and every
    schedule: two different processes never both believe they hold conflicting locks. In particular, while
    a process holds an exclusive lock, no other process holds any lock. -/
theorem mutex (P : Params) (ht : timingOK P) (now : Nat) (excls : List Bool) (acts : List Act) (s : Sys)
    (h : run P (init now excls) acts = some s) : Mutex s :=
  (mutex_from P ht _ (fun p hp => Or.inl (init_idle now excls p hp)) acts s h).1

/-- Also the `refresh_no_gap` statement of C13: in every reachable state a process that believes it holds
    the lock — also in the middle of a refresh — has a lock file of its own in the repository, which nobody
    whose clock is within `eps` of real time can judge stale. So `unlock`'s stale removal can never delete
    an active holder's lock. -/
theorem holder_has_fresh_file (P : Params) (ht : timingOK P) (now : Nat) (excls : List Bool)
    (acts : List Act) (s : Sys) (h : run P (init now excls) acts = some s) (p : Proc)
    (hp : p ∈ s.procs) (hh : holds p = true) :
    ∃ b, lockFile p = some b ∧ filePresent p = true ∧ canJudgeStale P s.now b = false :=
  ⟨p.t, inv_holder ht (run_inv P ht acts _ s (init_inv P now excls) h) hp hh⟩

/-- A forced refresh can neither start nor be adopted once the old lock file is gone: both existence checks
    are then disabled (`srAdopt` needs `stale3`, reached only through the second check). Its way
    out is `srFail` (cleanup of the replacement, context cancelled). -/
theorem stale_refresh_detects_removal (P : Params) (now : Nat) (c : Bool) (p : Proc) (h : p.f1 = none) :
    localStep P now c p .srCheck1 = none ∧ localStep P now c p .srCheck2 = none := by
  simp [localStep, h]

theorem mutexB_of_Mutex (s : Sys) (h : Mutex s) : mutexB s = true := by
  simp only [mutexB, List.all_eq_true, Bool.or_eq_true, beq_iff_eq, Bool.not_eq_true',
    Bool.and_eq_false_iff]
  intro pi hpi qj hqj
  have hp := List.mem_zipIdx_iff_getElem?.mp hpi
  have hq := List.mem_zipIdx_iff_getElem?.mp hqj
  by_cases hij : pi.2 = qj.2
  · exact Or.inl (Or.inl hij)
  · cases hph : holds pi.1
    · exact Or.inl (Or.inr (Or.inl rfl))
    · cases hqh : holds qj.1
      · exact Or.inl (Or.inr (Or.inr rfl))
      · exact Or.inr (h pi.2 qj.2 pi.1 qj.1 hij hp hq hph hqh)

theorem reach_mutexB (P : Params) (ht : timingOK P) (now : Nat) (excls : List Bool) (acts : List Act)
    (s : Sys) (h : run P (init now excls) acts = some s) : mutexB s = true :=
  mutexB_of_Mutex s (mutex P ht now excls acts s h)

/-- one minute of clock skew either way, ns -/
def assumedSkew_ns : Nat := 60 * 1000000000

/-- stale and refreshability timeouts regenerated from the source; assumed: stall bound = one refresh
    interval (the holder polls every second and a refresh is a handful of backend requests) -/
def genParams : Params :=
  { S := Restic.Gen.lock_staleLockTimeout_ns, R := Restic.Gen.lock_refreshabilityTimeout_ns,
    M := Restic.Gen.lock_refreshInterval_ns, eps := assumedSkew_ns }

/-- 22.5 min + 5 min + 2 min ≤ 30 min at the commit examined: the margin the comment in lock.go talks about -/
theorem timing_gen : timingOK genParams ∧
    Restic.Gen.lock_refreshabilityTimeout_ns < Restic.Gen.lock_staleLockTimeout_ns ∧
    Restic.Gen.lock_refreshInterval_ns < Restic.Gen.lock_refreshabilityTimeout_ns := by
  unfold timingOK genParams; decide +kernel

theorem mutex_gen (now : Nat) (excls : List Bool) (acts : List Act) (s : Sys)
    (h : run genParams (init now excls) acts = some s) : Mutex s :=
  mutex genParams timing_gen.1 now excls acts s h

def protoCalls (l : List String) : List String :=
  l.filter fun c => c == "lock.checkForOtherLocks" || c == "lock.createLock" || c == "time.Sleep" || c == "lock.unlock"

/-- T1: `newLock` checks, creates, waits, checks again (and unlocks when the second check fails) -/
theorem t1_newLock_order :
    protoCalls Restic.Gen.lock_newLock_calls =
      ["lock.checkForOtherLocks", "lock.createLock", "time.Sleep", "lock.checkForOtherLocks", "lock.unlock"] := by
  decide +kernel

/-- T1: `refresh` creates the replacement before `adoptReplacementLock` removes the old file -/
theorem t1_refresh_create_before_remove :
    Restic.Gen.lock_refresh_calls.idxOf "l.createReplacementLock" < Restic.Gen.lock_refresh_calls.idxOf "l.adoptReplacementLock"
    ∧ "l.adoptReplacementLock" ∈ Restic.Gen.lock_refresh_calls
    ∧ "l.createLock" ∈ Restic.Gen.lock_createReplacementLock_calls
    ∧ Restic.Gen.lock_adoptReplacementLock_calls.filter (· == "l.repo.RemoveUnpacked") = ["l.repo.RemoveUnpacked"]
    ∧ Restic.Gen.lock_unlock_calls.filter (· == "l.repo.RemoveUnpacked") = ["l.repo.RemoveUnpacked"] := by
  decide +kernel

def exP : Params := { S := 10, R := 5, M := 2, eps := 1 }
example : timingOK exP := by unfold timingOK exP; decide

open LAct in
/-- a shared holder that refreshes, a second shared holder, and an exclusive one that is refused -/
example : (run exP (init 100 [false, false, true])
    [.proc 0 check1, .proc 0 create, .proc 0 check2ok, .proc 1 check1, .proc 1 create, .tick, .proc 1 check2ok,
     .proc 0 refreshCreate, .tick, .proc 0 refreshRemove, .proc 2 check1]).map (fun s => s.now) = none := by decide +kernel

open LAct in
example : ((run exP (init 100 [false, false, true])
    [.proc 0 check1, .proc 0 create, .proc 0 check2ok, .proc 1 check1, .proc 1 create, .tick, .proc 1 check2ok,
     .proc 0 refreshCreate, .tick, .proc 0 refreshRemove]).map
      (fun s => (s.now, s.procs.map (fun p => (p.pc, p.f1, p.f2))))) =
    some (102, [(.holding, some 101, none), (.holding, some 100, none), (.idle, none, none)]) := by decide +kernel

open LAct in
/-- both exclusive candidates pass the first check and create; the second check stops both -/
example : (run exP (init 0 [true, true])
    [.proc 0 check1, .proc 1 check1, .proc 0 create, .proc 1 create, .proc 0 check2ok]) = none := by decide +kernel

open LAct in
/-- the timing hypothesis is needed: `S < R + M` violates it, … -/
example : timingOK { S := 3, R := 5, M := 2, eps := 0 } = False := by
  unfold timingOK; simp

open LAct in
/-- … and then a remover deletes an active holder's lock and a second exclusive holder appears -/
example : ((run { S := 3, R := 5, M := 2, eps := 0 } (init 0 [true, true])
    [.proc 0 check1, .proc 0 create, .proc 0 check2ok, .tick, .tick, .tick, .tick,
     .proc 0 (removeStale false), .proc 1 check1, .proc 1 create, .proc 1 check2ok]).map mutexB) = some false := by
  decide

open LAct in
/-- a removal during a forced refresh: P's lock expired (31 old, `S = 30`), P writes the replacement, Q's
    `unlock` removes P's stale lock. P's adoption is refused (the real code returns errRemovedLock); P can
    only fail, which removes the replacement, and then Q can take its exclusive lock. -/
example :
    let P : Params := { S := 30, R := 22, M := 5, eps := 0 }
    let s0 : Sys := { now := 100, procs := [{ pc := .stale0, excl := false, t := 69, f1 := some 69 }, { excl := true }] }
    (run P s0 [.proc 0 srCheck1, .proc 0 srCreate, .proc 0 (removeStale false), .proc 0 srCheck2]) = none
    ∧ ((run P s0 [.proc 0 srCheck1, .proc 0 srCreate, .proc 0 (removeStale false), .proc 0 srFail, .proc 1 check1,
               .proc 1 create, .proc 1 check2ok]).map (fun s => (mutexB s, s.procs.map (·.pc)))) = some (true, [.stopping, .holding]) := by
  decide

end Restic.Props.C12
