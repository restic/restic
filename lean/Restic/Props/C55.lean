import Restic.Model.BackupErr
import Restic.Gen.Source
/-!
# C55 — Backups that skip source items are reported as incomplete

Statement (properties.jsonl): if any source item cannot be read during backup, the snapshot is
still saved for the readable items and the command exits with status 3; a backup in which every
item was read exits 0; files that vanish between directory listing and opening are not source items
and must not change the status.

Model (`Restic.Model.BackupErr`): transcription of the error funnel of `Archiver.save`/`saveDir`/
`saveTree`, `saveFile` + `treeSaver.save`, `nodeFromFileInfo`, and of the `success` flag / exit
status of `runBackup` + `main`, over a tree whose items carry the answer of every file-system
operation. The specification side (`visited`, `isSourceItem`, `fullyRead`, `contentRead`,
`specOK`) does not mention the funnel.
Boundary made explicit in the statement: when nothing at all can be read, a relative target gives
"snapshot is empty" (exit 1, no snapshot), an absolute target a snapshot of the parent directories
only and exit 3; in both cases no success is reported and no source item is in a snapshot.
Hypothesis of the model: healthy repository (no `archErr`, parent blobs present), the backup
command's callback (returns nil unless the error is fatal).
-/
namespace Restic.Props.C55
open Restic.Model.BackupErr

def bad (pv : Path × View) : Bool := pv.2.isSourceItem && !pv.2.fullyRead
def good (pv : Path × View) : Bool := pv.2.isSourceItem && pv.2.contentRead

/-- `errors` only up to emptiness: one item can be reported twice (`metaFault`, then its read error) -/
def Agree (r : Res) (v : List (Path × View)) : Prop :=
  (r.errors = [] ↔ v.filter bad = []) ∧ r.included = (v.filter good).map (·.1)

theorem Agree.append {a b : Res} {v w : List (Path × View)} (ha : Agree a v) (hb : Agree b w) :
    Agree ⟨a.errors ++ b.errors, a.included ++ b.included⟩ (v ++ w) :=
  ⟨by rw [List.filter_append, List.append_eq_nil_iff, List.append_eq_nil_iff, ha.1, hb.1],
   by rw [List.filter_append, List.map_append, ha.2, hb.2]⟩

theorem Agree.nil : Agree ⟨[], []⟩ [] := ⟨⟨fun _ => rfl, fun _ => rfl⟩, rfl⟩

section
attribute [local simp] Agree bad good View.isSourceItem View.fullyRead View.contentRead

/-- each exit of `save`, in source order, against the item's flags -/
theorem leaf_agree (pre : Path) (name : Bytes) (k : LeafKind) (f : LeafF) :
    Agree (save pre (.leaf name k f)) [(pre ++ [name], .leaf k f)] := by
  simp only [save]
  cases hl : f.lstat with
  | enoent => simp [hl]
  | other => simp [hl]
  | ok =>
  cases k with
  | socket => simp [hl]
  | special => cases hm : f.metaFault <;> simp [hl, hm]
  | file =>
  by_cases ho : f.open_ = .ok
  · by_cases hs : f.fstat = .ok
    · cases ht : f.typeChanged with
      | false => by_cases hr : f.read = .ok <;> cases hm : f.metaFault <;> simp [hl, ho, hs, ht, hr, hm]
      | true => simp [hl, ho, hs, ht]
    · simp [hl, ho, hs]
  · simp [hl, ho]

theorem dir_agree (pre : Path) (name : Bytes) (f : DirF) (cs : List Src)
    (ih : Agree (saveList (pre ++ [name]) cs) (visitedList (pre ++ [name]) cs)) :
    Agree (save pre (.dir name f cs)) (visited pre (.dir name f cs)) := by
  simp only [save, visited]
  cases hl : f.lstat with
  | enoent => simp [hl]
  | other => simp [hl]
  | ok =>
  by_cases ho : f.open_ = .ok
  · by_cases hr : f.readdir = .ok
    · have own : Agree ⟨if f.metaFault then [pre ++ [name]] else [], [pre ++ [name]]⟩
          [(pre ++ [name], .dir f)] := by
        cases hm : f.metaFault <;> simp [hl, ho, hr, hm]
      simpa only [hl, ho, hr, and_self, if_true, ne_eq, not_true, if_false, List.cons_append,
        List.nil_append] using own.append ih
    · cases hm : f.metaFault <;> simp [hl, ho, hr, hm]
  · simp [hl, ho]

end

mutual
theorem save_agree (pre : Path) : ∀ t, Agree (save pre t) (visited pre t)
  | .leaf name k f => leaf_agree pre name k f
  | .dir name f cs => dir_agree pre name f cs (saveList_agree (pre ++ [name]) cs)
theorem saveList_agree (pre : Path) : ∀ l, Agree (saveList pre l) (visitedList pre l)
  | [] => by rw [saveList, visitedList]; exact Agree.nil
  | c :: cs => by rw [saveList, visitedList]; exact (save_agree pre c).append (saveList_agree pre cs)
end

/-- the funnel reports an error iff a reached source item could not be read completely, and keeps
    exactly the reached source items whose content was read -/
theorem funnel :
    (∀ (pre : Path) (t : Src),
      ((save pre t).errors = [] ↔ (visited pre t).filter bad = []) ∧
      (save pre t).included = ((visited pre t).filter good).map (·.1)) ∧
    (∀ (pre : Path) (l : List Src),
      ((saveList pre l).errors = [] ↔ (visitedList pre l).filter bad = []) ∧
      (saveList pre l).included = ((visitedList pre l).filter good).map (·.1)) :=
  ⟨save_agree, saveList_agree⟩

theorem errors_iff_unread (t : Src) : (save [] t).errors = [] ↔ unreadItems t = [] := by
  unfold unreadItems
  rw [List.map_eq_nil_iff]
  exact (save_agree [] t).1

theorem included_eq_read (t : Src) : (save [] t).included = readItems t := (save_agree [] t).2

theorem runBackup_eq (targetsSkipped archErr : Bool) (rootNodes errors : Nat) :
    runBackup targetsSkipped archErr rootNodes errors =
      if archErr = true ∨ rootNodes = 0 then ⟨1, false⟩
      else if targetsSkipped = true ∨ errors > 0 then ⟨3, true⟩ else ⟨0, true⟩ := by
  unfold runBackup runBackupErr
  by_cases h1 : archErr = true ∨ rootNodes = 0
  · simp [h1, exitCode]
  · obtain ⟨ha, hn⟩ := not_or.mp h1
    by_cases h2 : targetsSkipped = true ∨ errors > 0
    · rcases h2 with h2 | h2 <;> simp [ha, hn, h2, exitCode]
    · obtain ⟨ht, he⟩ := not_or.mp h2
      simp [ha, hn, ht, he, exitCode]

theorem backupCmd_outcome (abs : Bool) (t : Src) :
    (backupCmd abs t).1 =
      if abs = false ∧ readItems t = [] then ⟨1, false⟩
      else if unreadItems t = [] then ⟨0, true⟩ else ⟨3, true⟩ := by
  have he : (save [] t).errors.length > 0 ↔ unreadItems t ≠ [] := by
    rw [gt_iff_lt, List.length_pos_iff, Ne, errors_iff_unread]
  show runBackup false false (if abs then 1 else (save [] t).included.length) (save [] t).errors.length = _
  rw [runBackup_eq, included_eq_read]
  cases abs <;> by_cases hu : unreadItems t = [] <;>
    simp [hu, he, List.length_eq_zero_iff]

/-- **backupCmd_specOK**: the transcription of the backup command meets the executable statement -/
theorem backupCmd_specOK (abs : Bool) (t : Src) :
    specOK t (backupCmd abs t).1 (backupCmd abs t).2.included = true := by
  rw [backupCmd_outcome, show (backupCmd abs t).2.included = readItems t from included_eq_read t]
  unfold specOK
  by_cases h1 : abs = false ∧ readItems t = []
  · simp [h1]
  · by_cases hu : unreadItems t = [] <;> simp [h1, hu, List.all_eq_true]

/-- exit status 3 exactly when a snapshot was saved and the error callback ran (or a target was skipped) -/
theorem incomplete_iff (targetsSkipped archErr : Bool) (rootNodes errors : Nat) :
    (runBackup targetsSkipped archErr rootNodes errors).exit = 3 ↔
      (runBackup targetsSkipped archErr rootNodes errors).snapshot = true ∧ (errors > 0 ∨ targetsSkipped = true) := by
  rw [runBackup_eq]
  by_cases h1 : archErr = true ∨ rootNodes = 0
  · simp [h1]
  · by_cases h2 : targetsSkipped = true ∨ errors > 0 <;> simp [h1, h2, or_comm]

/-- exit status 0 exactly when a snapshot was saved and nothing was reported or skipped -/
theorem success_iff (targetsSkipped archErr : Bool) (rootNodes errors : Nat) :
    (runBackup targetsSkipped archErr rootNodes errors).exit = 0 ↔
      (runBackup targetsSkipped archErr rootNodes errors).snapshot = true ∧ errors = 0 ∧ targetsSkipped = false := by
  rw [runBackup_eq]
  by_cases h1 : archErr = true ∨ rootNodes = 0
  · simp [h1]
  · by_cases h2 : targetsSkipped = true ∨ errors > 0 <;> simp [h1, h2]
    · exact fun h0 => h2.resolve_right (by omega)
    · exact ⟨by omega, by simpa using (not_or.mp h2).1⟩

/-- a backup in which every source item was read exits 0 with a snapshot of all of them -/
theorem all_read_exit0 (abs : Bool) (t : Src) (h : unreadItems t = []) (hne : readItems t ≠ []) :
    (backupCmd abs t).1 = ⟨0, true⟩ ∧ (backupCmd abs t).2.included = readItems t := by
  rw [backupCmd_outcome]
  exact ⟨by simp [h, hne], included_eq_read t⟩

/-- any reached source item that could not be read completely makes the command report it -/
theorem unreadable_invokes_error (abs : Bool) (t : Src) (p : Path) (h : p ∈ unreadItems t) :
    (save [] t).errors ≠ [] ∧ ((backupCmd abs t).1.snapshot = true → (backupCmd abs t).1.exit = 3) := by
  have hne : unreadItems t ≠ [] := List.ne_nil_of_mem h
  refine ⟨mt (errors_iff_unread t).mp hne, ?_⟩
  rw [backupCmd_outcome, if_neg hne]
  split <;> simp

/-- an entry that vanished between the directory listing and the first lstat is no source item:
    no report, no node, and the result for the other entries unchanged -/
theorem vanished_silent (pre : Path) (name : Bytes) (k : LeafKind) (f : LeafF) (hf : f.lstat = .enoent) (rest : List Src) :
    save pre (.leaf name k f) = ⟨[], []⟩ ∧ saveList pre (.leaf name k f :: rest) = saveList pre rest := by
  have h1 : save pre (.leaf name k f) = ⟨[], []⟩ := by simp [save, hf]
  refine ⟨h1, ?_⟩
  simp [saveList, h1]

/-- `filterNotExist` guards exactly the two operations before the item is known to exist (the
    metadata open and the first lstat); the three later checks of a regular file report ENOENT too -/
theorem notexist_filter_sites :
    Gen.archiver_save_calls.count "filterNotExist" = 2 ∧ Gen.archiver_save_calls.count "filterError" = 5 ∧
    (Gen.archiver_save_calls.takeWhile (· != "meta.MakeReadable")).count "filterNotExist" = 2 := by decide +kernel

/-- `saveDir` passes the error of `save` through `arch.error` (and continues when it is filtered) -/
theorem saveDir_funnel :
    Gen.archiver_saveDir_calls.findIdx (· == "arch.save") < Gen.archiver_saveDir_calls.length ∧
    (Gen.archiver_saveDir_calls.dropWhile (· != "arch.save")).contains "arch.error" = true := by decide +kernel

/-- read errors of files reach the same callback in `treeSaver.save` (`s.errFn`) -/
theorem treeSaver_funnel : Gen.treeSaver_save_calls.contains "s.errFn" = true ∧
    Gen.archiver_error_calls.contains "arch.Error" = true := by decide +kernel

/-- `runBackup`: `errors.IsFatal` (in the callback) comes before `arch.Snapshot`, and `arch.Snapshot`
    before the closing `progressReporter.Finish` -/
theorem runBackup_order :
    Gen.runBackup_calls.findIdx (· == "errors.IsFatal") < Gen.runBackup_calls.findIdx (· == "arch.Snapshot") ∧
    Gen.runBackup_calls.findIdx (· == "arch.Snapshot") < Gen.runBackup_calls.findIdx (· == "progressReporter.Finish") ∧
    Gen.runBackup_calls.getLast? = some "progressReporter.Finish" := by decide +kernel

/-- how the exit codes of the model are written in the Go source -/
def codeLit : Nat → String
  | 0 => "0"
  | 1 => "1"
  | 3 => "3"
  | _ => "?"

/-- the exit-code switch of `main` as regenerated from the source: its case expressions (third
    switch of the function) paired with the literals assigned in the same order — the eight literals
    that follow the last string literal of `main`; the very last literal is the `0` of `exitCode != 0` -/
def exitTableGen : List (String × String) :=
  Gen.main_exit_cases.zip ((Gen.main_literals.drop (Gen.main_literals.length - 9)).take 8)

/-- **exit_table** (T1). The switch has a case for `ErrInvalidSourceData`; it comes right
    after `err == nil`, before every `errors.Is` case and before `default`; its exit code is 3 (shared
    only with forget's "failed to remove snapshots"); success is 0; the fall-through taken by fatal
    errors is 1 — and the model's `exitCode` is this table. -/
theorem exit_table :
    Gen.main_exit_cases = ["err == nil", "err == ErrInvalidSourceData", "errors.Is(err, ErrFailedToRemoveOneOrMoreSnapshots)",
      "errors.Is(err, global.ErrNoRepository)", "repository.IsAlreadyLocked(err)", "errors.Is(err, repository.ErrNoKeyFound)",
      "errors.Is(err, context.Canceled)", "default"] ∧
    Gen.main_literals.drop (Gen.main_literals.length - 9) = ["0", "3", "3", "10", "11", "12", "130", "1", "0"] ∧
    exitTableGen.lookup "err == nil" = some (codeLit (exitCode .nil)) ∧
    exitTableGen.lookup "err == ErrInvalidSourceData" = some (codeLit (exitCode .invalidSourceData)) ∧
    exitTableGen.lookup "default" = some (codeLit (exitCode .fatal)) ∧
    exitCode .invalidSourceData = 3 ∧
    Gen.main_exit_cases.findIdx (· == "err == ErrInvalidSourceData") < Gen.main_exit_cases.findIdx (· == "default") ∧
    (exitTableGen.filter (·.2 == "3")).map (·.1) = ["err == ErrInvalidSourceData", "errors.Is(err, ErrFailedToRemoveOneOrMoreSnapshots)"] := by decide +kernel

/-- `runBackup`: a skipped target is recognised with `errors.Is(err, ErrInvalidSourceData)`; the
    `arch.Error` callback (the only place besides that which clears `success`) reports through
    `progressReporter.Error(item, err)` and escalates fatal errors, and is installed before
    `arch.Snapshot`; a snapshot error becomes `errors.Fatalf("unable to save snapshot: …")`.
    (The assignment `success = false` itself is not a call and is tied by the correspondence runs.)
    `progressReporter.Error(item, err)` twice: VSS `errorHandler` (cmd_backup.go:588), `arch.Error` callback (:661). -/
theorem runBackup_callback_shape :
    Gen.runBackup_callargs.contains "errors.Is(err, ErrInvalidSourceData)" = true ∧
    Gen.runBackup_callargs.findIdx (· == "errors.Is(err, ErrInvalidSourceData)") < Gen.runBackup_callargs.findIdx (· == "errors.IsFatal(err)") ∧
    (Gen.runBackup_callargs.filter (· == "progressReporter.Error(item, err)")).length = 2 ∧
    Gen.runBackup_callargs.findIdx (· == "errors.IsFatal(err)") < Gen.runBackup_callargs.findIdx (· == "arch.Snapshot(ctx, targets, snapshotOpts)") ∧
    Gen.runBackup_callargs.findIdx (· == "arch.Snapshot(ctx, targets, snapshotOpts)") < Gen.runBackup_callargs.findIdx (· == "errors.Fatalf(\"unable to save snapshot: %v\", err)") ∧
    Gen.runBackup_callargs.findIdx (· == "errors.Fatalf(\"unable to save snapshot: %v\", err)") < Gen.runBackup_callargs.length := by decide +kernel

def okF : LeafF := { lstat := .ok, open_ := .ok, fstat := .ok, typeChanged := false, read := .ok, metaFault := false }
def okD : DirF := { lstat := .ok, open_ := .ok, readdir := .ok, metaFault := false }

/-- a tree with an unreadable file, a vanished file, a socket, an unreadable directory (whose
    child is never reached), a file with a read error and a symlink with incomplete metadata -/
def tEx : Src :=
  .dir [115] okD [
    .leaf [97] .file okF,
    .leaf [98] .file { okF with open_ := .other },
    .leaf [99] .file { okF with lstat := .enoent },
    .leaf [100] .socket okF,
    .dir [101] { okD with open_ := .other } [.leaf [120] .file okF],
    .leaf [102] .file { okF with read := .other },
    .leaf [103] .special { okF with metaFault := true },
    .dir [104] okD [.leaf [121] .file okF] ]

example : (backupCmd true tEx).1 = ⟨3, true⟩ ∧
    (backupCmd true tEx).2.errors = [[[115], [98]], [[115], [101]], [[115], [102]], [[115], [103]]] ∧
    (backupCmd true tEx).2.included = [[[115]], [[115], [97]], [[115], [103]], [[115], [104]], [[115], [104], [121]]] := by decide +kernel

example : (backupCmd false (.dir [115] okD [.leaf [97] .file okF, .leaf [99] .file { okF with lstat := .enoent }])).1 = ⟨0, true⟩ := by decide +kernel

/-- the boundary: nothing readable, relative and absolute target -/
example : (backupCmd false (.dir [115] { okD with open_ := .other } [.leaf [97] .file okF])).1 = ⟨1, false⟩ ∧
    (backupCmd true (.dir [115] { okD with open_ := .other } [.leaf [97] .file okF])) = (⟨3, true⟩, ⟨[[[115]]], []⟩) := by decide +kernel

/-- the executable statement is not trivially true: it rejects exit 0 for `tEx`, a snapshot
    that contains the unreadable file, and a snapshot that misses a readable one -/
example : specOK tEx ⟨0, true⟩ (readItems tEx) = false ∧ specOK tEx ⟨3, true⟩ ([[115], [98]] :: readItems tEx) = false ∧
    specOK tEx ⟨3, true⟩ (readItems tEx).tail = false ∧ specOK tEx ⟨3, true⟩ (readItems tEx) = true := by decide +kernel

end Restic.Props.C55
