import Restic.Proofs.RepoTrace
import Restic.Proofs.Writer
import Restic.Gen.Source
/-!
# C11 — An interrupted or failed backup leaves the repository consistent

Statement (properties.jsonl): if backup stops at any point (crash, cancellation or backend error), existing
snapshots remain restorable, the repository passes `check` (unreferenced packs are only hints), and no
snapshot refers to data that was not fully stored and indexed first. A later backup or prune on that state
succeeds.

Formal reading. The backend operations of one backup form a trace in the language `accept_backup r0`
(`Restic.Model.RepoTrace`): guarded pack / index saves, then at most one snapshot save, which is last.
"Stops at any point" = any prefix `tr.take k`. The abstract check `checkOK`: index files name only saved
packs with matching entries, every snapshot present is restorable. That the transcribed writer only produces
traces of this language is `Restic.Proofs.Writer.backupRun_accepted`.
The prune half of "a later backup or prune succeeds" is C09's subject, over its own repository model
(`Restic.Model.Repo`, whose `CheckOK` no theorem derives from this `checkOK`); the correspondence run
executes a real `prune` on crash states.
-/
namespace Restic.Props.C11
open Restic.Model.RepoTrace Restic.Proofs.RepoTrace

theorem old_snaps_safe {r r' : Repo} (hsub : Sub r r') (hc : checkOK r = true) :
    ∀ x ∈ r.snaps, x ∈ r'.snaps ∧ restorable r' x.2 = true :=
  fun x hx => ⟨hsub.snaps x hx, restorable_mono hsub.toSubPI ((checkOK_iff.mp hc).2 x hx)⟩

theorem specC11State_of_sub {r r' : Repo} (hsub : Sub r r') (hc : checkOK r = true)
    (hc' : checkOK r' = true) : specC11State r r' = true := by
  simp only [specC11State, hc', Bool.true_and, List.all_eq_true, Bool.and_eq_true]
  exact fun x hx => ⟨snapPresent_of_mem (hsub.snaps x hx), (old_snaps_safe hsub hc x hx).2⟩

theorem backup_take_safe {r : Repo} {tr : List Ev} (hacc : accept_backup r tr = true) (k : Nat) :
    Sub r (applyAll r (tr.take k)) ∧ (checkOK r = true → checkOK (applyAll r (tr.take k)) = true) :=
  acceptAdds_safe (acceptAdds_guarded.take (accept_backup_iff.mp hacc).1 k)

/-- C11: every crash point of an accepted backup trace leaves a repository that passes the abstract
    check, with every earlier snapshot still present and restorable. -/
theorem backup_prefix_safe (r : Repo) (tr : List Ev) (hacc : accept_backup r tr = true)
    (hc : checkOK r = true) (k : Nat) :
    checkOK (applyAll r (tr.take k)) = true ∧
    (∀ x ∈ r.snaps, x ∈ (applyAll r (tr.take k)).snaps ∧ restorable (applyAll r (tr.take k)) x.2 = true) ∧
    specC11State r (applyAll r (tr.take k)) = true := by
  obtain ⟨hsub, hchk⟩ := backup_take_safe hacc k
  exact ⟨hchk hc, old_snaps_safe hsub hc, specC11State_of_sub hsub hc (hchk hc)⟩

/-- a backup that did not reach its last operation has not written a snapshot file -/
theorem snapshot_only_at_end (r : Repo) (tr : List Ev) (hacc : accept_backup r tr = true)
    (k : Nat) (hk : k < tr.length) : (applyAll r (tr.take k)).snaps = r.snaps := by
  obtain ⟨hadds, hlast⟩ := accept_backup_iff.mp hacc
  refine acceptAdds_snaps (acceptAdds_guarded.take hadds k) fun e he => snapOnlyLast_iff.mp hlast e ?_
  have hpre : tr.take k = tr.dropLast.take k := by
    rw [List.dropLast_eq_take, List.take_take, Nat.min_eq_left (Nat.le_sub_one_of_lt hk)]
  exact List.mem_of_mem_take (hpre ▸ he)

/-- crash states only grow: a backup takes nothing away -/
theorem backup_monotone (r : Repo) (tr : List Ev) (hacc : accept_backup r tr = true) (j k : Nat)
    (hjk : j ≤ k) : Sub (applyAll r (tr.take j)) (applyAll r (tr.take k)) :=
  acceptAdds_take_sub (accept_backup_iff.mp hacc).1 hjk

/-- a later backup started from *any* crash state of an earlier one is again safe at each of its own crash
    points (its precondition `checkOK` is what `backup_prefix_safe` established) -/
theorem backup_then_backup (r : Repo) (tr tr2 : List Ev) (hacc : accept_backup r tr = true)
    (hc : checkOK r = true) (k : Nat) (hacc2 : accept_backup (applyAll r (tr.take k)) tr2 = true) (j : Nat) :
    specC11State r (applyAll (applyAll r (tr.take k)) (tr2.take j)) = true := by
  obtain ⟨hsub, hchk⟩ := backup_take_safe hacc k
  obtain ⟨hsub2, hchk2⟩ := backup_take_safe hacc2 j
  exact specC11State_of_sub (hsub.trans hsub2) hc (hchk2 (hchk hc))

/-- C11 end to end for the transcribed writer: whatever the pack jobs, the uploader schedule and the
    failure points, every crash state of the run satisfies the executable statement of C11, `specC11State`. -/
theorem backupRun_safe (r0 : Repo) (jobs : List PackJob) (sched : List (Nat × Bool)) (fid : Nat)
    (flushFails : Bool) (sid : Nat) (sn : Snap) (snapFails : Bool)
    (hplan : Restic.Proofs.Writer.PlanOK r0 jobs sn) (hc : checkOK r0 = true) (k : Nat) :
    specC11State r0 (applyAll r0 ((backupRun jobs sched fid flushFails sid sn snapFails).take k)) = true :=
  (backup_prefix_safe r0 _
    (Restic.Proofs.Writer.backupRun_accepted r0 jobs sched fid flushFails sid sn snapFails hplan) hc k).2.2

/-- a failed attempt of the retry layer — file stored, error reported, file removed again by the retry
    layer — leaves the repository as it was (the correspondence stream drops such save/remove pairs from
    the recorded trace) -/
theorem failed_attempt_noop (r : Repo) (p : Nat) (bs : List Blob) (hfresh : ∀ x ∈ r.packs, x.1 ≠ p) :
    apply (apply r (.savePack p bs)) (.removePack p) = r := by
  cases r with
  | mk packs indexes snaps =>
    simp only [apply, List.filter_cons, bne_self_eq_false, Bool.false_eq_true, if_false]
    congr
    rw [List.filter_eq_self]
    intro x hx
    simpa using hfresh x hx

/-! ### T1: call orders the writer transcription relies on (regenerated on every run) -/

def idx (l : List String) (c : String) : Nat := l.idxOf c

/-- `savePacker`: the pack is saved to the backend before `StorePack` puts it into the index;
    `StorePack`: storePack then saveFullIndex; `saveFullIndex`, `Flush`: the indexes are finalized, then saved;
    `flush`: packers flushed and uploader waited for before `idx.Flush`;
    `WithBlobUploader`: callback, then flush; `Archiver.Snapshot`: WithBlobUploader, then SaveSnapshot
    (and no other SaveSnapshot). -/
theorem writer_call_orders :
    idx Restic.Gen.savePacker_calls "r.be.Save" < idx Restic.Gen.savePacker_calls "r.idx.StorePack" ∧
    "r.idx.StorePack" ∈ Restic.Gen.savePacker_calls ∧
    Restic.Gen.MasterIndex_StorePack_calls = ["mi.storePack", "mi.saveFullIndex"] ∧
    Restic.Gen.MasterIndex_saveFullIndex_calls = ["mi.finalizeFullIndexes", "mi.saveIndex"] ∧
    Restic.Gen.MasterIndex_Flush_calls = ["mi.finalizeNotFinalIndexes", "mi.saveIndex"] ∧
    Restic.Gen.Repository_flush_calls = ["r.flushBlobSaver", "r.flushPackUploader", "r.idx.Flush"] ∧
    Restic.Gen.Repository_flushPackUploader_calls
      = ["r.treePM.Flush", "r.dataPM.Flush", "r.uploader.TriggerShutdown", "r.packerWg.Wait"] ∧
    idx Restic.Gen.Repository_WithBlobUploader_calls "fn" < idx Restic.Gen.Repository_WithBlobUploader_calls "r.flush" ∧
    "r.flush" ∈ Restic.Gen.Repository_WithBlobUploader_calls ∧
    idx Restic.Gen.Archiver_Snapshot_calls "arch.Repo.WithBlobUploader"
      < idx Restic.Gen.Archiver_Snapshot_calls "data.SaveSnapshot" ∧
    (Restic.Gen.Archiver_Snapshot_calls.filter (· == "data.SaveSnapshot")).length = 1 := by decide +kernel

def b1 : Blob := ⟨0, 11, 0, 100⟩
def b2 : Blob := ⟨1, 12, 0, 60⟩
def r0 : Repo := { packs := [(1, [b1])], indexes := [(2, [(1, [b1])])],
                   snaps := [(3, { key := 1, tree := 0, orig := none, needs := [(0, 11)] })] }
def goodTrace : List Ev :=
  [.savePack 20 [b2], .saveIndex 21 [(20, [b2])], .saveSnap 22 { key := 2, tree := 12, orig := none, needs := [(1, 12), (0, 11)] }]

example : checkOK r0 = true := by decide +kernel
example : accept_backup r0 goodTrace = true := by decide +kernel
example : endsWithSnap goodTrace = true := by decide +kernel
-- snapshot before the index that names its tree: outside the language, and really unsafe
example : accept_backup r0 [.savePack 20 [b2], .saveSnap 22 { key := 2, tree := 12, orig := none, needs := [(1, 12)] },
    .saveIndex 21 [(20, [b2])]] = false := by decide +kernel
example : checkOK (applyAll r0 [.savePack 20 [b2], .saveSnap 22 { key := 2, tree := 12, orig := none, needs := [(1, 12)] }]) = false := by decide +kernel
-- index before its pack: outside the language, and really unsafe
example : accept_backup r0 [.saveIndex 21 [(20, [b2])], .savePack 20 [b2]] = false := by decide +kernel
example : checkOK (applyAll r0 [.saveIndex 21 [(20, [b2])]]) = false := by decide +kernel

/-! the transcribed writer on two packs: the uploader pool interleaves them, the index is "full" after the
first, flush saves the rest, then the snapshot -/
open Restic.Proofs.Writer in
example : backupRun [⟨20, [b2], true, 21⟩, ⟨30, [⟨0, 13, 0, 7⟩], false, 31⟩]
    [(0, false), (1, false), (0, false), (0, false), (1, false), (1, false)] 40 false 22
    { key := 2, tree := 12, orig := none, needs := [(1, 12), (0, 13), (0, 11)] } false
  = [.savePack 20 [b2], .savePack 30 [⟨0, 13, 0, 7⟩], .saveIndex 21 [(20, [b2])], .saveIndex 40 [(30, [⟨0, 13, 0, 7⟩])],
     .saveSnap 22 { key := 2, tree := 12, orig := none, needs := [(1, 12), (0, 13), (0, 11)] }] := by decide +kernel
-- the upload of the second pack fails: no flush, no snapshot
example : backupRun [⟨20, [b2], true, 21⟩, ⟨30, [⟨0, 13, 0, 7⟩], false, 31⟩]
    [(0, false), (1, true), (0, false), (0, false)] 40 false 22
    { key := 2, tree := 12, orig := none, needs := [(1, 12)] } false
  = [.savePack 20 [b2], .saveIndex 21 [(20, [b2])]] := by decide +kernel

end Restic.Props.C11
