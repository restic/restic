import Restic.Model.Keys
import Restic.Gen.Source
import Restic.Gen.Consts
/-!
# C29 — a repository opens with exactly the passwords of its current keys

Theorems about `Restic.Model.Keys` (transcription of `openKey`, `searchKey`, `Repository.SearchKey`
and of the key-file writes of `key add` / `key passwd` / `key remove`), for **all** key sets,
passwords, hints, list orders and crash points.

Partial on the KDF/MAC: `openKey` is idealised (a key created with `p` opens with `p` and is
`ErrUnauthenticated` for every other password); scrypt, AES-CTR and Poly1305 are not modelled.
The correspondence run checks the idealisation on every open attempt against the real code.

Boundary: `opens_iff` needs every key file to be one restic wrote
(`allGood`): an unparsable file listed *before* the matching key aborts the search with an error
(`bad_key_blocks`). Histories of restic's own commands never produce such files.
-/
namespace Restic.Props.C29
open Restic.Model.Keys

theorem searchList_sound (mk : Nat) (pw : Password) (n : Nat) (l : Listing) (id : KeyID) (m : Nat)
    (h : searchList mk pw n l = .ok id m) : (id, .good pw m) ∈ l := by
  induction l generalizing n with
  | nil => simp [searchList] at h
  | cons e rest ih =>
    obtain ⟨eid, kf⟩ := e
    simp only [searchList] at h
    split at h
    · cases h
    · cases kf with
      | bad => simp [openKey] at h
      | good p m' =>
        simp only [openKey] at h
        by_cases hp : p = pw
        · simp only [hp, if_true, SearchRes.ok.injEq] at h
          obtain ⟨rfl, rfl⟩ := h
          rw [hp]; exact List.mem_cons_self
        · simp only [hp, if_false] at h
          exact List.mem_cons_of_mem _ (ih _ h)

theorem findPrefix_mem (l : Listing) (pfx : String) (e : KeyID × KeyFile) (h : findPrefix l pfx = some e) : e ∈ l := by
  unfold findPrefix at h
  split at h
  · rename_i e' he
    simp only [Option.some.injEq] at h
    subst h
    have : e' ∈ l.filter (fun x => hasPrefix pfx x.1) := by rw [he]; exact List.mem_singleton.mpr rfl
    exact (List.mem_filter.mp this).1
  · cases h

theorem searchKey_cases (mk : Nat) (pw : Password) (hint : String) (l : Listing) :
    (∃ id m, hint.isEmpty = false ∧ findPrefix l hint = some (id, .good pw m) ∧
      searchKey mk pw hint l = .ok id m) ∨
    searchKey mk pw hint l = searchList mk pw 0 l := by
  unfold searchKey
  cases hh : hint.isEmpty with
  | true => exact .inr rfl
  | false =>
    cases hf : findPrefix l hint with
    | none => exact .inr rfl
    | some e =>
      obtain ⟨eid, kf⟩ := e
      cases kf with
      | bad => exact .inr rfl
      | good p m' =>
        by_cases hp : p = pw
        · subst hp; exact .inl ⟨eid, m', rfl, rfl, by simp [openKey]⟩
        · right; simp [openKey, hp]

/-- **search_sound**: a password that opens belongs to some key file present (any number of keys,
    any hint, unparsable files allowed) -/
theorem search_sound (mk : Nat) (pw : Password) (hint : String) (l : Listing) (id : KeyID) (m : Nat)
    (h : searchKey mk pw hint l = .ok id m) : (id, .good pw m) ∈ l := by
  rcases searchKey_cases mk pw hint l with ⟨id', m', _, hf, h'⟩ | h'
  · rw [h'] at h; cases h; exact findPrefix_mem l hint _ hf
  · rw [h'] at h; exact searchList_sound mk pw 0 l id m h

theorem hasPw_iff (l : Listing) (pw : Password) : hasPw l pw = true ↔ ∃ id m, (id, KeyFile.good pw m) ∈ l := by
  unfold hasPw
  rw [List.any_eq_true]
  constructor
  · rintro ⟨⟨id, kf⟩, hm, h⟩
    cases kf with
    | bad => simp at h
    | good p m => simp only [beq_iff_eq] at h; subst h; exact ⟨id, m, hm⟩
  · rintro ⟨id, m, hm⟩
    exact ⟨_, hm, by simp⟩

theorem search_hasPw {mk pw hint l id m} (h : searchKey mk pw hint l = .ok id m) : hasPw l pw = true :=
  (hasPw_iff l pw).mpr ⟨id, m, search_sound mk pw hint l id m h⟩

theorem searchList_complete (mk : Nat) (pw : Password) (n : Nat) (l : Listing)
    (hg : allGood l = true) (hb : mk = 0 ∨ n + l.length ≤ mk) (hp : hasPw l pw = true) :
    ∃ id m, searchList mk pw n l = .ok id m := by
  induction l generalizing n with
  | nil => simp [hasPw] at hp
  | cons e rest ih =>
    obtain ⟨eid, kf⟩ := e
    simp only [allGood, List.all_cons, Bool.and_eq_true] at hg
    simp only [searchList]
    rw [if_neg (by simp only [List.length_cons] at hb; omega)]
    cases kf with
    | bad => simp at hg
    | good p m' =>
      simp only [openKey]
      by_cases hpe : p = pw
      · simp only [hpe, if_true]; exact ⟨eid, m', rfl⟩
      · simp only [hpe, if_false]
        apply ih (n + 1) hg.2
        · simp only [List.length_cons] at hb; omega
        · simp only [hasPw, List.any_cons, Bool.or_eq_true] at hp
          rcases hp with hp | hp
          · simp only [beq_iff_eq] at hp; exact absurd hp hpe
          · exact hp

theorem searchKey_complete (mk : Nat) (pw : Password) (hint : String) (l : Listing)
    (hg : allGood l = true) (hb : mk = 0 ∨ l.length ≤ mk) (hp : hasPw l pw = true) :
    ∃ id m, searchKey mk pw hint l = .ok id m := by
  rcases searchKey_cases mk pw hint l with ⟨id, m, _, _, h'⟩ | h'
  · exact ⟨id, m, h'⟩
  · rw [h']; exact searchList_complete mk pw 0 l hg (by omega) hp

/-- **opens_iff**: with at most `maxKeys` key files, all of them written by restic, a password opens
    the repository if and only if some key file present was created with it — for every hint and
    every list order. -/
theorem opens_iff (mk : Nat) (pw : Password) (hint : String) (l : Listing)
    (hg : allGood l = true) (hb : mk = 0 ∨ l.length ≤ mk) :
    (∃ id m, searchKey mk pw hint l = .ok id m) ↔ hasPw l pw = true := by
  constructor
  · rintro ⟨id, m, h⟩
    exact search_hasPw h
  · exact searchKey_complete mk pw hint l hg hb

/-- **hint_opens**: naming the key with `--key-hint` opens it whatever the number of keys and whatever
    else lies in `keys/` -/
theorem hint_opens (mk : Nat) (pw : Password) (hint : String) (l : Listing) (id : KeyID) (m : Nat)
    (hne : hint.isEmpty = false) (hf : findPrefix l hint = some (id, .good pw m)) :
    searchKey mk pw hint l = .ok id m := by
  unfold searchKey
  simp [hne, hf, openKey]

theorem wrong_password_rejected (mk : Nat) (pw : Password) (hint : String) (l : Listing)
    (hp : hasPw l pw = false) : ∀ id m, searchKey mk pw hint l ≠ .ok id m := by
  intro id m h
  rw [search_hasPw h] at hp; cases hp

/-- the boundary of `opens_iff` (negation witness for the statement without `allGood`): an
    unparsable file listed before the key of the password aborts the search -/
theorem bad_key_blocks : ∃ (l : Listing) (pw : Password), hasPw l pw = true ∧ l.length ≤ 20 ∧
    searchKey 20 pw "" l = .err "b" :=
  ⟨[("b", .bad), ("k", .good "pw" 1)], "pw", by decide, by decide, by decide⟩

/-- and the boundary of the key limit: 21 keys, no hint, the matching key listed last -/
theorem max_keys_blocks : ∃ (l : Listing) (pw : Password), allGood l = true ∧ hasPw l pw = true ∧
    searchKey 20 pw "" l = .maxKeysReached :=
  ⟨(List.replicate 20 ("o", .good "other" 1)) ++ [("k", .good "pw" 1)], "pw", by decide, by decide, by decide⟩

def allMaster (M : Nat) (l : Listing) : Prop := ∀ id pw m, (id, KeyFile.good pw m) ∈ l → m = M

/-- **same_master**: when all keys seal the same master key, whichever key a password opens, the
    repository gets that master key and `Repository.SearchKey` accepts the config -/
theorem same_master (M mk : Nat) (pw : Password) (hint : String) (l : Listing) (hm : allMaster M l)
    (id : KeyID) (m : Nat) (h : searchKey mk pw hint l = .ok id m) :
    m = M ∧ repoSearchKey M mk pw hint l = .ok id := by
  have hmem := search_sound mk pw hint l id m h
  have := hm id pw m hmem
  subst this
  exact ⟨rfl, by simp [repoSearchKey, h]⟩

theorem mem_applyK_save {ks : Listing} {n : KeyID} {kf : KeyFile} {e : KeyID × KeyFile} :
    e ∈ applyK ks (.save n kf) ↔ e = (n, kf) ∨ e ∈ ks ∧ e.1 ≠ n := by
  simp only [applyK, List.mem_cons, List.mem_filter, decide_eq_true_eq]

theorem mem_applyK_remove {ks : Listing} {n : KeyID} {e : KeyID × KeyFile} :
    e ∈ applyK ks (.remove n) ↔ e ∈ ks ∧ e.1 ≠ n := by
  simp only [applyK, List.mem_filter, decide_eq_true_eq]

/-- the alternatives of a removal are what `current_survives` needs: only a completed `passwd` removes `cur` -/
theorem mem_opTrace {cur : KeyID} {M : Nat} {op : KeyOp} {ev : KEv} (h : ev ∈ opTrace cur M op) :
    (∃ n pw, op.newID = some n ∧ ev = .save n (.good pw M)) ∨
    (∃ n, ev = .remove n ∧ (op.newID = some n ∨ (∃ n' pw, op = .passwd n' pw true) ∨ n ≠ cur)) := by
  cases op with
  | add n pw v =>
    cases v <;> simp only [opTrace, List.mem_cons, List.not_mem_nil, or_false] at h
    · rcases h with rfl | rfl
      · exact .inl ⟨n, pw, rfl, rfl⟩
      · exact .inr ⟨n, rfl, .inl rfl⟩
    · subst h; exact .inl ⟨n, pw, rfl, rfl⟩
  | passwd n pw v =>
    cases v <;> simp only [opTrace, List.mem_cons, List.not_mem_nil, or_false] at h <;> rcases h with rfl | rfl
    · exact .inl ⟨n, pw, rfl, rfl⟩
    · exact .inr ⟨n, rfl, .inl rfl⟩
    · exact .inl ⟨n, pw, rfl, rfl⟩
    · exact .inr ⟨cur, rfl, .inr (.inl ⟨n, pw, rfl⟩)⟩
  | remove id =>
    by_cases hne : id = cur
    · rw [opTrace, if_pos hne] at h; cases h
    · rw [opTrace, if_neg hne, List.mem_singleton] at h
      exact .inr ⟨id, h, .inr (.inr hne)⟩

/-- the key commands keep the invariant: new keys are sealed with the session's master key
    (`AddKey(…, template = repo.Key())`) -/
theorem allMaster_opTrace (M : Nat) (ks : Listing) (cur : KeyID) (op : KeyOp) (hm : allMaster M ks) (k : Nat) :
    allMaster M (applyAllK ks ((opTrace cur M op).take k)) := by
  refine List.foldlRecOn _ applyK hm fun l hl ev hev id pw m hmem => ?_
  rcases mem_opTrace (List.mem_of_mem_take hev) with ⟨n, pw', _, rfl⟩ | ⟨n, rfl, _⟩
  · rcases mem_applyK_save.mp hmem with h | h
    · cases h; rfl
    · exact hl id pw m h.1
  · exact hl id pw m (mem_applyK_remove.mp hmem).1

def working (M : Nat) (l : Listing) : Prop := ∃ id pw, (id, KeyFile.good pw M) ∈ l

/-- **current_not_removable**: `key remove` of the key in use writes nothing -/
theorem current_not_removable (cur : KeyID) (m : Nat) : opTrace cur m (.remove cur) = [] := by
  simp [opTrace]

/-- the key in use survives every command except a completed `key passwd` (which replaces it) -/
theorem current_survives (M : Nat) (ks : Listing) (cur : KeyID) (kf : KeyFile) (hcur : (cur, kf) ∈ ks)
    (op : KeyOp) (hfresh : ∀ n, op.newID = some n → n ≠ cur) (hop : ∀ n pw, op ≠ .passwd n pw true) (k : Nat) :
    (cur, kf) ∈ applyAllK ks ((opTrace cur M op).take k) := by
  refine List.foldlRecOn _ applyK hcur fun l hl ev hev => ?_
  rcases mem_opTrace (List.mem_of_mem_take hev) with ⟨n, pw, hn, rfl⟩ | ⟨n, rfl, hn | ⟨n', pw, rfl⟩ | hn⟩
  · exact mem_applyK_save.mpr (.inr ⟨hl, Ne.symm (hfresh n hn)⟩)
  · exact mem_applyK_remove.mpr ⟨hl, Ne.symm (hfresh n hn)⟩
  · exact absurd rfl (hop n' pw)
  · exact mem_applyK_remove.mpr ⟨hl, Ne.symm hn⟩

/-- **always_a_key**: a session that opened the repository with key `cur` runs `key add`,
    `key passwd` or `key remove`; the run is cut after any number `k` of completed key-file writes.
    Some key sealing the master key is present — the old one until the new one is stored.
    `hfresh`: the new key's id (SHA-256 over a fresh random salt) differs from the current key's. -/
theorem always_a_key (M : Nat) (ks : Listing) (cur : KeyID) (pwc : Password)
    (hcur : (cur, KeyFile.good pwc M) ∈ ks) (op : KeyOp) (hfresh : ∀ n, op.newID = some n → n ≠ cur) (k : Nat) :
    working M (applyAllK ks ((opTrace cur M op).take k)) := by
  by_cases hop : ∃ n pw, op = .passwd n pw true
  · -- the one command that removes the key in use: by then the new key is stored
    obtain ⟨n, pw, rfl⟩ := hop
    rcases k with _ | _ | k
    · exact ⟨cur, pwc, hcur⟩
    · exact ⟨n, pw, mem_applyK_save.mpr (.inl rfl)⟩
    · simp only [opTrace, List.take_succ_cons, List.take_nil, applyAllK, List.foldl_cons, List.foldl_nil]
      exact ⟨n, pw, mem_applyK_remove.mpr ⟨mem_applyK_save.mpr (.inl rfl), hfresh n rfl⟩⟩
  · exact ⟨cur, pwc, current_survives M ks cur _ hcur op hfresh (fun n pw h => hop ⟨n, pw, h⟩) k⟩

/-- with `always_a_key`: after any interrupted key command on a repository of restic-written keys within the
    key limit, some password opens it -/
theorem working_opens (M mk : Nat) (l : Listing) (hw : working M l) (hg : allGood l = true)
    (hb : mk = 0 ∨ l.length ≤ mk) : ∃ pw id m, searchKey mk pw "" l = .ok id m := by
  obtain ⟨id, pw, hmem⟩ := hw
  obtain ⟨id', m, h⟩ := searchKey_complete mk pw "" l hg hb ((hasPw_iff l pw).mpr ⟨id, M, hmem⟩)
  exact ⟨pw, id', m, h⟩

def SearchRes.isOk : SearchRes → Bool
  | .ok _ _ => true
  | _ => false

/-- **searchKey_spec**: for every key set, password, hint and list order, the outcome of
    `searchKey` satisfies `specOpen`, where `hintHit` may only be claimed when the hint really
    names a key of that password. -/
theorem searchKey_spec (mk : Nat) (pw : Password) (hint : String) (l : Listing) (hintHit : Bool)
    (hh : hintHit = true → hint.isEmpty = false ∧ ∃ id m, findPrefix l hint = some (id, .good pw m)) :
    specOpen mk l pw hintHit (SearchRes.isOk (searchKey mk pw hint l)) = true := by
  unfold specOpen
  cases hg : allGood l with
  | false => simp
  | true =>
  simp only [Bool.not_true, Bool.false_or, Bool.and_eq_true, Bool.or_eq_true, Bool.not_eq_true', beq_iff_eq]
  constructor
  · cases hr : searchKey mk pw hint l with
    | ok id m => right; exact search_hasPw hr
    | _ => left; rfl
  · by_cases hcond : l.length ≤ mk ∨ hintHit = true
    · right
      cases hp : hasPw l pw with
      | true =>
        obtain ⟨id, m, h⟩ : ∃ id m, searchKey mk pw hint l = .ok id m := by
          rcases hcond with hc | hhit
          · exact searchKey_complete mk pw hint l hg (Or.inr hc) hp
          · obtain ⟨hne, id, m, hf⟩ := hh hhit
            exact ⟨id, m, hint_opens mk pw hint l id m hne hf⟩
        rw [h]; rfl
      | false =>
        cases hr : searchKey mk pw hint l with
        | ok id m => exact absurd hr (wrong_password_rejected mk pw hint l hp id m)
        | _ => rfl
    · left; simpa using hcond

/-- `OpenRepository` searches with the limit the statement names; the limit is positive
    (0 would mean "unlimited" in `searchKey`) -/
theorem maxKeys_positive : 0 < Restic.Gen.global_maxKeys := by decide

theorem opens_iff_current (pw : Password) (hint : String) (l : Listing)
    (hg : allGood l = true) (hb : l.length ≤ Restic.Gen.global_maxKeys) :
    (∃ id m, searchKey Restic.Gen.global_maxKeys pw hint l = .ok id m) ↔ hasPw l pw = true :=
  opens_iff _ pw hint l hg (Or.inr hb)

/-- `changePassword`: the new key is stored and verified before the old one is removed — the order
    `opTrace (.passwd …)` transcribes, on which `always_a_key` rests -/
theorem passwd_order :
    Restic.Gen.C29_changePassword_calls.filter (fun c => c ∈ ["repository.AddKey", "switchToNewKeyAndRemoveIfBroken", "repository.RemoveKey"])
      = ["repository.AddKey", "switchToNewKeyAndRemoveIfBroken", "repository.RemoveKey"] := by decide +kernel

theorem add_order :
    Restic.Gen.C29_addKey_calls.filter (fun c => c ∈ ["repository.AddKey", "switchToNewKeyAndRemoveIfBroken", "repository.RemoveKey"])
      = ["repository.AddKey", "switchToNewKeyAndRemoveIfBroken"] ∧
    Restic.Gen.C29_switchToNewKey_calls.filter (fun c => c ∈ ["repo.SearchKey", "repository.RemoveKey"])
      = ["repo.SearchKey", "repository.RemoveKey"] := by decide +kernel

/-- `deleteKey` and `RemoveKey` both compare with `repo.KeyID()` before the backend `Remove` -/
theorem remove_guard :
    Restic.Gen.C29_deleteKey_calls.filter (fun c => c ∈ ["restic.Find", "repo.KeyID", "repository.RemoveKey"])
      = ["restic.Find", "repo.KeyID", "repository.RemoveKey"] ∧
    Restic.Gen.C29_RemoveKey_calls.filter (fun c => c ∈ ["repo.KeyID", "repo.be.Remove"])
      = ["repo.KeyID", "repo.be.Remove"] := by decide +kernel

/-- `searchKey`: hint lookup and its `openKey` come before the list loop (the second `openKey` is the one in
    the callback of `s.List`: calls are listed by end position); `Repository.SearchKey` loads the config with
    the key found -/
theorem search_order :
    Restic.Gen.C29_searchKey_calls.filter (fun c => c ∈ ["restic.Find", "openKey", "s.List"])
      = ["restic.Find", "openKey", "openKey", "s.List"] ∧
    Restic.Gen.C29_SearchKey_calls.filter (fun c => c ∈ ["searchKey", "restic.LoadConfig"])
      = ["searchKey", "restic.LoadConfig"] ∧
    "s.SearchKey" ∈ Restic.Gen.C29_decryptRepository_calls := by decide +kernel

def exKeys : Listing := [("aa11", .good "alpha" 7), ("bb22", .good "beta" 7), ("cc33", .good "alpha" 7)]

example : allGood exKeys = true ∧ allMaster 7 exKeys := ⟨by decide, by
  intro id pw m h; simp [exKeys] at h; rcases h with ⟨_, _, rfl⟩ | ⟨_, _, rfl⟩ | ⟨_, _, rfl⟩ <;> rfl⟩
example : searchKey 20 "beta" "" exKeys = .ok "bb22" 7 := by decide +kernel
example : searchKey 20 "gamma" "" exKeys = .noKeyFound := by decide +kernel
/-- two keys of the same password: the hint decides which one becomes the key in use -/
example : searchKey 20 "alpha" "cc" exKeys = .ok "cc33" 7 ∧ searchKey 20 "alpha" "" exKeys = .ok "aa11" 7 := by decide +kernel
/-- `key passwd` cut after the first write: both keys present; completed: only the new one -/
example : (applyAllK exKeys ((opTrace "bb22" 7 (.passwd "dd44" "delta" true)).take 1)).map (·.1) = ["dd44", "aa11", "bb22", "cc33"] := by decide +kernel
example : (applyAllK exKeys (opTrace "bb22" 7 (.passwd "dd44" "delta" true))).map (·.1) = ["dd44", "aa11", "cc33"] := by decide +kernel

end Restic.Props.C29
