import Restic.Proofs.C08_Index
import Restic.Gen.Source
/-!
# C08 — The loaded index matches exactly the index files in the repository

Statement (properties.jsonl): after loading, looking up any blob returns exactly the set of pack
locations recorded for it across all index files currently in the repository, and encoding any
index then decoding it preserves every entry. Re-loading after index files were added or removed
gives the same lookups as a fresh load.

Theorems about `Restic.Model.Index` (transcription of `index.go` / `master_index.go` over the
abstract `indexMap` of C56). They are partial-correctness statements: *whenever the operation
returns `ok`* (i.e. no Go error — more than `2^32-1` packs after a merge — and no panic — a value
beyond `uint32` in a file, more than `2^32-1` packs in one index), the result is as stated, for
every order in which the files are delivered, every content (duplicates of a blob in several
packs, exact duplicate entries, the same pack in several files) and every history of listings.
File ids are content hashes: one id denotes one content (`content : ID → IndexFile`), which is
the explicit no-collision hypothesis.
-/
namespace Restic.Props.C08
open Restic.Model.IndexMap (ID Val)
open Restic.Model.Index Restic.Proofs.C08

theorem cryptoExtension_eq : cryptoExtension = 32 := by decide

/-- T1 (regenerated from master_index.go / index.go): `Load` prepares the incremental load, then
    loads and inserts the missing files, then merges; `prepareIncrementalLoad` compares the loaded
    ids with the listing and clears; `merge` tests `hasIdenticalEntry` before it adds -/
theorem load_call_order :
    Restic.Gen.MasterIndex_Load_calls.idxOf "mi.prepareIncrementalLoad" < Restic.Gen.MasterIndex_Load_calls.idxOf "mi.Insert"
    ∧ Restic.Gen.MasterIndex_Load_calls.idxOf "mi.Insert" < Restic.Gen.MasterIndex_Load_calls.idxOf "mi.MergeFinalIndexes"
    ∧ Restic.Gen.MasterIndex_Load_calls.getLast? = some "mi.MergeFinalIndexes"
    ∧ "loadedIDs.Sub" ∈ Restic.Gen.prepareIncrementalLoad_calls ∧ "mi.clear" ∈ Restic.Gen.prepareIncrementalLoad_calls
    ∧ Restic.Gen.Index_merge_calls.idxOf "hasIdenticalEntry" < Restic.Gen.Index_merge_calls.idxOf "m.add" := by decide +kernel

/-- encoding an index and decoding the document again preserves every entry, as a multiset -/
theorem encode_decode_entries {idx idx' : Index} {f : IndexFile} {id : ID}
    (he : idx.encode = .ok f) (hd : decodeIndex f id = .ok idx') :
    (entries idx').Perm (entries idx) ∧ WFIdx idx' ∧ idx'.values = .ok (entries idx') := by
  have dec := decodeIndex_spec hd
  exact ⟨dec.perm.trans (encode_spec he), dec.wf, values_ok dec.wf⟩

/-- the decoded index lists exactly what the file records -/
theorem decode_entries {f : IndexFile} {id : ID} {idx : Index} (hd : decodeIndex f id = .ok idx) :
    ∃ L, idx.values = .ok L ∧ L.Perm (fileEntries f) :=
  ⟨_, values_ok (decodeIndex_spec hd).wf, (decodeIndex_spec hd).perm⟩

section
variable (content : ID → IndexFile)

/-- an index decoded from one file -/
structure Decoded (i : Index) : Prop where
  wf : WFIdx i
  final : i.final = true
  src : ∃ id, i.ids = [id] ∧ ∀ e, e ∈ entries i ↔ e ∈ fileEntries (content id)

/-- an index holds exactly the entries of the files whose ids it lists (the field `ent` of
    `Consistent` and `Reloadable`) -/
def Holds (i : Index) : Prop := ∀ e, e ∈ entries i ↔ ∃ id, id ∈ i.ids ∧ e ∈ fileEntries (content id)

/-- state of a master index between loads: everything is merged into `idx[0]`, which holds
    exactly the entries of the files whose ids it lists -/
structure Consistent (mi : MasterIndex) : Prop where
  wf : WFIdx mi.first
  final : mi.first.final = true
  rest : mi.rest = []
  ent : ∀ e, e ∈ entries mi.first ↔ ∃ id, id ∈ mi.first.ids ∧ e ∈ fileEntries (content id)
  /-- no blob is pending: `LookupSize` answers from the index files only -/
  pending : mi.pending = []

/-- a state from which a load gives the right result: `idx[0]` is as in `Consistent`, the other
    indexes are at most leftovers of an aborted load (final, with an id — an index that `StorePack`
    is still filling is not covered); any blobs may be pending
    (`AddPending` of an upload that was aborted before its pack reached the index) -/
structure Reloadable (mi : MasterIndex) : Prop where
  wf : WFIdx mi.first
  final : mi.first.final = true
  ent : ∀ e, e ∈ entries mi.first ↔ ∃ id, id ∈ mi.first.ids ∧ e ∈ fileEntries (content id)
  rest : ∀ i, i ∈ mi.rest → (!i.final || i.ids.isEmpty) = false

theorem Consistent.reloadable {mi : MasterIndex} (hc : Consistent content mi) : Reloadable content mi :=
  { hc with rest := fun i hi => by rw [hc.rest] at hi; cases hi }

/-- an aborted load (some files decoded and inserted, then an error before the merge) leaves a
    reloadable state -/
theorem Reloadable.insert {mi : MasterIndex} (hr : Reloadable content mi) {f : IndexFile} {id : ID} {idx : Index}
    (hd : decodeIndex f id = .ok idx) : Reloadable content (mi.insert idx) := by
  refine { hr with rest := fun i hi => ?_ }
  simp only [MasterIndex.insert, List.mem_append, List.mem_singleton] at hi
  rcases hi with hi | rfl
  · exact hr.rest i hi
  · simp [(decodeIndex_spec hd).final, (decodeIndex_spec hd).ids]

/-- the listing agrees with the content function (ids are content addresses) -/
def Agrees (fs : List (ID × Option IndexFile)) : Prop := ∀ id f, (id, some f) ∈ fs → f = content id

structure Loaded (loaded : List ID) (fs : List (ID × Option IndexFile)) (mi mi' : MasterIndex) (news : List Index) :
    Prop where
  first : mi'.first = mi.first
  pending : mi'.pending = mi.pending
  rest : mi'.rest = mi.rest ++ news
  decoded : ∀ i, i ∈ news → Decoded content i
  ids : news.flatMap (·.ids) = (fs.map (·.1)).filter fun id => !loaded.contains id

structure MergedAll (is : List Index) (first first' : Index) : Prop where
  wf : WFIdx first'
  final : first'.final = first.final
  ids : first'.ids = first.ids ++ is.flatMap (·.ids)
  grows : ∀ t, ∃ s, first'.byType t = first.byType t ++ s
  holds : Holds content first → Holds content first'

variable {content}

theorem Decoded.of_decodedFrom {f : IndexFile} {id : ID} {idx : Index} (dec : DecodedFrom f id idx)
    (h : f = content id) : Decoded content idx :=
  ⟨dec.wf, dec.final, id, dec.ids, fun _ => h ▸ dec.perm.mem_iff⟩

theorem Decoded.holds {i : Index} (hd : Decoded content i) : Holds content i := by
  obtain ⟨id, hids, h⟩ := hd.src
  intro e
  rw [h e, hids]
  simp

theorem Holds.merge {idx idx2 idx' : Index} (h1 : Holds content idx) (h2 : Holds content idx2)
    (hm : Merged idx idx2 idx') : Holds content idx' := by
  intro e
  rw [hm.mem e, h1 e, h2 e, hm.ids]
  simp only [List.mem_append, or_and_right, exists_or]

theorem new_consistent : Consistent content MasterIndex.new :=
  { wf := ⟨new_wf.data, new_wf.tree⟩, final := rfl, rest := rfl, pending := rfl
    ent := fun e => by simp [MasterIndex.new, entries, entriesOf, Index.new] }

theorem loadFiles_spec (loaded : List ID) : ∀ (fs : List (ID × Option IndexFile)) (mi mi' : MasterIndex),
    Agrees content fs → loadFiles loaded fs mi = .ok mi' → ∃ news, Loaded content loaded fs mi mi' news := by
  intro fs
  induction fs with
  | nil =>
    intro mi mi' _ h
    cases h
    exact ⟨[], { first := rfl, pending := rfl, rest := (List.append_nil _).symm, decoded := nofun, ids := rfl }⟩
  | cons p fs ih =>
    obtain ⟨id, f⟩ := p
    intro mi mi' ha h
    have ha' : Agrees content fs := fun i g hm => ha i g (List.mem_cons_of_mem _ hm)
    unfold loadFiles at h
    cases hl : loaded.contains id
    case true =>
      rw [hl, if_pos rfl] at h
      obtain ⟨news, l⟩ := ih mi mi' ha' h
      exact ⟨news, { l with ids := by simp only [l.ids, List.map_cons, List.filter_cons, hl]; rfl }⟩
    case false =>
      rw [hl, if_neg Bool.false_ne_true] at h
      cases f with
      | none => cases h
      | some f =>
        obtain ⟨idx, hd, h⟩ := bind_eq_ok.mp h
        have dec := decodeIndex_spec hd
        obtain ⟨news, l⟩ := ih (mi.insert idx) mi' ha' h
        refine ⟨idx :: news, {
          first := l.first, pending := l.pending
          rest := by rw [l.rest]; simp [MasterIndex.insert]
          decoded := fun i hi => ?_
          ids := by simp only [List.flatMap_cons, dec.ids, l.ids, List.map_cons, List.filter_cons, hl]; rfl }⟩
        rcases List.mem_cons.mp hi with rfl | hi
        · exact .of_decodedFrom dec (ha id f List.mem_cons_self)
        · exact l.decoded i hi

/-- `keep' = keep` because every index is `Decoded`, hence final with an id: the branch of
    `mergeLoop` that keeps an index is not reached -/
theorem mergeLoop_spec : ∀ (is : List Index) (first first' : Index) (keep keep' : List Index),
    WFIdx first → (∀ i, i ∈ is → Decoded content i) → mergeLoop is first keep = .ok (first', keep') →
    keep' = keep ∧ MergedAll content is first first' := by
  intro is
  induction is with
  | nil =>
    intro first first' keep keep' wf _ h
    cases h
    exact ⟨rfl, {
      wf := wf, final := rfl, ids := (List.append_nil _).symm
      grows := fun t => ⟨[], (List.append_nil _).symm⟩, holds := id }⟩
  | cons i is ih =>
    intro first first' keep keep' wf hdec h
    have hi := hdec i List.mem_cons_self
    obtain ⟨id, hids, _⟩ := hi.src
    unfold mergeLoop at h
    have hc : (!i.final || i.ids.isEmpty) = false := by simp [hi.final, hids]
    rw [hc, if_neg Bool.false_ne_true] at h
    obtain ⟨first1, hm, h⟩ := bind_eq_ok.mp h
    have m1 := merge_spec wf hi.wf hm
    obtain ⟨hk, m2⟩ := ih first1 first' keep keep' m1.wf (fun j hj => hdec j (List.mem_cons_of_mem _ hj)) h
    refine ⟨hk, {
      wf := m2.wf, final := m2.final.trans m1.final
      ids := by rw [m2.ids, m1.ids, List.flatMap_cons, List.append_assoc]
      grows := fun t => ?_, holds := fun hh => m2.holds (hh.merge hi.holds m1) }⟩
    obtain ⟨s1, e1⟩ := m1.grows t
    obtain ⟨s2, e2⟩ := m2.grows t
    exact ⟨s1 ++ s2, by rw [e2, e1, List.append_assoc]⟩

theorem prepare_spec {mi mi0 : MasterIndex} {listed loaded : List ID} (hr : Reloadable content mi)
    (h : mi.prepareIncrementalLoad listed = .ok (mi0, loaded)) :
    Consistent content mi0 ∧ loaded = mi0.first.ids ∧ ∀ id, id ∈ loaded → id ∈ listed := by
  simp only [MasterIndex.prepareIncrementalLoad, hr.final, Bool.not_true, Bool.false_eq_true, if_false] at h
  by_cases hall : (mi.first.ids.any fun id => !listed.contains id) = true
  · rw [if_pos hall] at h
    cases h
    exact ⟨new_consistent, rfl, fun _ h => nomatch h⟩
  · rw [if_neg hall] at h
    cases h
    have hnil : mi.rest.filter (fun i => !i.final || i.ids.isEmpty) = [] :=
      List.filter_eq_nil_iff.mpr fun i hi => by rw [hr.rest i hi]; exact Bool.false_ne_true
    exact ⟨{ hr with rest := hnil, pending := rfl }, rfl, fun id hid =>
      Decidable.by_contra fun hn => hall (List.any_eq_true.mpr ⟨id, hid, by simpa using hn⟩)⟩

variable (content)

/-- `Load` (fresh or incremental): afterwards the master index is consistent and holds exactly
    the files of the listing, whatever it held before -/
theorem load_spec {mi mi' : MasterIndex} {fs : List (ID × Option IndexFile)} (hc : Reloadable content mi)
    (ha : Agrees content fs) (h : mi.load fs = .ok mi') :
    Consistent content mi' ∧ (∀ id, id ∈ mi'.first.ids ↔ id ∈ fs.map (·.1)) ∧
      (∀ e, e ∈ entries mi'.first ↔ ∃ id, id ∈ fs.map (·.1) ∧ e ∈ fileEntries (content id)) := by
  simp only [MasterIndex.load, bind_eq_ok] at h
  obtain ⟨⟨mi0, loaded⟩, hprep, mi1, hload, hmerge⟩ := h
  obtain ⟨hc0, hl, hsub⟩ := prepare_spec hc hprep
  obtain ⟨news, ld⟩ := loadFiles_spec loaded fs mi0 mi1 ha hload
  obtain ⟨first', keep, hml, rfl⟩ := mergeFinalIndexes_eq_ok.mp hmerge
  rw [ld.rest, hc0.rest, List.nil_append, ld.first] at hml
  obtain ⟨hk, hm⟩ := mergeLoop_spec news mi0.first first' [] keep hc0.wf ld.decoded hml
  -- the ids kept from before are still listed, the new ones are the listed ids not kept
  have hidset : ∀ id, id ∈ first'.ids ↔ id ∈ fs.map (·.1) := fun id => by
    rw [hm.ids, ld.ids, ← hl, List.mem_append, List.mem_filter]
    constructor
    · rintro (a | ⟨a, _⟩)
      · exact hsub id a
      · exact a
    · intro a
      by_cases hin : id ∈ loaded
      · exact .inl hin
      · exact .inr ⟨a, by simpa using hin⟩
  have hent : Holds content first' := hm.holds hc0.ent
  refine ⟨{ wf := hm.wf, final := hm.final.trans hc0.final, rest := hk, ent := hent
            pending := ld.pending.trans hc0.pending }, hidset, fun e => ?_⟩
  rw [hent e]
  simp only [hidset]

theorem lookup_consistent {mi : MasterIndex} (hc : Consistent content mi) (h : Handle) :
    ∃ L, mi.lookup h = .ok L ∧ ∀ e, e ∈ L ↔ e ∈ entries mi.first ∧ e.handle = h := by
  obtain ⟨L, hL, hm⟩ := lookup_mem hc.wf h
  refine ⟨L, ?_, hm⟩
  simp [MasterIndex.lookup, MasterIndex.idx, hc.rest, lookupAll, hL, Out.bind]

theorem values_consistent {mi : MasterIndex} (hc : Consistent content mi) :
    mi.values = .ok (entries mi.first) := by
  simp [MasterIndex.values, MasterIndex.idx, hc.rest, valuesAll, values_ok hc.wf, Out.bind]

end

def listing (files : List (ID × IndexFile)) : List (ID × Option IndexFile) := files.map fun f => (f.1, some f.2)

/-- ids are content addresses: one id, one content -/
def Functional (files : List (ID × IndexFile)) (content : ID → IndexFile) : Prop :=
  ∀ id f, (id, f) ∈ files → content id = f

theorem agrees_listing {files : List (ID × IndexFile)} {content : ID → IndexFile} (hf : Functional files content) :
    Agrees content (listing files) := by
  intro id f hm
  obtain ⟨⟨i, g⟩, hg, e⟩ := List.mem_map.mp hm
  cases e
  exact (hf _ _ hg).symm

theorem mem_allEntries {files : List (ID × IndexFile)} {content : ID → IndexFile} (hf : Functional files content)
    (e : PackedBlob) :
    e ∈ allEntries files ↔ ∃ id, id ∈ (listing files).map (·.1) ∧ e ∈ fileEntries (content id) := by
  simp only [allEntries, List.mem_flatMap, listing, List.map_map, List.mem_map, Function.comp]
  constructor
  · rintro ⟨⟨id, f⟩, hm, he⟩
    exact ⟨id, ⟨(id, f), hm, rfl⟩, by rw [hf id f hm]; exact he⟩
  · rintro ⟨id, ⟨⟨id', f⟩, hm, rfl⟩, he⟩
    exact ⟨(id', f), hm, by rw [hf id' f hm] at he; exact he⟩

theorem load_listing {content : ID → IndexFile} {mi mi' : MasterIndex} {files : List (ID × IndexFile)}
    (hc : Reloadable content mi) (hf : Functional files content) (h : mi.load (listing files) = .ok mi') :
    Consistent content mi' ∧ ∀ e, e ∈ entries mi'.first ↔ e ∈ allEntries files := by
  obtain ⟨hc', _, hent⟩ := load_spec content hc (agrees_listing hf) h
  exact ⟨hc', fun e => by rw [hent e, mem_allEntries hf e]⟩

/-- after a (fresh or incremental) load of the listing of `files`, in any delivery order, a lookup
    returns exactly the pack locations recorded for the blob across all files, the listing of all
    blobs returns exactly all recorded entries, and the executable statement holds -/
theorem lookup_set {content : ID → IndexFile} {mi mi' : MasterIndex} {files : List (ID × IndexFile)}
    (hc : Reloadable content mi) (hf : Functional files content)
    (h : mi.load (listing files) = .ok mi') (bh : Handle) :
    (∃ L, mi'.lookup bh = .ok L ∧ (∀ e, e ∈ L ↔ e ∈ allEntries files ∧ e.handle = bh) ∧
      specLookup files bh L = true) ∧
    (∃ L, mi'.values = .ok L ∧ (∀ e, e ∈ L ↔ e ∈ allEntries files) ∧ specList files L = true) := by
  obtain ⟨hc', hall⟩ := load_listing hc hf h
  constructor
  · obtain ⟨L, hL, hm⟩ := lookup_consistent content hc' bh
    have hm' : ∀ e, e ∈ L ↔ e ∈ allEntries files ∧ e.handle = bh := fun e => by rw [hm e, hall e]
    refine ⟨L, hL, hm', ?_⟩
    simp only [specLookup, sameSet, Bool.and_eq_true, List.all_eq_true, List.contains_iff_mem,
      List.mem_filter, beq_iff_eq]
    exact ⟨fun e he => (hm' e).mp he, fun e he => (hm' e).mpr he⟩
  · refine ⟨_, values_consistent content hc', hall, ?_⟩
    simp only [specList, sameSet, Bool.and_eq_true, List.all_eq_true, List.contains_iff_mem]
    exact ⟨fun e he => (hall e).mp he, fun e he => (hall e).mpr he⟩

/-- a reload of an index that was loaded earlier (from any other set of files, also after an aborted
    load) answers every lookup with the same set as a fresh load of the current files -/
theorem incremental_eq_fresh {content : ID → IndexFile} {mi mi1 mi2 : MasterIndex} {files : List (ID × IndexFile)}
    (hc : Reloadable content mi) (hf : Functional files content)
    (h1 : mi.load (listing files) = .ok mi1) (h2 : MasterIndex.new.load (listing files) = .ok mi2) (bh : Handle) :
    ∃ L1 L2, mi1.lookup bh = .ok L1 ∧ mi2.lookup bh = .ok L2 ∧ ∀ e, e ∈ L1 ↔ e ∈ L2 := by
  obtain ⟨⟨L1, hL1, hm1, _⟩, _⟩ := lookup_set hc hf h1 bh
  obtain ⟨⟨L2, hL2, hm2, _⟩, _⟩ := lookup_set (new_consistent).reloadable hf h2 bh
  exact ⟨L1, L2, hL1, hL2, fun e => by rw [hm1 e, hm2 e]⟩

/-- histories: successive successful loads of arbitrary listings (files added, superseded, deleted
    in between) keep the master index consistent -/
theorem history_consistent (content : ID → IndexFile) :
    ∀ (listings : List (List (ID × IndexFile))) (mi mi' : MasterIndex), Consistent content mi →
      (∀ files, files ∈ listings → Functional files content) →
      listings.foldl (fun (r : Out MasterIndex) files => r.bind fun m => m.load (listing files)) (.ok mi) = .ok mi' →
      Consistent content mi' :=
  fun listings mi mi' hc hf =>
    List.foldlRecOn listings _ (motive := fun r : Out MasterIndex => ∀ m, r = .ok m → Consistent content m)
      (fun _ h => Out.ok.inj h ▸ hc) (fun _ hr files hm _ h => by
        obtain ⟨m, rfl, hl⟩ := bind_eq_ok.mp h
        exact (load_spec content (hr m rfl).reloadable (agrees_listing (hf files hm)) hl).1) mi'

/-- the first phase of a load keeps the state reloadable (so does every insertion of a decoded
    file, `Reloadable.insert`): whatever point an aborted load reaches, the next load is correct -/
theorem prepare_reloadable {content : ID → IndexFile} {mi mi0 : MasterIndex} {listed loaded : List ID}
    (hr : Reloadable content mi) (h : mi.prepareIncrementalLoad listed = .ok (mi0, loaded)) :
    Reloadable content mi0 :=
  (prepare_spec hr h).1.reloadable

/-- negation witness for a `Load` without the filter in `prepareIncrementalLoad`: an index inserted
    by an aborted load and not dropped is merged by the next load although its file is gone — here
    the listing is empty and the lookup still answers -/
example : ∃ idx mi, decodeIndex [([0xa1], [⟨.data, [1], 0, 40, 0⟩])] [0xe1] = .ok idx ∧
    (MasterIndex.new.insert idx).mergeFinalIndexes = .ok mi ∧
    mi.lookup ⟨.data, [1]⟩ = .ok [⟨[0xa1], ⟨.data, [1], 0, 40, 0⟩⟩] ∧
    allEntries [] = [] := ⟨_, _, rfl, rfl, rfl, rfl⟩

/-- `Load` with the filter drops it -/
example : ∃ idx mi, decodeIndex [([0xa1], [⟨.data, [1], 0, 40, 0⟩])] [0xe1] = .ok idx ∧
    (MasterIndex.new.insert idx).load [] = .ok mi ∧ mi.lookup ⟨.data, [1]⟩ = .ok [] := ⟨_, _, rfl, rfl, rfl⟩

/-- the size `LookupSize` derives from a recorded entry -/
def pbSize (e : PackedBlob) : Nat := entrySize ⟨e.blob.id, 0, e.blob.offset, e.blob.length, e.blob.ulen⟩

theorem pbSize_of_resolve {packs : List ID} {t : BlobType} {v : Val} {e : PackedBlob}
    (h : toPackedBlob packs t v = some e) : pbSize e = entrySize v := by
  obtain ⟨p, _, rfl⟩ := toPackedBlob_inv h
  rfl

theorem map_pbSize_entriesOf {packs : List ID} (t : BlobType) : ∀ {m : IMap}, Valid packs m →
    (entriesOf packs t m).map pbSize = m.map entrySize := by
  intro m
  induction m with
  | nil => exact fun _ => rfl
  | cons v m ih =>
    intro h
    obtain ⟨e, he⟩ := h.resolve t (v := v) List.mem_cons_self
    rw [entriesOf, List.filterMap_cons, he, List.map_cons, List.map_cons, pbSize_of_resolve he]
    exact congrArg _ (ih h.tail)

/-- in a consistent master index the candidates of `LookupSize` are exactly the sizes of the entries
    recorded for the blob (found iff recorded) -/
theorem lookupSize_consistent {content : ID → IndexFile} {mi : MasterIndex} (hc : Consistent content mi) (h : Handle)
    (n : Nat) : n ∈ mi.lookupSizeCandidates h ↔ ∃ e, e ∈ entries mi.first ∧ e.handle = h ∧ n = pbSize e := by
  -- nothing is pending and `idx[0]` is the only index
  have hcand : mi.lookupSizeCandidates h = mi.first.lookupSizeCandidates h := by
    unfold MasterIndex.lookupSizeCandidates
    have hp : pendingSize mi.pending h = none := by rw [hc.pending]; rfl
    simp only [hp, MasterIndex.idx, hc.rest, List.find?_cons, List.find?_nil]
    cases hh : mi.first.has h with
    | true => rfl
    | false =>
      have : (mi.first.byType h.type).filter (fun v => v.id == h.id) = [] :=
        List.filter_eq_nil_iff.mpr fun v hv => by
          rw [Index.has, List.any_eq_false] at hh
          exact hh v hv
      simp [Index.lookupSizeCandidates, this]
  -- the candidates are the sizes of the entries `Lookup` resolves
  rw [hcand, Index.lookupSizeCandidates, ← map_pbSize_entriesOf _ ((hc.wf.byType _).filter _), List.mem_map]
  constructor
  · rintro ⟨e, he, rfl⟩; exact ⟨e, (mem_entriesOf_filter.mp he).1, (mem_entriesOf_filter.mp he).2, rfl⟩
  · rintro ⟨e, he, hh, rfl⟩; exact ⟨e, mem_entriesOf_filter.mpr ⟨he, hh⟩, rfl⟩

/-- announcing a pending blob (`AddPending`, e.g. by an upload that is aborted later) keeps the state
    reloadable: the next load forgets it (`clearPendingBlobs`) -/
theorem addPending_reloadable {content : ID → IndexFile} {mi : MasterIndex} (hr : Reloadable content mi)
    (h : Handle) (size : Nat) : Reloadable content (mi.addPending h size).1 := by
  unfold MasterIndex.addPending
  split
  · exact hr
  · split
    · exact hr
    · exact { hr with }

theorem lookupSize_after_load {content : ID → IndexFile} {mi mi' : MasterIndex} {files : List (ID × IndexFile)}
    (hc : Reloadable content mi) (hf : Functional files content) (h : mi.load (listing files) = .ok mi')
    (bh : Handle) (n : Nat) :
    n ∈ mi'.lookupSizeCandidates bh ↔ ∃ e, e ∈ allEntries files ∧ e.handle = bh ∧ n = pbSize e := by
  obtain ⟨hc', hall⟩ := load_listing hc hf h
  simp only [lookupSize_consistent hc', hall]

/-- `incremental_eq_fresh` for `LookupSize`: after a reload from any reloadable state — pending
    blobs of aborted uploads included — its candidates are those of a fresh load: the sizes of the
    entries the index files record for the blob (none for a blob in no index file) -/
theorem lookupSize_reload_eq_fresh {content : ID → IndexFile} {mi mi1 mi2 : MasterIndex} {files : List (ID × IndexFile)}
    (hc : Reloadable content mi) (hf : Functional files content)
    (h1 : mi.load (listing files) = .ok mi1) (h2 : MasterIndex.new.load (listing files) = .ok mi2) (bh : Handle)
    (n : Nat) :
    (n ∈ mi1.lookupSizeCandidates bh ↔ n ∈ mi2.lookupSizeCandidates bh) ∧
    (n ∈ mi1.lookupSizeCandidates bh ↔ ∃ e, e ∈ allEntries files ∧ e.handle = bh ∧ n = pbSize e) := by
  have k1 := lookupSize_after_load hc hf h1 bh n
  exact ⟨k1.trans (lookupSize_after_load (new_consistent).reloadable hf h2 bh n).symm, k1⟩

/-- non-vacuity: a pending blob is reported by `LookupSize` before, and forgotten after a reload -/
example : ∃ mi, ((MasterIndex.new.addPending ⟨.data, [9]⟩ 35).1.lookupSizeCandidates ⟨.data, [9]⟩ = [35]) ∧
    (MasterIndex.new.addPending ⟨.data, [9]⟩ 35).1.load [] = .ok mi ∧ mi.lookupSizeCandidates ⟨.data, [9]⟩ = [] :=
  ⟨_, rfl, rfl, rfl⟩

/-- `MergeFinalIndexes` only appends to the maps of `idx[0]`: the relation `Ext` that C48 assumes
    of a master index that grows while a set is in use -/
theorem mergeFinal_extends {content : ID → IndexFile} {mi mi' : MasterIndex} (hwf : WFIdx mi.first)
    (hdec : ∀ i, i ∈ mi.rest → Decoded content i) (h : mi.mergeFinalIndexes = .ok mi') :
    ∀ t, ∃ s, mi'.first.byType t = mi.first.byType t ++ s := by
  obtain ⟨first', keep, hml, rfl⟩ := mergeFinalIndexes_eq_ok.mp h
  exact (mergeLoop_spec _ _ _ _ _ hwf hdec hml).2.grows

/-! ### non-vacuity (examples): a blob recorded in two packs of two files, one exact duplicate -/

def exBlob : Blob := ⟨.data, [1], 0, 40, 0⟩
def exFiles : List (ID × IndexFile) :=
  [([0xe1], [([0xa1], [exBlob, ⟨.tree, [2], 40, 50, 0⟩])]),
   ([0xe2], [([0xa2], [exBlob]), ([0xa1], [exBlob])])]
def exContent (id : ID) : IndexFile := if id = [0xe1] then exFiles[0]!.2 else exFiles[1]!.2

example : Functional exFiles exContent := by
  intro id f hm
  simp only [exFiles, List.mem_cons, Prod.mk.injEq, List.mem_nil_iff, or_false] at hm
  rcases hm with ⟨rfl, rfl⟩ | ⟨rfl, rfl⟩ <;> decide

example : ∃ mi, MasterIndex.new.load (listing exFiles) = .ok mi ∧
    mi.lookup ⟨.data, [1]⟩ = .ok [⟨[0xa1], exBlob⟩, ⟨[0xa2], exBlob⟩] := ⟨_, rfl, rfl⟩

example : ∃ f idx', (Index.new.storePack [0xa1] [exBlob, exBlob]).bind Index.encode = .ok f ∧
    decodeIndex f [0xe1] = .ok idx' ∧ idx'.values = .ok [⟨[0xa1], exBlob⟩, ⟨[0xa1], exBlob⟩] := ⟨_, _, rfl, rfl, rfl⟩

end Restic.Props.C08
