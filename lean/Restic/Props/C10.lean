import Restic.Proofs.C10_Full
import Restic.Props.C09
/-!
# C10 — A full prune leaves no waste and reports accurate statistics

Over `Restic.Model.Prune`, the transcription C09 uses.
-/
namespace Restic.Props.C10
open Restic.Model.Repo Restic.Model.Prune
open Restic.Proofs.C09Plan Restic.Proofs.C10Plan Restic.Proofs.C10Account

/-- the `switch` of the repack loop of `decidePackAction` for one candidate, its inputs made explicit:
    `true` = repack -/
def repackDecision (sizeRepackSoFar maxRepackBytes remainingUnused maxUnusedAfter packBytes target : Nat)
    (isData mustCompress : Bool) : Bool :=
  let reachedUnusedSizeAfter := decide (remainingUnused < maxUnusedAfter)
  let reachedRepackSize := decide (sizeRepackSoFar + packBytes ≥ maxRepackBytes)
  let packIsLargeEnough := decide (packBytes ≥ target)
  if reachedRepackSize then false
  else if !isData || mustCompress then true
  else if reachedUnusedSizeAfter && packIsLargeEnough then false
  else true

/-- with `--max-unused 0` and no repack limit (2^64-1, never reached by 64-bit sizes) every candidate is
    repacked, whatever the sort order: hence the choice oracle `fun _ => true` in the full-prune theorems.
    `repackDecision` stands beside the model, whose oracle is not defined from it. -/
theorem forced_repack (sizeRepackSoFar remainingUnused packBytes target : Nat) (isData mustCompress : Bool)
    (h64 : sizeRepackSoFar + packBytes < 2 ^ 64 - 1) :
    repackDecision sizeRepackSoFar (2 ^ 64 - 1) remainingUnused 0 packBytes target isData mustCompress = true := by
  unfold repackDecision
  have h1 : decide (sizeRepackSoFar + packBytes ≥ 2 ^ 64 - 1) = false := by
    rw [decide_eq_false_iff_not]; omega
  simp [h1]

/-- Under full-prune options (every candidate repacked, no `--repack-cacheable-only`) every pack file that
    is listed and indexed is deleted, repacked or consists of used blobs only (each counted once): no pack
    with unused or superfluous duplicate blobs survives. -/
theorem full_plan_no_waste (o : Opts) (used : List BlobH) (idx : List PB) (packs : List (ID × Nat)) (pl : Plan)
    (hc : o.repackCacheableOnly = false)
    (h : planPrune o (fun _ => true) used idx packs = .ok pl) :
    ∃ pi, packInfoFromIndex used idx {} = .ok pi ∧
      ∀ id ∈ packs.map (·.1), ∀ info, pi.ip id = some info →
        id ∈ pl.remove ∨ id ∈ pl.repack ∨ info.unusedBlobs = 0 := by
  obtain ⟨pi, pl0, hpi, hpl0, rfl⟩ := planPruneG_ok h
  exact ⟨pi, hpi, decide_full_no_waste (pl := pl0) hc hpl0⟩

/-- After `packInfoFromIndex`, with `marks` the ghost record of the entries the duplicate pass switched to
    "used": `unusedBlobs` of every pack counts exactly its entries that are neither the only entry of a used
    blob nor a selected duplicate; every used blob has exactly one entry counted as used; unused blobs have
    none. -/
theorem select_exactly_one (used : List BlobH) (idx : List PB) (pi : PackInfoResult)
    (h : packInfoFromIndex used idx {} = .ok pi) :
    pi.marks.length = idx.length ∧
    (∀ p, ((pi.ip p).getD {}).unusedBlobs = (idx.zip pi.marks).countP (unmarkedP (countPass used idx).f p)) ∧
    (∀ b ∈ used, (idx.zip pi.marks).countP (usedMark (countPass used idx).f b) = 1) ∧
    (∀ b, b ∉ used → (idx.zip pi.marks).countP (usedMark (countPass used idx).f b) = 0) :=
  let a := packInfo_account (st := {}) h rfl
  ⟨a.len, a.unused, a.one, a.zero⟩

/-- Index part of C10, at plan level: under full-prune options, for every index order, listing and
    duplicate constellation, the index after the prune — the entries of the packs that stay plus one entry
    per repacked blob — lists (i) only blobs reachable from snapshots, (ii) every such blob exactly once,
    and (iv) no entry for a missing pack. ((iii) is `unindexed_removed` + `C09.plan_ok`: packs without index
    entry are deleted first.) -/
theorem full_prune_exact (o : Opts) (used : List BlobH) (idx : List PB) (packs : List (ID × Nat)) (pl : Plan)
    (hnd : used.Nodup) (hc : o.repackCacheableOnly = false)
    (h : planPrune o (fun _ => true) used idx packs = .ok pl) :
    (∀ b ∈ afterBlobs pl idx, b ∈ used) ∧ (∀ b ∈ used, (afterBlobs pl idx).count b = 1) ∧
    (∀ x ∈ idx, keptB pl x.pack = true → x.pack ∈ packs.map (·.1)) :=
  Restic.Proofs.C10Exact.full_prune_exact hnd hc h

/-- `fullPlanOK` is what the driver evaluates on the real plan -/
theorem full_plan_ok (o : Opts) (used : List BlobH) (idx : List PB) (packs : List (ID × Nat)) (pl : Plan)
    (hnd : used.Nodup) (hc : o.repackCacheableOnly = false)
    (h : planPrune o (fun _ => true) used idx packs = .ok pl) : fullPlanOK used idx packs pl = true := by
  obtain ⟨h1, h2, h3⟩ := full_prune_exact o used idx packs pl hnd hc h
  unfold fullPlanOK
  simp only [Bool.and_eq_true, List.all_eq_true, List.contains_eq_mem, decide_eq_true_eq, Bool.or_eq_true,
    Bool.not_eq_true', List.any_eq_true]
  refine ⟨⟨h1, h2⟩, ?_⟩
  intro x hx
  by_cases hk : keptB pl x.pack = true
  · right
    obtain ⟨y, hy, hyx⟩ := List.mem_map.mp (h3 x hx hk)
    exact ⟨y, hy, hyx⟩
  · left; simpa using hk

/-- unindexed packs are deleted first, whatever the options -/
theorem unindexed_removed (o : Opts) (choice : ID → Bool) (used : List BlobH) (idx : List PB)
    (packs : List (ID × Nat)) (pl : Plan) (hN : (packs.map (·.1)).Nodup)
    (h : planPrune o choice used idx packs = .ok pl) :
    ∀ p ∈ pl.removeFirst, ∀ pb ∈ idx, pb.pack ≠ p :=
  (planOK_iff.mp (Restic.Props.C09.plan_ok o choice used idx packs pl hN h)).1

/-- The blob counters of the statistics: for every option set and oracle, the reported number of used
    blobs is the number of blobs reachable from snapshots, of unused blobs the number of index entries of
    unreachable blobs, the total the number of index entries, and duplicates are the rest (each used blob
    counted once, its further copies as duplicates) — through counter saturation, for every index order. -/
theorem stats_blobs_exact (o : Opts) (choice : ID → Bool) (used : List BlobH) (idx : List PB)
    (packs : List (ID × Nat)) (pl : Plan) (hnd : used.Nodup) (h : planPrune o choice used idx packs = .ok pl) :
    pl.stats.bUsed = used.length ∧
    pl.stats.bUnused = idx.countP (fun x => !(used.contains x.e.blob)) ∧
    pl.stats.bTotal = idx.length ∧
    pl.stats.bUsed + pl.stats.bDup + pl.stats.bUnused = idx.length := by
  -- `packInfoFromIndex` counts exactly; `decidePackAction` leaves these three counters alone
  obtain ⟨pi, pl0, hpi, hpl0, rfl⟩ := planPruneG_ok h
  obtain ⟨b1, b2, b3⟩ := Restic.Proofs.C10Stats.blob_stats hnd hpi
  have S := (decide_spec hpl0).stats
  simp only [totals]
  refine ⟨by rw [S.bUsed, b1], by rw [S.bUnused, b2], ?_, ?_⟩
  · rw [S.bUsed, S.bDup, S.bUnused]; omega
  · rw [S.bUsed, S.bDup, S.bUnused]; omega

/-- the derived statistics fields are exactly the sums / differences the code assigns -/
theorem totals_identities (st : Stats) :
    let t := totals st
    t.bTotal = st.bUsed + st.bUnused + st.bDup ∧
    t.bRemoveTotal = st.bRemove + st.bRepackrm ∧
    t.bRemain = t.bTotal - t.bRemoveTotal ∧
    t.sTotal = st.sUsed + st.sDup + st.sUnused + st.sUnref ∧
    t.sRemoveTotal = st.sRemove + st.sRepackrm + st.sUnref ∧
    t.sRemain = t.sTotal - t.sRemoveTotal ∧
    t.sRemainUnused = st.sDup + st.sUnused - st.sRemove - st.sRepackrm ∧
    t.pTotal = st.pUsed + st.pPartly + st.pUnused + st.pUnref ∧
    t.pRemoveTotal = st.pUnref + st.pRemove := by
  simp [totals]

section Examples
private def bD (s : String) : BlobH := { tpe := .data, id := s }
private def en (p : ID) (b : String) (len : Nat) : PB := { pack := p, e := { blob := bD b, off := 0, len := len, unc := true } }
/-- P: b (duplicate) + unused u1; Q: b + unused u2 + c; R: d only (kept). Used: b, c, d. -/
private def exIdx : List PB := [en "P" "b" 100, en "P" "u1" 50, en "Q" "b" 100, en "Q" "u2" 70, en "Q" "c" 30, en "R" "d" 10]
private def exPacks : List (ID × Nat) := [("P", 36 + 2 * 37 + 150), ("Q", 36 + 3 * 37 + 200), ("R", 36 + 37 + 10), ("Z", 99)]
private def exOpts : Opts := { maxUnusedZero := true, smallPackBytes := 1 }

example :
    (match planPrune exOpts (fun _ => true) [bD "b", bD "c", bD "d"] exIdx exPacks with
     | .ok pl => pl.removeFirst == ["Z"] && pl.remove == ["P"] && pl.repack == ["Q"] &&
                 afterBlobs pl exIdx == [bD "d", bD "b", bD "c"] &&
                 pl.stats.bUsed == 3 && pl.stats.bDup == 1 && pl.stats.bUnused == 2 && pl.stats.bTotal == 6 &&
                 pl.stats.bRemain == 3 && pl.stats.sUnref == 99 && pl.stats.pKeep == 1
     | .error _ => false) = true := by decide +kernel
end Examples

end Restic.Props.C10
