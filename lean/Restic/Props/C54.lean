import Restic.Model.Stats
import Restic.Gen.Source
/-!
# C54 — stats restore-size reports what a restore would write

Theorems about `Restic.Model.Stats`, for all trees and any number of snapshots.

"What a restore writes" is `restoreBytes`, the restorer's size accounting (`visitNode`) folded over
*all* nodes `flattenL t`. The restorer's first pass visits exactly these when no include/exclude
filter is given, every node name is a base name (`traverseTreeInner`, restorer.go:191-200, skips
the others; `wf` has no clause on names) and the target is empty (else `withOverwriteCheck`,
restorer.go:476-478, counts a file as skipped). These are preconditions of reading the theorems as
statements about `restic restore`, not hypotheses in Lean.
-/

namespace Restic.Props.C54
open Restic.Model.SnapTree Restic.Model.Stats

def noInvalid (ns : List Meta) : Bool := ns.all (fun n => n.type != .invalid)

theorem noInvalid_cons (m : Meta) (l : List Meta) :
    noInvalid (m :: l) = (m.type != .invalid && noInvalid l) := rfl

theorem noInvalid_append (a b : List Meta) : noInvalid (a ++ b) = (noInvalid a && noInvalid b) :=
  List.all_append

mutual
theorem walkT_eq (g : σ → Meta → σ) : ∀ (t : Tree) (s : σ), shapeT t = true →
    walkT (fun s n => some (g s n)) t s =
      if noInvalid (flattenT t) then some ((flattenT t).foldl g s) else none
  | .mk m kids, s, h => by
    rw [shapeT, Bool.and_eq_true, Bool.or_eq_true, beq_iff_eq, List.isEmpty_iff] at h
    rw [walkT, flattenT, noInvalid_cons, List.foldl_cons]
    by_cases hi : m.type = .invalid
    · rw [if_pos hi, hi]; rfl
    · rw [if_neg hi, bne_iff_ne.mpr hi]
      by_cases hd : m.type = .dir
      · exact (if_pos hd).trans (walkL_eq g kids (g s m) h.2)
      · cases h.1.resolve_left hd
        exact if_neg hd
theorem walkL_eq (g : σ → Meta → σ) : ∀ (ts : List Tree) (s : σ), shapeL ts = true →
    walkL (fun s n => some (g s n)) ts s =
      if noInvalid (flattenL ts) then some ((flattenL ts).foldl g s) else none
  | [], s, _ => rfl
  | t :: ts, s, h => by
    rw [shapeL, Bool.and_eq_true] at h
    rw [walkL, flattenL, walkT_eq g t s h.1, noInvalid_append, List.foldl_append]
    cases noInvalid (flattenT t)
    · rfl
    · exact walkL_eq g ts _ h.2
end

theorem statsNode_count (s : St) (n : Meta) : (statsNode s n).count = s.count + 1 := by
  unfold statsNode
  cases (n.links == 1 || n.type == .dir) <;> cases (!idxHas s.idx (key n) || n.inode == 0) <;> rfl

/-- **count_exact**: every node is counted once -/
theorem count_exact (ns : List Meta) (s : St) : (ns.foldl statsNode s).count = s.count + ns.length := by
  induction ns generalizing s with
  | nil => simp
  | cons n ns ih => simp only [List.foldl_cons, ih, statsNode_count, List.length_cons]; omega

theorem mem_idxAdd (idx : List Key) (k k' : Key) : k' ∈ idxAdd idx k ↔ k' = k ∨ k' ∈ idx := by
  unfold idxAdd
  by_cases h : idx.contains k = true
  · simp only [h, if_true]
    constructor
    · exact Or.inr
    · rintro (rfl | h')
      · exact List.contains_iff_mem.mp h
      · exact h'
  · simp only [h]; simp

theorem idxHas_iff (idx : List Key) (k : Key) : idxHas idx k = true ↔ k ∈ idx := by
  simp [idxHas]

/-- `k` is the (inode, device) pair of some hard-linked regular file of the snapshot -/
def GroupKey (all : List Meta) (k : Key) : Prop := ∃ f ∈ all, grouped f = true ∧ key f = k

theorem statsNode_size (s : St) (n : Meta) : (statsNode s n).size = s.size +
    if (n.links == 1 || n.type == .dir) || (!idxHas s.idx (key n) || n.inode == 0) then n.size else 0 := by
  unfold statsNode
  cases (n.links == 1 || n.type == .dir) <;> cases (!idxHas s.idx (key n) || n.inode == 0) <;> rfl

theorem mem_statsNode_idx (s : St) (n : Meta) (k : Key) :
    k ∈ (statsNode s n).idx ↔ k ∈ s.idx ∨ (n.links == 1 || n.type == .dir) = false ∧ key n = k := by
  unfold statsNode
  cases (n.links == 1 || n.type == .dir)
  · cases h : (!idxHas s.idx (key n) || n.inode == 0)
    · -- the key is in the index already
      have : key n ∈ s.idx := by simp [idxHas_iff] at h; exact h.1
      exact ⟨Or.inl, fun h => h.elim id fun h => h.2 ▸ this⟩
    · simp [mem_idxAdd, or_comm, eq_comm]
  · simp

theorem restoreNode_bytes (r : RSt) (n : Meta) : (restoreNode r n).bytes = r.bytes +
    if n.type == .file && (!grouped n || !idxHas r.idx (key n)) then n.size else 0 := by
  unfold restoreNode grouped
  by_cases hf : n.type = .file
  · by_cases hl : n.links > 1
    · cases h : idxHas r.idx (key n) <;> simp [hf, hl]
    · simp [hf, hl]
  · simp [hf]

theorem mem_restoreNode_idx (r : RSt) (n : Meta) (k : Key) :
    k ∈ (restoreNode r n).idx ↔ k ∈ r.idx ∨ grouped n = true ∧ key n = k := by
  unfold restoreNode grouped
  by_cases hf : n.type = .file
  · by_cases hl : n.links > 1
    · cases h : idxHas r.idx (key n)
      · simp [hf, hl, mem_idxAdd, or_comm, eq_comm]
      · have : key n ∈ r.idx := (idxHas_iff _ _).mp h
        simp only [hf, hl, bne_self_eq_false, Bool.false_eq_true, if_false, if_true, beq_self_eq_true,
          decide_true, Bool.and_self, true_and]
        exact ⟨Or.inl, fun h => h.elim id fun h => h ▸ this⟩
    · simp [hf, hl]
  · simp [hf]

/-- the simulation between `stats` and the restorer over the nodes `all` of one snapshot; `z` is the size
    before the snapshot. The indices agree on keys of hard-link groups only: `stats` also enters special nodes. -/
def Sim (all : List Meta) (z : Nat) (s : St) (r : RSt) : Prop :=
  s.size = z + r.bytes ∧ ∀ k, GroupKey all k → (k ∈ s.idx ↔ k ∈ r.idx)

theorem wf_unfold (all : List Meta) (h : wf all = true) :
    (∀ n ∈ all, n.type ≠ .file → n.size = 0) ∧
    (∀ n ∈ all, n.type = .file → n.links = 0 → n.inode = 0) ∧
    (∀ n ∈ all, grouped n = true → n.inode ≠ 0) ∧
    (∀ n ∈ all, n.type ≠ .file → n.type ≠ .dir → n.links ≠ 1 → ∀ k, GroupKey all k → key n ≠ k) := by
  simp only [wf, Bool.and_eq_true, List.all_eq_true] at h
  obtain ⟨⟨⟨h1, h2⟩, h3⟩, h4⟩ := h
  refine ⟨fun n hn ht => ?_, fun n hn ht hl => ?_, fun n hn hg => ?_, fun n hn ht hd hl k ⟨f, hf, hg, hk⟩ => ?_⟩
  · simpa [ht] using h1 n hn
  · simpa [ht, hl] using h2 n hn
  · have := h3 n hn
    rw [show (n.type == .file && decide (n.links > 1)) = true from hg] at this
    simpa using this
  · have := h4 n hn
    simp only [beq_eq_false_iff_ne.mpr ht, beq_eq_false_iff_ne.mpr hd, beq_eq_false_iff_ne.mpr hl, Bool.false_or,
      List.all_eq_true] at this
    have := this f hf
    rw [show (f.type == .file && decide (f.links > 1)) = true from hg] at this
    subst hk
    simpa using this

theorem step_sim (all : List Meta) (hwf : wf all = true) (n : Meta) (hn : n ∈ all) (z : Nat) (s : St) (r : RSt)
    (h : Sim all z s r) : Sim all z (statsNode s n) (restoreNode r n) := by
  obtain ⟨sizeless, noLinksNoInode, groupInode, specialApart⟩ := wf_unfold all hwf
  obtain ⟨hs, hi⟩ := h
  have hgr : grouped n = true ↔ n.type = .file ∧ n.links > 1 := by simp [grouped]
  refine ⟨?_, fun k hk => ?_⟩
  · rw [statsNode_size, restoreNode_bytes, hs, Nat.add_assoc]
    by_cases hf : n.type = .file
    · -- a regular file: both add its size, or both find its key in their index
      suffices e : ((n.links == 1 || n.type == .dir) || (!idxHas s.idx (key n) || n.inode == 0)) =
          (n.type == .file && (!grouped n || !idxHas r.idx (key n))) by rw [e]
      by_cases hg : grouped n = true
      · have e : idxHas s.idx (key n) = idxHas r.idx (key n) :=
          Bool.eq_iff_iff.mpr (by rw [idxHas_iff, idxHas_iff]; exact hi _ ⟨n, hn, hg, rfl⟩)
        have hl : (n.links == 1) = false := beq_eq_false_iff_ne.mpr (Nat.ne_of_gt (hgr.mp hg).2)
        -- several links and an inode: both sides ask their index, and the indices agree on the key
        simp [hf, hg, e, hl, beq_eq_false_iff_ne.mpr (groupInode n hn hg)]
      · by_cases hl : n.links = 1
        · simp [hf, hg, hl]
        · -- no link count: no inode either, so `stats` adds the size as the restorer does
          have : n.links = 0 := by have := mt (fun h => hgr.mpr ⟨hf, h⟩) hg; omega
          simp [hf, hg, noLinksNoInode n hn hf this]
    · rw [sizeless n hn hf, ite_self, ite_self]
  · rw [mem_statsNode_idx, mem_restoreNode_idx, hi k hk]
    refine or_congr_right (and_congr_left fun e => ?_)
    subst e
    -- a node that carries the key of a hard-link group and takes part in the bookkeeping of
    -- `stats` is a member of a group
    constructor
    · intro hp
      simp only [Bool.or_eq_false_iff, beq_eq_false_iff_ne, ne_eq] at hp
      by_cases hf : n.type = .file
      · refine hgr.mpr ⟨hf, ?_⟩
        obtain ⟨f, hfm, hg, hkk⟩ := hk
        have h0 : n.links ≠ 0 := fun h0 => groupInode f hfm hg (by
          simp only [key, Prod.mk.injEq] at hkk; exact hkk.1.trans (noLinksNoInode n hn hf h0))
        omega
      · exact absurd rfl (specialApart n hn hf hp.2 hp.1 _ hk)
    · intro hg
      have := hgr.mp hg
      simp [this.1, Nat.ne_of_gt this.2]

/-- **size_eq_restore** (DESIGN §5 C54), one snapshot: for an archiver-shaped tree the size added by `stats` for the
    snapshot is exactly the number of bytes a restore of it writes (hard links once). -/
theorem size_eq_restore (ns : List Meta) (hwf : wf ns = true) (c0 z0 : Nat) :
    (ns.foldl statsNode { count := c0, size := z0, idx := [] }).size
      = z0 + (ns.foldl restoreNode {}).bytes :=
  (List.foldl_rel (r := Sim ns z0) ⟨rfl, fun _ _ => Iff.rfl⟩ fun n hn s r h => step_sim ns hwf n hn z0 s r h).1

theorem groupKey_snoc (before : List Meta) (n : Meta) (k : Key) :
    GroupKey (before ++ [n]) k ↔ GroupKey before k ∨ (grouped n = true ∧ key n = k) := by
  simp only [GroupKey, List.mem_append, List.mem_singleton, or_and_right, exists_or, exists_eq_left]

theorem groupKey_any (before : List Meta) (n : Meta) :
    (before.any fun f => grouped f && key f == key n) = true ↔ GroupKey before (key n) := by
  simp only [GroupKey, List.any_eq_true, Bool.and_eq_true, beq_iff_eq]

/-- the restorer's index holds exactly the keys of the hard-linked files seen so far, so a file
    adds its size iff it is the first of its group -/
theorem restore_grouped (before ns : List Meta) (r : RSt) (hidx : ∀ k, k ∈ r.idx ↔ GroupKey before k) :
    (ns.foldl restoreNode r).bytes = r.bytes + groupedSizeFrom before ns := by
  induction ns generalizing before r with
  | nil => rfl
  | cons n ns ih =>
    rw [List.foldl_cons, groupedSizeFrom, ih (before ++ [n]), restoreNode_bytes, Nat.add_assoc]
    · have : idxHas r.idx (key n) = before.any fun f => grouped f && key f == key n :=
        Bool.eq_iff_iff.mpr (by rw [idxHas_iff, hidx, groupKey_any])
      rw [this]; rfl
    · intro k; rw [mem_restoreNode_idx, groupKey_snoc, hidx]

/-- what a restore writes = total size of the regular files, each hard-link group once -/
theorem restoreBytes_eq_grouped (t : List Tree) : restoreBytes t = groupedSize (flattenL t) := by
  unfold restoreBytes groupedSize
  rw [restore_grouped [] (flattenL t) {} (by simp [GroupKey])]
  simp

theorem statsSnapshot_eq (tot : Totals) (t : List Tree) (hs : shapeL t = true) :
    statsSnapshot tot t =
      if noInvalid (flattenL t) then
        some { snapshots := tot.snapshots + 1,
               count := tot.count + (flattenL t).length,
               size := ((flattenL t).foldl statsNode { count := tot.count, size := tot.size, idx := [] }).size }
      else none := by
  unfold statsSnapshot
  rw [walkL_eq statsNode t _ hs]
  by_cases hv : noInvalid (flattenL t) = true
  · simp [hv, count_exact]
  · simp [hv]

theorem snapshotLoop_spec (snaps : List (List Tree)) (hs : ∀ t ∈ snaps, shapeL t = true) (tot out : Totals)
    (h : snaps.foldlM statsSnapshot tot = some out) :
    out.snapshots = tot.snapshots + snaps.length ∧
    out.count = tot.count + (snaps.map (fun t => (flattenL t).length)).sum ∧
    (∀ t ∈ snaps, noInvalid (flattenL t) = true) ∧
    ((∀ t ∈ snaps, wf (flattenL t) = true) → out.size = tot.size + (snaps.map restoreBytes).sum) := by
  induction snaps generalizing tot with
  | nil => simp at h; subst h; simp
  | cons t ts ih =>
    simp only [List.foldlM_cons] at h
    rw [statsSnapshot_eq tot t (hs t List.mem_cons_self)] at h
    by_cases hv : noInvalid (flattenL t) = true
    · simp only [hv, if_true, Option.bind_eq_bind, Option.bind_some] at h
      obtain ⟨hsnap, hcount, hvalid, hsize⟩ := ih (fun t' ht' => hs t' (List.mem_cons_of_mem _ ht')) _ h
      refine ⟨?_, ?_, ?_, ?_⟩
      · simp only [hsnap, List.length_cons]; omega
      · simp only [hcount, List.map_cons, List.sum_cons]; omega
      · intro t' ht'
        rcases List.mem_cons.mp ht' with rfl | h'
        · exact hv
        · exact hvalid t' h'
      · intro hw
        rw [hsize (fun t' ht' => hw t' (List.mem_cons_of_mem _ ht'))]
        simp only [List.map_cons, List.sum_cons]
        rw [size_eq_restore _ (hw t List.mem_cons_self)]
        unfold restoreBytes; omega
    · simp [hv] at h

/-- **runStats_spec** (C54). Whenever `stats --mode restore-size` succeeds on snapshots whose trees
    have directory shape, its output satisfies the executable statement of the property: number of
    snapshots, number of entries, and for archiver-shaped trees the total size equals the bytes a
    restore of all selected snapshots writes. -/
theorem runStats_spec (snaps : List (List Tree)) (hs : ∀ t ∈ snaps, shapeL t = true) (out : Totals)
    (h : runStats snaps = some out) : specOK snaps out = true := by
  obtain ⟨hsnap, hcount, _, hsize⟩ := snapshotLoop_spec snaps hs {} out h
  simp only [specOK, Bool.and_eq_true, beq_iff_eq, Bool.or_eq_true, Bool.not_eq_true']
  refine ⟨⟨by simpa using hsnap, by simpa using hcount⟩, ?_⟩
  by_cases hw : ∀ t ∈ snaps, wf (flattenL t) = true
  · right; simpa using hsize hw
  · left
    rw [Bool.eq_false_iff]
    intro hc
    exact hw (List.all_eq_true.mp hc)

/-- the command fails only because of a node of invalid type (the walker's check) -/
theorem runStats_total (snaps : List (List Tree)) (hs : ∀ t ∈ snaps, shapeL t = true)
    (hv : ∀ t ∈ snaps, noInvalid (flattenL t) = true) : ∃ out, runStats snaps = some out := by
  unfold runStats
  suffices h : ∀ tot : Totals, ∃ out, snaps.foldlM statsSnapshot tot = some out from h {}
  induction snaps with
  | nil => intro tot; exact ⟨tot, rfl⟩
  | cons t ts ih =>
    intro tot
    simp only [List.foldlM_cons]
    rw [statsSnapshot_eq tot t (hs t List.mem_cons_self), hv t List.mem_cons_self]
    simp only [if_true, Option.bind_eq_bind, Option.bind_some]
    exact ih (fun t' ht' => hs t' (List.mem_cons_of_mem _ ht')) (fun t' ht' => hv t' (List.mem_cons_of_mem _ ht')) _

/-- The hypothesis `wf` cannot be dropped: two regular files without link count but with the same
    inode are counted once by `stats` and written twice by a restore (such nodes are not produced by
    the archiver: on Unix every file has links ≥ 1, on Windows inode = 0). -/
theorem wf_needed :
    let f : Meta := { name := [97], type := .file, size := 5, links := 0, inode := 7 }
    let g : Meta := { name := [98], type := .file, size := 5, links := 0, inode := 7 }
    runStats [[.mk f [], .mk g []]] = some { snapshots := 1, count := 2, size := 5 } ∧
    restoreBytes [.mk f [], .mk g []] = 10 := by decide

/-- T1 (regenerated from cmd/restic/cmd_stats.go): `statsWalkSnapshot` creates the hard-link index
    itself (so it is fresh for every snapshot) before it walks the tree. -/
theorem fresh_index_per_snapshot :
    Restic.Gen.statsWalkSnapshot_calls.idxOf "data.NewHardlinkIndex" <
      Restic.Gen.statsWalkSnapshot_calls.idxOf "walker.Walk" ∧
    "walker.Walk" ∈ Restic.Gen.statsWalkSnapshot_calls := by decide +kernel

/-- a snapshot with a hard-link pair (a, b), a plain file, a directory with a symlink and a fifo -/
def exTree : List Tree :=
  [ .mk { name := [97], type := .file, size := 10, links := 2, inode := 5, device := 1 } [],
    .mk { name := [98], type := .file, size := 10, links := 2, inode := 5, device := 1 } [],
    .mk { name := [99], type := .file, size := 3, links := 1, inode := 6 } [],
    .mk { name := [100], type := .dir, inode := 9 }
      [ .mk { name := [101], type := .symlink, links := 1, inode := 11 } [],
        .mk { name := [102], type := .fifo, inode := 12, device := 1 } [] ] ]

example : shapeL exTree = true ∧ wf (flattenL exTree) = true := by decide +kernel
example : runStats [exTree, exTree] = some { snapshots := 2, count := 12, size := 26 } := by decide +kernel
example : restoreBytes exTree = 13 ∧ groupedSize (flattenL exTree) = 13 := by decide +kernel
example : runStats [[.mk { name := [97], type := .invalid } []]] = none := by decide +kernel

end Restic.Props.C54
