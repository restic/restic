import Restic.Model.Secrecy
import Restic.Gen.Source
/-!
# C04 — Repository contents leak no plaintext and never reuse a nonce

PARTIAL BY NATURE. Computational secrecy of AES-CTR and the quality of `crypto/rand` cannot be
expressed here. What is proved, for every sequence of write operations of the symbolic model
(`Restic.Model.Secrecy`): every payload handed to the backend is built from sealed terms, public
framing and nonces only (`stored_sealed`), every `Seal` call consumes its own fresh draw of the
nonce supply (`nonce_fresh`), no draw occurs in two different stored objects (`stored_nonces_nodup`),
and every seal is stored right behind the nonce it was made with (`stored_well_framed`).

The tie to the code is T1: for each of the four functions that call `.Seal(` the regenerated call
list shows exactly one `crypto.NewRandomNonce` before exactly one `Seal`, `NewRandomNonce` reads
`crypto/rand`, and each backend `Save` of the package comes after the seal / finalize step. (That
these four are ALL sealing sites is checked by the correspondence run's nonce scan only: no
extractor lists the call sites of a method across the source tree.)
-/
namespace Restic.Props.C04
open Restic.Model.Secrecy

/-- each sealing function draws exactly one fresh nonce and seals exactly once, in this order -/
theorem seal_sites_fresh_nonce :
    (let c := Restic.Gen.repo_saveAndEncrypt_calls
     c.count "crypto.NewRandomNonce" = 1 ∧ c.count "r.key.Seal" = 1 ∧
     c.idxOf "crypto.NewRandomNonce" < c.idxOf "r.key.Seal" ∧ c.idxOf "r.key.Seal" < c.idxOf "pm.SaveBlob") ∧
    (let c := Restic.Gen.repo_saveUnpacked_calls
     c.count "crypto.NewRandomNonce" = 1 ∧ c.count "r.key.Seal" = 1 ∧
     c.idxOf "crypto.NewRandomNonce" < c.idxOf "r.key.Seal" ∧ c.idxOf "r.key.Seal" < c.idxOf "r.be.Save" ∧
     c.count "r.be.Save" = 1) ∧
    (let c := Restic.Gen.pack_Finalize_calls
     c.count "crypto.NewRandomNonce" = 1 ∧ c.count "p.k.Seal" = 1 ∧
     c.idxOf "crypto.NewRandomNonce" < c.idxOf "p.k.Seal" ∧ c.idxOf "p.k.Seal" < c.idxOf "p.wr.Write") ∧
    (let c := Restic.Gen.repo_AddKey_calls
     c.count "crypto.NewRandomNonce" = 1 ∧ c.count "newkey.user.Seal" = 1 ∧
     c.idxOf "crypto.NewRandomNonce" < c.idxOf "newkey.user.Seal" ∧
     c.idxOf "newkey.user.Seal" < c.idxOf "s.be.Save" ∧ c.count "s.be.Save" = 1) := by decide +kernel

/-- the calls strictly between the FIRST `a` and the FIRST `b`; each occurs once where this is used
    (`seal_sites_fresh_nonce`) -/
def between (c : List String) (a b : String) : List String :=
  ((c.drop (c.idxOf a + 1)).take (c.idxOf b - c.idxOf a - 1))

/-- between the draw of the nonce and its use nothing is called that could touch it: only the
    allocation of the output buffer and the `append` that copies the nonce in front of it
    (a `copy`, a second draw or any helper in between makes this fail) -/
theorem nonce_untouched_between_draw_and_seal :
    between Restic.Gen.repo_saveAndEncrypt_calls "crypto.NewRandomNonce" "r.key.Seal" =
      ["len", "crypto.CiphertextLength", "make", "append"] ∧
    between Restic.Gen.repo_saveUnpacked_calls "crypto.NewRandomNonce" "r.key.Seal" = ["append"] ∧
    between Restic.Gen.pack_Finalize_calls "crypto.NewRandomNonce" "p.k.Seal" = ["append"] ∧
    between Restic.Gen.repo_AddKey_calls "crypto.NewRandomNonce" "newkey.user.Seal" =
      ["len", "crypto.CiphertextLength", "make", "append"] := by decide +kernel

/-- a nonce is 16 bytes of `crypto/rand`, nothing else -/
theorem nonce_from_rand : Restic.Gen.crypto_NewRandomNonce_calls = ["make", "rand.Read", "panic"] := by decide +kernel

/-- a pack is uploaded only after `Finalize` sealed its header; `Packer.Add` seals nothing: it
    writes what it is given (the ciphertext produced by `saveAndEncrypt`) -/
theorem pack_upload_after_finalize :
    (let c := Restic.Gen.repo_savePacker_calls
     c.idxOf "p.Packer.Finalize" < c.idxOf "r.be.Save" ∧ c.count "r.be.Save" = 1) ∧
    (∀ s ∈ Restic.Gen.pack_Add_calls, s ≠ "p.k.Seal" ∧ s ≠ "crypto.NewRandomNonce") := by decide +kernel

theorem safe_foldr (l : List Term) (z : Term) (hl : ∀ t ∈ l, t.safe = true) (hz : z.safe = true) :
    (l.foldr Term.cat z).safe = true := by
  induction l with
  | nil => exact hz
  | cons a as ih =>
    simp only [List.foldr_cons, Term.safe, Bool.and_eq_true]
    exact ⟨hl a (List.mem_cons_self ..), ih (fun t ht => hl t (List.mem_cons_of_mem _ ht))⟩

/-- Both invariants below have one shape: `P` of every stored payload, `Q` of every blob waiting in
    the packer. A run keeps such a pair as soon as the four kinds of object the write paths build
    have it (`Q`: a sealed blob; `P`: a finalized pack, an unpacked file, a key file); a re-uploaded
    config is a payload that was stored before. -/
theorem stored_all (P Q : Term → Prop)
    (hblob : ∀ n d c, Q (sealWithNonce .master n (encodeData d c)))
    (hpack : ∀ (l : List Term) n hd, (∀ t ∈ l, Q t) →
      P (l.foldr Term.cat (.cat (sealWithNonce .master n (.plain hd)) (.pub []))))
    (hunp : ∀ n d c, P (sealWithNonce .master n (encodeData d c)))
    (hkey : ∀ info u n mk, P (.cat (.pub info) (sealWithNonce (.user u) n (.enc (.plain mk)))))
    (ops : List Op) : ∀ t ∈ (run ops).stored, P t := by
  have snoc {R : Term → Prop} {l : List Term} {a : Term} (hl : ∀ t ∈ l, R t) (ha : R a) :
      ∀ t ∈ l ++ [a], R t :=
    fun t ht => (List.mem_append.mp ht).elim (hl t) fun e => List.mem_singleton.mp e ▸ ha
  refine (List.foldlRecOn ops step (b := {}) (motive := fun s => (∀ t ∈ s.stored, P t) ∧ ∀ t ∈ s.packer, Q t)
    ⟨fun _ h => (nomatch h), fun _ h => (nomatch h)⟩ fun s h op _ => ?_).1
  cases op with
  | saveBlob d c => exact ⟨h.1, snoc h.2 (hblob ..)⟩
  | finalizePack hd => exact ⟨snoc h.1 (hpack _ _ _ h.2), fun _ ht => nomatch ht⟩
  | saveUnpacked d c => exact ⟨snoc h.1 (hunp ..), h.2⟩
  | addKey info u mk => exact ⟨snoc h.1 (hkey ..), h.2⟩
  | resaveConfig i =>
    simp only [step]
    split
    · rename_i hi
      exact ⟨snoc h.1 (h.1 _ (List.mem_of_getElem? hi)), h.2⟩
    · exact h

/-- **Everything handed to the backend is sealed**: in every payload of every operation sequence,
    user plaintext (`plain`) occurs only inside `Seal`; outside there is public framing, nonces,
    and — in key files — the informational fields. -/
theorem stored_sealed (ops : List Op) : ∀ t ∈ (run ops).stored, t.safe = true :=
  stored_all (·.safe = true) (·.safe = true) (fun _ _ _ => rfl) (fun l _ _ hl => safe_foldr l _ hl rfl)
    (fun _ _ _ => rfl) (fun _ _ _ _ => rfl) ops

/-- the k-th seal uses the k-th draw of the supply -/
theorem seals_eq_range (ops : List Op) : (run ops).seals = List.range (run ops).next := by
  refine List.foldlRecOn ops step (b := {}) (motive := fun s => s.seals = List.range s.next) rfl fun s h op _ => ?_
  cases op
  case resaveConfig i => simp only [step]; split <;> simp [h]
  all_goals simp only [step, h, List.range_succ]

/-- **Every `Seal` call gets its own draw.** -/
theorem nonce_fresh (ops : List Op) : (run ops).seals.Nodup := by
  rw [seals_eq_range]; exact List.nodup_range

theorem sealNonces_foldr (l : List Term) (z : Term) :
    (l.foldr Term.cat z).sealNonces = l.flatMap Term.sealNonces ++ z.sealNonces := by
  induction l with
  | nil => simp
  | cons a as ih => simp [Term.sealNonces, ih]

/-- operation sequences without the config re-upload of `upgrade_repo` -/
def NoResave (ops : List Op) : Prop := ∀ op ∈ ops, ∀ i, op ≠ Op.resaveConfig i

def allNonces (s : St) : List Nat := s.stored.flatMap Term.sealNonces ++ s.packer.flatMap Term.sealNonces

theorem step_nonces (s : St) (op : Op) (hop : ∀ i, op ≠ Op.resaveConfig i)
    (h : (allNonces s).Perm (List.range s.next)) :
    (allNonces (step s op)).Perm (List.range (step s op).next) := by
  have comm (a b c : List Nat) : (a ++ c ++ b).Perm (a ++ b ++ c) := by
    rw [List.append_assoc, List.append_assoc]
    exact List.Perm.append_left _ List.perm_append_comm
  cases op
  case resaveConfig i => exact absurd rfl (hop i)
  all_goals simp only [step, allNonces, sealWithNonce, Term.sealNonces, sealNonces_foldr,
    List.flatMap_append, List.flatMap_cons, List.flatMap_nil, List.range_succ, List.nil_append,
    List.append_nil]
  -- the new draw comes last in the collection
  case saveBlob | finalizePack => rw [← List.append_assoc]; exact h.append_right _
  -- it comes between the stored objects' and the packer's
  case saveUnpacked | addKey => exact (comm ..).trans (h.append_right _)

/-- **No nonce is reused across the repository**: collecting the nonce of every seal in every
    stored object (and in the packer's pending blobs) gives each draw exactly once. -/
theorem stored_nonces_nodup (ops : List Op) (h : NoResave ops) : (allNonces (run ops)).Nodup :=
  (List.foldlRecOn ops step (b := {}) (motive := fun s => (allNonces s).Perm (List.range s.next)) (by simp [allNonces])
    fun s hs op hop => step_nonces s op (h op hop) hs).nodup_iff.mpr List.nodup_range

/-- the only operation that stores an old nonce again re-uploads an identical payload -/
theorem resave_is_copy (s : St) (i : Nat) (t : Term) (h : s.stored[i]? = some t) :
    (step s (.resaveConfig i)).stored = s.stored ++ [t] ∧ (step s (.resaveConfig i)).seals = s.seals := by
  simp [step, h]

theorem wellFramed_sealWithNonce (k : KeyRef) (n : Nat) (b : Term) : (sealWithNonce k n b).wellFramed = true := by
  simp [sealWithNonce, Term.wellFramed]

/-- the clauses of `Term.wellFramed` overlap: behind a framed seal the one for `cat a b` applies -/
theorem wellFramed_cat_seal (k : KeyRef) (n : Nat) (b r : Term) :
    (Term.cat (sealWithNonce k n b) r).wellFramed = r.wellFramed := by
  rw [sealWithNonce, Term.wellFramed, ← sealWithNonce, wellFramed_sealWithNonce, Bool.true_and]
  nofun

theorem wellFramed_foldr (l : List Term) (z : Term) (hl : ∀ t ∈ l, ∃ k n b, t = sealWithNonce k n b)
    (hz : z.wellFramed = true) : (l.foldr Term.cat z).wellFramed = true := by
  induction l with
  | nil => exact hz
  | cons a as ih =>
    obtain ⟨k, n, b, rfl⟩ := hl a (List.mem_cons_self ..)
    rw [List.foldr_cons, wellFramed_cat_seal]
    exact ih fun t ht => hl t (List.mem_cons_of_mem _ ht)

/-- every stored seal sits right behind the nonce it was made with -/
theorem stored_well_framed (ops : List Op) : ∀ t ∈ (run ops).stored, t.wellFramed = true :=
  stored_all (·.wellFramed = true) (fun t => ∃ k n b, t = sealWithNonce k n b)
    (fun _ _ _ => ⟨_, _, _, rfl⟩)
    (fun l _ _ hl => wellFramed_foldr l _ hl (wellFramed_cat_seal ..))
    (fun _ _ _ => wellFramed_sealWithNonce ..)
    (fun _ _ _ _ => by simp [Term.wellFramed, wellFramed_sealWithNonce]) ops

example : (run [.saveBlob [1] true, .saveBlob [2] false, .finalizePack [9], .saveUnpacked [3] true,
    .addKey [7] 0 [8], .resaveConfig 1]).seals = [0, 1, 2, 3, 4] := by decide +kernel
example : (run [.saveBlob [1] true, .saveBlob [2] false, .finalizePack [9]]).stored =
    [.cat (sealWithNonce .master 0 (.enc (.plain [1]))) (.cat (sealWithNonce .master 1 (.plain [2]))
      (.cat (sealWithNonce .master 2 (.plain [9])) (.pub [])))] := by decide +kernel
-- a (hypothetical) write path that stores data unsealed is NOT safe: the predicate is not vacuous
example : (Term.cat (.nonce 0) (.plain [1])).safe = false := by decide +kernel
example : specOK 0 [[1], [2]] = true ∧ specOK 0 [[1], [1]] = false ∧ specOK 1 [] = false := by decide +kernel

end Restic.Props.C04
