import Restic.Model.LockRefresh
import Restic.Props.C12
import Restic.Gen.Source
import Restic.Gen.Consts
/-!
# C13 — Lock holders stop before their lock can be considered stale

`Restic.Model.LockRefresh` for all schedules; the refresh-without-gap statement is proved on the C12 model.
-/
namespace Restic.Props.C13
open Restic.Model.LockRefresh

/-- invariant of the non-cancelled holder, for the fixed monitor select -/
structure InvB (P : Params) (s : St) : Prop where
  /-- `a1`–`a5`: no stamp in the future -/
  a1 : s.opStart ≤ s.now
  a2 : s.monAt ≤ s.now
  a3 : s.fileTime ≤ s.now
  a4 : s.lastM ≤ s.now
  a5 : s.newTime ≤ s.now
  /-- the monitor's stamp is at most `D` after the newest file's (or a wake-up) -/
  b : s.lastM ≤ s.fileTime + P.D ∨ s.lastM ≤ s.wake + P.D
  /-- conjuncts 1–3 of `mayTick`; `notifying` counts since the fixed select always receives `refreshed` -/
  c1 : s.rl = .refreshing ∨ s.rl = .forced1 ∨ s.rl = .forced2 ∨ s.rl = .notifying ∨ s.rl = .reporting true →
        s.now ≤ s.opStart + P.D
  /-- `d1`–`d4` (from `rlStartRefresh`, `rlRefreshOk`, `forceCreate`, `forceAdopt` in turn): the file being
      written is stamped no earlier than the operation began (or a wake-up), so by `c1` `now ≤ fileTime + D`
      when `notify`/`report` sets `lastM := now`: `b` again. The second halves keep `b` across
      `fileTime := newTime` -/
  d1 : s.rl = .refreshing → (s.newTime = s.opStart ∨ s.opStart ≤ s.wake) ∧ s.fileTime ≤ s.newTime
  d2 : s.rl = .notifying → (s.fileTime = s.opStart ∨ s.opStart ≤ s.wake)
  d3 : s.rl = .forced2 → (s.opStart ≤ s.newTime ∨ s.opStart ≤ s.wake) ∧ s.fileTime ≤ s.newTime
  d4 : s.rl = .reporting true → (s.opStart ≤ s.fileTime ∨ s.opStart ≤ s.wake)
  /-- `mayTick` and `inv_bound` read `waiting` off `mon`; `c1`, `d4`, `f` read `rl` -/
  e1 : s.mon = .waiting ↔ (s.rl = .forced1 ∨ s.rl = .forced2 ∨ s.rl = .reporting true)
  /-- `e2`, `e3`: leaving, and reporting a failure, need a cancelled context -/
  e2 : s.mon ≠ .done
  e3 : s.rl ≠ .done ∧ s.rl ≠ .reporting false
  /-- from `rlRecvForce`: under `Freeze` the holder is not `active` -/
  f : s.rl = .forced1 ∨ s.rl = .forced2 → s.frozen = true
  /-- the fourth conjunct of `mayTick` -/
  g : s.mon = .idle → s.now ≤ s.lastM + P.R + P.p ∨ s.now ≤ s.wake + P.p
  /-- `g` when the request was posted (`monPollDue`) -/
  h : s.mon = .requesting → s.monAt ≤ s.lastM + P.R + P.p ∨ s.monAt ≤ s.wake + P.p
  /-- a refresh beside a posted request began before it (guard of `rlStartRefresh`): `c1` then gives
      `now ≤ monAt + D`, as `j` does at the select -/
  i : s.mon = .requesting → s.rl = .refreshing ∨ s.rl = .notifying → s.opStart ≤ s.monAt
  /-- the last conjunct of `mayTick` -/
  j : s.mon = .requesting → s.rl = .idle → s.now ≤ s.monAt + P.D

def Inv (P : Params) (s : St) : Prop := s.cancelled = true ∨ InvB P s

theorem init_inv (P : Params) (t0 t1 : Nat) (h0 : t0 ≤ t1) (h1 : t1 ≤ t0 + P.D) : Inv P (init t0 t1) :=
  .inr {
    a1 := Nat.le_refl _, a2 := Nat.le_refl _, a3 := h0, a4 := Nat.le_refl _, a5 := h0
    b := .inl h1
    c1 := nofun, d1 := nofun, d2 := nofun, d3 := nofun, d4 := nofun
    e1 := ⟨nofun, nofun⟩, e2 := nofun, e3 := ⟨nofun, nofun⟩
    f := nofun
    g := fun _ => .inl (Nat.le_add_right_of_le (Nat.le_add_right _ _))
    h := nofun, i := nofun, j := nofun }

theorem step_cancelled (P : Params) (s s' : St) (a : Act) (st : step P s a = some s')
    (hc : s.cancelled = true) : s'.cancelled = true := by
  revert st
  fun_cases step P s a <;> intro st <;> cases st <;> simp [hc]

theorem notifyEnabled_of_fixed {P : Params} (hfix : P.fixed = true) {s : St} (h : s.mon ≠ .done) :
    notifyEnabled P s = true := by
  cases hm : s.mon <;> simp_all [notifyEnabled]

/-- the clauses bounding `now` from above are each a conjunct of `mayTick` (the third reads `mon`: `e1`) -/
theorem tick_invB {P : Params} (hfix : P.fixed = true) {s : St} (h : InvB P s) (hg : mayTick P s = true) :
    InvB P { s with now := s.now + 1 } := by
  simp only [mayTick, Bool.and_eq_true, Bool.or_eq_true, Bool.not_eq_true', decide_eq_true_eq,
    Bool.and_eq_false_iff, Bool.or_eq_false_iff, beq_eq_false_iff_ne, ne_eq,
    notifyEnabled_of_fixed hfix h.e2] at hg
  obtain ⟨⟨⟨⟨hop, hnotify⟩, hreport⟩, hidle⟩, hreq⟩ := hg
  have le {x : Nat} : x ≤ s.now → x ≤ s.now + 1 := Nat.le_succ_of_le
  exact { h with
    a1 := le h.a1, a2 := le h.a2, a3 := le h.a3, a4 := le h.a4, a5 := le h.a5
    c1 := fun hr => by have := h.e1; show s.now < _; grind
    g := fun hm => by show s.now < _ ∨ s.now < _; grind
    j := fun hm hr => by show s.now < _; grind }

/-- every clock restarts at the wake-up: each timing clause holds by its `wake` alternative -/
theorem standby_invB {P : Params} {s : St} (h : InvB P s) (k : Nat) :
    InvB P { s with now := s.now + k, wake := s.now + k, opStart := s.now + k, monAt := s.now + k } :=
  have le {x : Nat} (hx : x ≤ s.now) : x ≤ s.now + k := Nat.le_add_right_of_le hx
  { h with
    a1 := Nat.le_refl _, a2 := Nat.le_refl _, a3 := le h.a3, a4 := le h.a4, a5 := le h.a5
    b := .inr (Nat.le_add_right_of_le (le h.a4))
    c1 := fun _ => Nat.le_add_right _ _
    d1 := fun hr => ⟨.inr (Nat.le_refl _), (h.d1 hr).2⟩
    d2 := fun _ => .inr (Nat.le_refl _)
    d3 := fun hr => ⟨.inr (Nat.le_refl _), (h.d3 hr).2⟩
    d4 := fun _ => .inr (Nat.le_refl _)
    g := fun _ => .inr (Nat.le_add_right _ _)
    h := fun _ => .inr (Nat.le_add_right _ _)
    i := fun _ _ => Nat.le_refl _
    j := fun _ _ => Nat.le_add_right _ _ }

/-- `lock.refresh` fails (`rlRefreshFail`; `rlRefreshHalf` when only removing the old file failed):
    `refreshLocks` is back at its select, nobody is told; the newest file is the old one or the replacement -/
theorem refresh_err_invB {P : Params} {s : St} (h : InvB P s) (hr : s.rl = .refreshing) (f : Nat) (pr : Bool)
    (hf : f = s.fileTime ∨ f = s.newTime) : InvB P { s with rl := .idle, fileTime := f, present := pr } := by
  cases h; grind -ring -linarith only [InvB]

/-- the monitor receives `refreshed` at either of its selects -/
theorem notify_invB {P : Params} {s : St} (h : InvB P s) (hr : s.rl = .notifying) :
    InvB P { s with rl := .idle, lastM := s.now, mon := .idle } := by
  cases h; grind -ring -linarith only [InvB]

theorem step_invB (P : Params) (hfix : P.fixed = true) (s s' : St) (a : Act) (h : InvB P s)
    (hc' : s'.cancelled = false) (st : step P s a = some s') : InvB P s' := by
  -- where no lemma is named: `cases h`, then `only [InvB]` for grind to split the goal by `InvB.mk` (letting it
  -- take `h` apart too is slower); `InvB` says which action sets up which clause. Cancelling contradicts `hc'`
  cases a with
  | standby k => cases st; exact standby_invB h k
  | tick =>
    obtain ⟨hg, hs⟩ := Option.ite_none_right_eq_some.mp st
    cases hs
    exact tick_invB hfix h hg
  -- `present` and `cancelled` do not occur in `InvB`
  | removeByOther | unlock => cases st; exact { h with }
  | rlRefreshHalf =>
    obtain ⟨hg, hs⟩ := Option.ite_none_right_eq_some.mp st
    cases hs; exact refresh_err_invB h hg _ _ (.inr rfl)
  | rlRefreshFail =>
    obtain ⟨hg, hs⟩ := Option.ite_none_right_eq_some.mp st
    cases hs; exact refresh_err_invB h hg _ _ (.inl rfl)
  | notify =>
    obtain ⟨hg, hs⟩ := Option.ite_none_right_eq_some.mp st
    cases hm : s.mon with
    | idle => rw [hm] at hs; cases hs; exact hm ▸ notify_invB h hg.1
    | requesting => rw [hm] at hs; cases hs; exact notify_invB h hg.1
    | waiting | done => rw [hm] at hs; cases hs; cases h; grind -ring -linarith only [InvB]
  | report =>
    simp only [step] at st
    split at st
    · split at st <;> cases st <;> cases h <;> grind -ring -linarith only [InvB]
    · cases st
  | rlStartRefresh | rlRefreshOk | monPollDue | rlRecvForce | forceCreate | forceAdopt | forceFail | rlExit | monExit =>
    obtain ⟨hg, hs⟩ := Option.ite_none_right_eq_some.mp st
    cases hs; cases h; grind -ring -linarith only [InvB]

theorem step_inv (P : Params) (hfix : P.fixed = true) (s s' : St) (a : Act) (h : Inv P s)
    (st : step P s a = some s') : Inv P s' := by
  cases hc' : s'.cancelled
  · right
    rcases h with h | h
    · have := step_cancelled P s s' a st h; rw [hc'] at this; cases this
    · exact step_invB P hfix s s' a h hc' st
  · exact Or.inl hc'

theorem run_inv (P : Params) (hfix : P.fixed = true) : ∀ (acts : List Act) (s s' : St),
    Inv P s → run P s acts = some s' → Inv P s'
  | [], s, s', h, hr => by simp only [run] at hr; injection hr with hr; subst hr; exact h
  | a :: as, s, s', h, hr => by
    simp only [run] at hr
    cases h1 : step P s a with
    | none => rw [h1] at hr; cases hr
    | some s1 => rw [h1] at hr; exact run_inv P hfix as s1 s' (step_inv P hfix s s1 a h h1) hr

theorem rl_of_requesting {P : Params} {s : St} (h : InvB P s) (hmon : s.mon = .requesting) :
    s.rl = .idle ∨ s.rl = .refreshing ∨ s.rl = .notifying := by
  have := h.e1; have := h.e3
  rcases hr : s.rl with _ | _ | _ | _ | _ | (_ | _) | _ <;> simp_all

/-- `b` bounds `lastM` by the newest file's stamp (or the wake-up); the clause of the monitor's control state
    bounds `now` by `lastM`: through `monAt` while a request is posted, through `opStart` and the file itself
    while a forced refresh is reported -/
theorem inv_bound (P : Params) (s : St) (h : Inv P s) (ha : active s = true) :
    s.now ≤ s.fileTime + P.R + P.p + 2 * P.D ∨ s.now ≤ s.wake + P.R + P.p + 2 * P.D := by
  simp only [active, Bool.and_eq_true, Bool.not_eq_true'] at ha
  rcases h with h | I
  · rw [ha.1] at h; cases h
  have hb := I.b
  cases hmon : s.mon with
  | idle => have := I.g hmon; omega
  | requesting =>
    have := I.h hmon
    have : s.now ≤ s.monAt + P.D := by
      rcases rl_of_requesting I hmon with hr | hr | hr
      · exact I.j hmon hr
      · have := I.i hmon (.inl hr); have := I.c1 (.inl hr); omega
      · have := I.i hmon (.inr hr); have := I.c1 (.inr (.inr (.inr (.inl hr)))); omega
    omega
  | waiting =>
    rcases I.e1.1 hmon with hr | hr | hr
    · have := I.f (.inl hr); rw [ha.2] at this; cases this
    · have := I.f (.inr hr); rw [ha.2] at this; cases this
    · have := I.c1 (.inr (.inr (.inr (.inr hr)))); have := I.d4 hr; omega
  | done => exact absurd hmon I.e2

theorem reach_inv (P : Params) (hfix : P.fixed = true) (t0 t1 : Nat) (h0 : t0 ≤ t1) (h1 : t1 ≤ t0 + P.D)
    (acts : List Act) (s : St) (hr : run P (init t0 t1) acts = some s) : Inv P s :=
  run_inv P hfix acts _ s (init_inv P t0 t1 h0 h1) hr

/-- For every schedule of refresh ticks, refresh failures, lock-file removals by others, standby periods and
    unlock: whenever the holder may still modify the repository (context alive, backend not frozen), its
    newest lock file is at most `R + p + 2D` old — or the host woke up from standby less than that ago. -/
theorem cancel_before_stale (P : Params) (hfix : P.fixed = true) (t0 t1 : Nat) (h0 : t0 ≤ t1)
    (h1 : t1 ≤ t0 + P.D) (acts : List Act) (s : St) (hr : run P (init t0 t1) acts = some s)
    (ha : active s = true) :
    s.now ≤ s.fileTime + P.R + P.p + 2 * P.D ∨ s.now ≤ s.wake + P.R + P.p + 2 * P.D :=
  inv_bound P s (reach_inv P hfix t0 t1 h0 h1 acts s hr) ha

theorem reach_specOK (P : Params) (hfix : P.fixed = true) (t0 t1 : Nat) (h0 : t0 ≤ t1)
    (h1 : t1 ≤ t0 + P.D) (acts : List Act) (s : St) (hr : run P (init t0 t1) acts = some s) :
    specOK P s = true := by
  unfold specOK
  cases ha : active s
  · simp
  · have := cancel_before_stale P hfix t0 t1 h0 h1 acts s hr ha
    simp only [Bool.not_true, Bool.false_or, Bool.or_eq_true, decide_eq_true_eq]
    exact this

/-- If `R + p + 2D + 2·eps ≤ S` then an active holder whose newest lock file was written after the last
    wake-up cannot have that file judged stale (`Time + S < now + 2·eps`, the test of C12's remover). -/
theorem not_judged_stale (P : Params) (hfix : P.fixed = true) (S eps : Nat)
    (ht : P.R + P.p + 2 * P.D + 2 * eps ≤ S) (t0 t1 : Nat) (h0 : t0 ≤ t1)
    (h1 : t1 ≤ t0 + P.D) (acts : List Act) (s : St) (hr : run P (init t0 t1) acts = some s)
    (ha : active s = true) (hw : s.wake ≤ s.fileTime) : ¬ (s.fileTime + S < s.now + 2 * eps) := by
  have := cancel_before_stale P hfix t0 t1 h0 h1 acts s hr ha
  omega

/-- When the forced refresh runs and the holder's lock file has been removed by somebody else, the refresh
    cannot succeed (neither of its existence checks passes), and its failure (`forceFail`) cancels the
    context while the backend is still frozen. -/
theorem removed_lock_detected (P : Params) (hfix : P.fixed = true) (t0 t1 : Nat) (h0 : t0 ≤ t1)
    (h1 : t1 ≤ t0 + P.D) (acts : List Act) (s : St) (hr : run P (init t0 t1) acts = some s)
    (hc : s.cancelled = false) (hf : s.rl = .forced1 ∨ s.rl = .forced2) (hp : s.present = false) :
    step P s .forceCreate = none ∧ step P s .forceAdopt = none ∧
    ∃ s', step P s .forceFail = some s' ∧ s'.cancelled = true ∧ s'.cancelledFrozen = true := by
  rcases reach_inv P hfix t0 t1 h0 h1 acts s hr with h | h
  · rw [hc] at h; cases h
  · have hfz := h.f hf
    refine ⟨by simp [step, hp], by simp [step, hp], ?_⟩
    simp only [step, hf, if_true]
    exact ⟨_, rfl, rfl, hfz⟩

/-- the backend is frozen for as long as the forced refresh runs -/
theorem forced_refresh_frozen (P : Params) (hfix : P.fixed = true) (t0 t1 : Nat) (h0 : t0 ≤ t1)
    (h1 : t1 ≤ t0 + P.D) (acts : List Act) (s : St) (hr : run P (init t0 t1) acts = some s)
    (hf : s.rl = .forced1 ∨ s.rl = .forced2) : active s = false := by
  rcases reach_inv P hfix t0 t1 h0 h1 acts s hr with h | h
  · simp [active, h]
  · simp [active, h.f hf]

/-- refreshLocks leaves only with a cancelled context, and removes the lock file. -/
theorem unlock_on_exit (P : Params) (s s' : St) (st : step P s .rlExit = some s') :
    s'.cancelled = true ∧ s'.present = false ∧ s'.rl = .done := by
  obtain ⟨hg, hs⟩ := Option.ite_none_right_eq_some.mp st
  cases hs; exact ⟨hg.1, rfl, rfl⟩

/-- On the protocol model of C12 (refresh = create the replacement, then remove the old file; T1 fact
    `C12.t1_refresh_create_before_remove`): a holder always has a fresh lock file of its own in the
    repository, also in the middle of a refresh. -/
theorem refresh_no_gap (P : Restic.Model.Lock.Params) (ht : Restic.Props.C12.timingOK P) (now : Nat)
    (excls : List Bool) (acts : List Restic.Model.Lock.Act) (s : Restic.Model.Lock.Sys)
    (h : Restic.Model.Lock.run P (Restic.Model.Lock.init now excls) acts = some s)
    (p : Restic.Model.Lock.Proc) (hp : p ∈ s.procs) (hh : Restic.Model.Lock.holds p = true) :
    ∃ b, Restic.Props.C12.lockFile p = some b ∧ Restic.Model.Lock.filePresent p = true ∧
      Restic.Model.Lock.canJudgeStale P s.now b = false :=
  Restic.Props.C12.holder_has_fresh_file P ht now excls acts s h p hp hh

/-! ### Negation witness for the monitor's select without the `refreshed` case (`fixed = false`)

The monitor posts its force request while refreshLocks is inside a regular refresh; the refresh succeeds,
refreshLocks blocks sending `refreshed`, the monitor blocks sending `forceRefresh`: only `Unlock` gets them
out, nothing refreshes or cancels, and the holder stays active. -/

def unfixedP : Params := { R := 5, p := 1, D := 1, fixed := false }

def deadlockPrefix : List Act :=
  [.tick, .tick, .tick, .tick, .tick, .rlStartRefresh, .monPollDue, .rlRefreshOk]

example : (run unfixedP (init 0 0) deadlockPrefix).map (fun s => (s.rl, s.mon, s.now, s.fileTime, active s)) =
    some (.notifying, .requesting, 5, 5, true) := by decide +kernel

theorem deadlock_tick (s : St) (h1 : s.rl = .notifying) (h2 : s.mon = .requesting) :
    step unfixedP s .tick = some { s with now := s.now + 1 } := by
  simp [step, mayTick, notifyEnabled, h1, h2, unfixedP]

theorem deadlock_run (k : Nat) : ∀ (s : St), s.rl = .notifying → s.mon = .requesting →
    run unfixedP s (List.replicate k .tick) = some { s with now := s.now + k } := by
  induction k with
  | zero => intro s _ _; simp [run]
  | succ k ih =>
    intro s h1 h2
    have := ih { s with now := s.now + 1 } h1 h2
    simp only [List.replicate_succ, run, deadlock_tick s h1 h2, this, Option.some.injEq]
    simp only [Nat.add_assoc, Nat.add_comm 1 k]

theorem run_append (P : Params) : ∀ (l1 l2 : List Act) (s s1 : St), run P s l1 = some s1 →
    run P s (l1 ++ l2) = run P s1 l2 := by
  intro l1 l2
  induction l1 with
  | nil => intro s s1 h; cases h; rfl
  | cons a l ih =>
    intro s s1 h
    simp only [List.cons_append, run] at h ⊢
    cases h2 : step P s a with
    | none => rw [h2] at h; cases h
    | some s2 => rw [h2] at h; exact ih s2 s1 h

def deadSt : St :=
  { now := 5, wake := 0, rl := .notifying, mon := .requesting, cancelled := false, frozen := false,
    cancelledFrozen := false, fileTime := 5, present := true, lastR := 5, lastM := 0, opStart := 5,
    monAt := 5, newTime := 5 }

/-- `cancel_before_stale` fails for the unfixed select: for every `k` a schedule leaves the holder active
    (never suspended) with its newest lock file `k` old. -/
theorem unfixed_violates (k : Nat) : ∃ (acts : List Act) (s : St),
    run unfixedP (init 0 0) acts = some s ∧ active s = true ∧ s.wake = 0 ∧ s.now = s.fileTime + k := by
  have hp : run unfixedP (init 0 0) deadlockPrefix = some deadSt := by decide
  refine ⟨deadlockPrefix ++ List.replicate k .tick, { deadSt with now := deadSt.now + k }, ?_, rfl, rfl, rfl⟩
  rw [run_append _ _ _ _ _ hp]
  exact deadlock_run k deadSt rfl rfl

/-- assumed for the timing statement: monitor poll interval 1 s, operation bound 2 min (ns) -/
def assumedPoll_ns : Nat := 1000000000
def assumedOp_ns : Nat := 120 * 1000000000

/-- the hypothesis of `not_judged_stale` with the regenerated constants (22.5 min + 1 s + 4 min + 2 min ≤
    30 min); and `p + 2D` is within the stall bound `M = refreshInterval` used for C12. -/
theorem timing_gen :
    Restic.Gen.lock_refreshabilityTimeout_ns + assumedPoll_ns + 2 * assumedOp_ns + 2 * (60 * 1000000000)
      ≤ Restic.Gen.lock_staleLockTimeout_ns
    ∧ assumedPoll_ns + 2 * assumedOp_ns ≤ Restic.Gen.lock_refreshInterval_ns
    ∧ Restic.Gen.lock_refreshInterval_ns = Restic.Gen.lock_defaultRefreshInterval_ns := by decide

/-- refreshLocks' deferred exit cancels the context before it removes the lock file; the regular
    refresh and the forced refresh are the calls the model's `rlStartRefresh`/`rlRecvForce` stand for -/
theorem t1_refreshLocks_calls :
    Restic.Gen.lock_refreshLocks_calls.idxOf "unlocker.cancel" < Restic.Gen.lock_refreshLocks_calls.idxOf "lock.unlock"
    ∧ "lock.refresh" ∈ Restic.Gen.lock_refreshLocks_calls
    ∧ "tryRefreshStaleLock" ∈ Restic.Gen.lock_refreshLocks_calls := by decide +kernel

/-- tryRefreshStaleLock, in source order: freeze, `defer` unfreeze, forced refresh, cancel (on failure);
    refreshStaleLock: existence check, create replacement, wait, existence check, adopt -/
theorem t1_forced_refresh_calls :
    Restic.Gen.lock_tryRefreshStaleLock_calls.filter (fun c => c == "freeze.Freeze" || c == "freeze.Unfreeze" || c == "lock.refreshStaleLock" || c == "cancel")
      = ["freeze.Freeze", "freeze.Unfreeze", "lock.refreshStaleLock", "cancel"]
    ∧ Restic.Gen.lock_refreshStaleLock_calls.filter (fun c => c == "l.checkExistence" || c == "l.createReplacementLock" || c == "time.Sleep" || c == "l.adoptReplacementLock")
      = ["l.checkExistence", "l.createReplacementLock", "time.Sleep", "l.checkExistence", "l.adoptReplacementLock"] := by
  decide +kernel

def exP : Params := { R := 5, p := 1, D := 1, fixed := true }

-- a regular refresh, then none for five ticks: the monitor forces a refresh, which succeeds
example : (run exP (init 0 0) [.tick, .tick, .rlStartRefresh, .rlRefreshOk, .notify, .tick, .tick, .tick, .tick, .tick,
    .monPollDue, .rlRecvForce, .forceCreate, .forceAdopt, .report]).map
      (fun s => (s.now, s.fileTime, s.lastM, active s, s.rl, s.mon)) = some (7, 7, 7, true, .idle, .idle) := by decide +kernel

-- the lock file is removed by somebody else: the forced refresh fails and cancels while frozen
example : (run exP (init 0 0) [.removeByOther, .tick, .tick, .tick, .tick, .tick, .monPollDue, .rlRecvForce, .forceFail]).map
      (fun s => (s.cancelled, s.cancelledFrozen, active s)) = some (true, true, false) := by decide +kernel

-- the same schedule that deadlocks the unfixed select is harmless with the fix
example : (run exP (init 0 0) (deadlockPrefix ++ [.notify])).map (fun s => (s.rl, s.mon, s.lastM)) =
    some (.idle, .idle, 5) := by decide +kernel

-- time cannot run away from an active holder: the seventh tick is refused until the monitor has reacted
example : run exP (init 0 0) [.tick, .tick, .tick, .tick, .tick, .tick, .tick] = none := by decide +kernel

end Restic.Props.C13
