import Restic.Proofs.C16_Inv
import Restic.Gen.Source
/-!
# C16 — identical content is stored once per repository

About `Restic.Model.Dedup` (transcription of `Repository.saveBlob`, `MasterIndex.AddPending` and
`storePack` as atomic steps of concurrently running calls). All statements hold for every schedule
(`sched : List Act`, any interleaving of the calls' steps with pack stores by the uploaders), every
multiset of calls (any amount of duplication) and every initial index.
-/
namespace Restic.Props.C16
open Restic.Model.Dedup Restic.Proofs.C16

theorem savers_le_claimers {calls : List Call} {h : Handle} {s : St} (hc : s.threads.map (·.call) = calls)
    (hd : ∀ c ∈ calls, c.dup = false) : savers h s.threads ≤ claimers h s.threads := by
  refine List.countP_mono_left fun t ht hp => ?_
  have hdup : t.call.dup = false := hd _ (hc ▸ List.mem_map_of_mem ht)
  simp only [Bool.and_eq_true, beq_iff_eq] at hp ⊢
  refine ⟨hp.1, ?_⟩
  have hs := hp.2
  cases hpc : t.pc with
  | done k => rwa [saved_done hpc, hdup, Bool.or_false, ← claims_done hpc] at hs
  | start | checked => rw [saved, hpc] at hs; cases hs

/-- For every schedule and every multiset of `saveBlob(h, storeDuplicate=false)`
    calls, `saveAndEncrypt` runs at most once for `h`, and never when `h` is in the loaded index. -/
theorem store_once (idx0 : List Handle) (calls : List Call) (sched : List Act)
    (hd : ∀ c ∈ calls, c.dup = false) (h : Handle) :
    (run idx0 calls sched).saves.count h ≤ 1 ∧ (h ∈ idx0 → (run idx0 calls sched).saves.count h = 0) := by
  have hinv := run_inv idx0 calls h sched
  have hle := savers_le_claimers (h := h) hinv.calls_eq hd
  rw [hinv.saves_eq]
  refine ⟨Nat.le_trans hle hinv.le_one, fun h0 => ?_⟩
  have := hinv.idx0_unclaimed h0
  omega

/-- AddPending succeeds for at most one call per blob, whatever the `storeDuplicate` flags -/
theorem claimed_at_most_once (idx0 : List Handle) (calls : List Call) (sched : List Act) (h : Handle) :
    claimers h (run idx0 calls sched).threads ≤ 1 ∧ (h ∈ idx0 → claimers h (run idx0 calls sched).threads = 0) :=
  ⟨(run_inv idx0 calls h sched).le_one, (run_inv idx0 calls h sched).idx0_unclaimed⟩

theorem allDone_iff {s : St} : allDone s = true ↔ ∀ t ∈ s.threads, ∃ k, t.pc = .done k := by
  simp only [allDone, List.all_eq_true]
  constructor
  · intro h t ht
    have := h t ht
    cases hpc : t.pc with
    | done k => exact ⟨k, rfl⟩
    | start | checked => rw [hpc] at this; cases this
  · intro h t ht
    obtain ⟨k, hk⟩ := h t ht
    simp [hk]

theorem claimed_exactly_once (idx0 : List Handle) (calls : List Call) (sched : List Act)
    (hdone : allDone (run idx0 calls sched) = true) (h : Handle) (hsub : ∃ c ∈ calls, c.h = h) (h0 : h ∉ idx0) :
    claimers h (run idx0 calls sched).threads = 1 := by
  have hinv := run_inv idx0 calls h sched
  obtain ⟨c, hc, hch⟩ := hsub
  rw [← hinv.calls_eq, List.mem_map] at hc
  obtain ⟨t, ht, htc⟩ := hc
  obtain ⟨k, hk⟩ := allDone_iff.mp hdone t ht
  cases k with
  | true =>
    rcases hinv.told t ht (htc ▸ hch) (toldKnown_done hk) with h1 | h1
    · exact h1
    · exact absurd h1 h0
  | false =>
    have h1 := hinv.le_one
    have : 1 ≤ claimers h (run idx0 calls sched).threads := by
      unfold claimers
      exact List.countP_pos_iff.mpr ⟨t, ht, by simp [claims, hk, htc, hch]⟩
    omega

/-- number of calls for `h` that found it known but store it anyway (`storeDuplicate`) -/
def dupKnown (h : Handle) (ts : List Thread) : Nat :=
  ts.countP fun t => t.call.h == h && toldKnown t && t.call.dup

theorem savers_eq_of_done {ts : List Thread} (h : Handle) (hd : ∀ t ∈ ts, ∃ k, t.pc = .done k) :
    savers h ts = claimers h ts + dupKnown h ts := by
  have bools : ∀ a k d : Bool, (if (a && (!k || d)) then 1 else 0) =
      (if (a && !k) then 1 else 0) + (if (a && k && d) then 1 else 0) := by
    intro a k d; cases a <;> cases k <;> cases d <;> rfl
  induction ts with
  | nil => rfl
  | cons t ts ih =>
    have ih' := ih (fun x hx => hd x (List.mem_cons_of_mem _ hx))
    obtain ⟨k, hk⟩ := hd t List.mem_cons_self
    simp only [savers, claimers, dupKnown, List.countP_cons, saved_done hk, claims_done hk, toldKnown_done hk,
      bools] at ih' ⊢
    omega

/-- The statement the driver evaluates: when all calls have returned, a
    blob of the loaded index was stored only by `storeDuplicate` calls, any other submitted blob
    exactly once plus once per `storeDuplicate` call that found it known. -/
theorem stored_as_requested (idx0 : List Handle) (calls : List Call) (sched : List Act)
    (hdone : allDone (run idx0 calls sched) = true) (h : Handle) (hsub : ∃ c ∈ calls, c.h = h) :
    let s := run idx0 calls sched
    (h ∈ idx0 → claimers h s.threads = 0 ∧ s.saves.count h = dupKnown h s.threads) ∧
    (h ∉ idx0 → claimers h s.threads = 1 ∧ s.saves.count h = 1 + dupKnown h s.threads) := by
  intro s
  have hinv := run_inv idx0 calls h sched
  have heq := savers_eq_of_done h (allDone_iff.mp hdone)
  refine ⟨fun h0 => ?_, fun h0 => ?_⟩
  · have hc := hinv.idx0_unclaimed h0
    exact ⟨hc, by show (run idx0 calls sched).saves.count h = _; rw [hinv.saves_eq, heq, hc]; simp [s]⟩
  · have hc := claimed_exactly_once idx0 calls sched hdone h hsub h0
    exact ⟨hc, by show (run idx0 calls sched).saves.count h = _; rw [hinv.saves_eq, heq, hc]⟩

/-- without `storeDuplicate`: every submitted blob that is not in the loaded index is stored exactly
    once (so deduplication never loses a blob either) -/
theorem stored_exactly_once (idx0 : List Handle) (calls : List Call) (sched : List Act)
    (hd : ∀ c ∈ calls, c.dup = false) (hdone : allDone (run idx0 calls sched) = true)
    (h : Handle) (hsub : ∃ c ∈ calls, c.h = h) (h0 : h ∉ idx0) :
    (run idx0 calls sched).saves.count h = 1 := by
  have h1 := (store_once idx0 calls sched hd h).1
  have h2 := ((stored_as_requested idx0 calls sched hdone h hsub).2 h0).2
  omega

/-- after the final flush every submitted blob is in the index (so the next run finds it there) -/
theorem all_indexed_after_flush (idx0 : List Handle) (calls : List Call) (sched : List Act)
    (hdone : allDone (run idx0 calls (sched ++ [.flush])) = true) :
    ∀ c ∈ calls, c.h ∈ (run idx0 calls (sched ++ [.flush])).index := by
  intro c hc
  have hinv := run_inv idx0 calls c.h (sched ++ [.flush])
  have hpk : (run idx0 calls (sched ++ [.flush])).packed = [] := by
    simp only [run, List.foldl_append, List.foldl_cons, List.foldl_nil, step, storePack]
    rw [List.filter_eq_nil_iff]
    intro x hx; simp [hx]
  have hall := allDone_iff.mp hdone
  by_cases h0 : c.h ∈ idx0
  · exact hinv.idx_mono _ h0
  · have hcl := claimed_exactly_once idx0 calls _ hdone c.h ⟨c, hc, rfl⟩ h0
    have hpos : 0 < claimers c.h (run idx0 calls (sched ++ [.flush])).threads := by omega
    obtain ⟨t, ht, hp⟩ := List.countP_pos_iff.mp hpos
    simp only [Bool.and_eq_true, beq_iff_eq] at hp
    obtain ⟨k, hk⟩ := hall t ht
    -- the call that claimed `c.h` has returned, so it saved the blob
    have hsaved : saved t = true := by rw [saved_done hk, ← claims_done hk, hp.2]; rfl
    rcases hinv.saved_somewhere t ht hp.1 hsaved with h1 | h1
    · rw [hpk] at h1; cases h1
    · exact h1

/-- Run 1 (any calls, any schedule, ending with the flush, all calls
    returned) leaves an index `idx1`; a second run that starts from `idx1` (the loaded index, C08) and
    submits only blobs run 1 had submitted (same chunks: the chunker is deterministic, C17) stores
    nothing, under every schedule. -/
theorem second_backup_adds_nothing (idx0 : List Handle) (calls1 : List Call) (sched1 : List Act)
    (hdone : allDone (run idx0 calls1 (sched1 ++ [.flush])) = true)
    (calls2 : List Call) (sched2 : List Act)
    (hsame : ∀ c ∈ calls2, c.dup = false ∧ ∃ c1 ∈ calls1, c1.h = c.h) :
    (run (run idx0 calls1 (sched1 ++ [.flush])).index calls2 sched2).saves = [] := by
  have hidx := all_indexed_after_flush idx0 calls1 sched1 hdone
  rw [List.eq_nil_iff_forall_not_mem]
  intro h hmem
  have hcnt : 0 < (run (run idx0 calls1 (sched1 ++ [.flush])).index calls2 sched2).saves.count h :=
    List.count_pos_iff.mpr hmem
  have hinv := run_inv (run idx0 calls1 (sched1 ++ [.flush])).index calls2 h sched2
  rw [hinv.saves_eq] at hcnt
  obtain ⟨t, ht, hp⟩ := List.countP_pos_iff.mp hcnt
  simp only [Bool.and_eq_true, beq_iff_eq] at hp
  have htc : t.call ∈ calls2 := hinv.calls_eq ▸ List.mem_map_of_mem ht
  obtain ⟨hdup, c1, hc1, hch⟩ := hsame _ htc
  have hin : h ∈ (run idx0 calls1 (sched1 ++ [.flush])).index := by
    rw [← hp.1, ← hch]; exact hidx c1 hc1
  have hso := (store_once _ calls2 sched2 (fun c hc => (hsame c hc).1) h).2 hin
  rw [hinv.saves_eq] at hso
  omega

/-- the `known` results as the harness reports them -/
def knownsOf (s : St) : List Bool :=
  s.threads.map fun t => match t.pc with | .start => false | .checked k => k | .done k => k

/-- For every schedule after which all calls have returned, `specOK` (the predicate
    the driver evaluates on the implementation's output) holds for the model's own `known` results
    and save log. -/
theorem run_specOK (idx0 : List Handle) (calls : List Call) (sched : List Act)
    (hdone : allDone (run idx0 calls sched) = true) :
    specOK idx0 calls (knownsOf (run idx0 calls sched)) (run idx0 calls sched).saves = true := by
  have hce := (run_inv idx0 calls 0 sched).calls_eq  -- the same at every handle
  have hall := allDone_iff.mp hdone
  generalize hs : run idx0 calls sched = s at *
  simp only [specOK, Bool.and_eq_true, beq_iff_eq, List.all_eq_true]
  refine ⟨by simp [knownsOf, ← hce], fun h hh => ?_⟩
  have hsub : ∃ c ∈ calls, c.h = h := by
    rw [List.mem_eraseDups, List.mem_map] at hh; exact hh
  have hzip : calls.zip (knownsOf s) = s.threads.map (fun t => (t.call, match t.pc with | .start => false | .checked k => k | .done k => k)) := by
    rw [← hce, knownsOf, List.zip_map']
  have hreq := stored_as_requested idx0 calls sched (hs ▸ hdone) h hsub
  rw [hs] at hreq
  have hclaims : (List.filter (fun ck => !ck.2) (List.filter (fun ck => ck.1.h == h) (calls.zip (knownsOf s)))).length =
      claimers h s.threads := by
    rw [hzip, List.filter_filter, List.filter_map, List.length_map, ← List.countP_eq_length_filter]
    refine List.countP_congr fun t ht => ?_
    obtain ⟨k, hk⟩ := hall t ht
    cases k <;> simp [claims, hk, Bool.and_comm]
  have hdupk : (List.filter (fun ck => ck.2 && ck.1.dup) (List.filter (fun ck => ck.1.h == h) (calls.zip (knownsOf s)))).length =
      dupKnown h s.threads := by
    rw [hzip, List.filter_filter, List.filter_map, List.length_map, ← List.countP_eq_length_filter]
    refine List.countP_congr fun t ht => ?_
    obtain ⟨k, hk⟩ := hall t ht
    cases k <;> cases hd : t.call.dup <;> simp [toldKnown, hk, hd]
  simp only [hclaims, hdupk]
  by_cases h0 : h ∈ idx0
  · have := hreq.1 h0
    simp [h0, this.1, this.2]
  · have := hreq.2 h0
    simp [h0, this.1, this.2]

/-- `AddPending` takes `idxMutex` (write lock) before the membership test and keeps it (released by
    `defer`) until after the insertion: test and set are one atomic step -/
theorem addPending_atomic :
    Restic.Gen.addPending_calls = ["mi.idxMutex.Lock", "mi.idxMutex.Unlock", "idx.Has"] := by decide +kernel

/-- `storePack` removes from `pendingBlobs` and inserts into the index under the same lock -/
theorem storePack_atomic :
    Restic.Gen.miStorePack_calls.take 3 = ["mi.idxMutex.Lock", "mi.idxMutex.Unlock", "delete"] ∧
    "idx.StorePack" ∈ Restic.Gen.miStorePack_calls := by decide +kernel

/-- `saveBlob` asks `AddPending` first and calls `saveAndEncrypt` afterwards (exactly one call site each) -/
theorem saveBlob_order :
    Restic.Gen.repoSaveBlob_calls.filter (fun c => c ∈ ["r.idx.AddPending", "r.saveAndEncrypt"]) =
      ["r.idx.AddPending", "r.saveAndEncrypt"] := by decide +kernel

/-- three concurrent calls for the same blob, interleaved: one claims, all return, one save -/
example : (run [] [⟨7, false⟩, ⟨7, false⟩, ⟨7, false⟩]
    [.thread 1, .thread 0, .thread 2, .thread 0, .thread 1, .thread 2, .flush]).saves = [7] ∧
    allDone (run [] [⟨7, false⟩, ⟨7, false⟩, ⟨7, false⟩]
    [.thread 1, .thread 0, .thread 2, .thread 0, .thread 1, .thread 2, .flush]) = true := by decide +kernel

/-- the pack is stored in the index between two calls: the later call finds the blob in the index -/
example : knownFlags (run [] [⟨7, false⟩, ⟨7, false⟩] [.thread 0, .thread 0, .store [7], .thread 1, .thread 1]) =
    [some false, some true] := by decide +kernel

/-- a blob of the loaded index is not stored, a `storeDuplicate` call stores it again -/
example : (run [5] [⟨5, false⟩, ⟨5, true⟩, ⟨6, false⟩] [.thread 0, .thread 1, .thread 2, .thread 0, .thread 1, .thread 2]).saves = [6, 5] := by
  decide

end Restic.Props.C16
