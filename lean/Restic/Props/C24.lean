import Restic.Model.Snapshots
import Restic.Proofs.Fold
/-!
# C24 — Snapshot filters, grouping and 'latest' select the right snapshots

About `Restic.Model.Snapshots` (HasTags / HasTagList / HasPaths / HasHostname, SnapshotFilter.matches /
findLatest / FindAll and GroupSnapshots), for all snapshot sets, filters and visiting orders.
-/
namespace Restic.Props.C24
open Restic.Model.Snapshots

theorem hasHostname_spec (sn : Snap) (hosts : List String) :
    hasHostname sn hosts = true ↔ hosts = [] ∨ sn.host ∈ hosts := by
  unfold hasHostname
  cases hosts with
  | nil => simp
  | cons h t => simp

theorem hasPaths_spec (sn : Snap) (ps : List String) :
    hasPaths sn ps = true ↔ ∀ p ∈ ps, p ∈ sn.paths := by
  simp [hasPaths]

/-- where the special case of the loop (empty tag, untagged snapshot) cannot arise, a tag list is a
    subset test -/
theorem hasTags_subset (sn : Snap) (l : List Tag) (h : "" ∉ l ∨ sn.tags ≠ []) :
    hasTags sn l = true ↔ ∀ t ∈ l, t ∈ sn.tags := by
  induction l with
  | nil => simp [hasTags]
  | cons t rest ih =>
    have hb : (t == "" && sn.tags.isEmpty) = false := by
      rcases h with h | h
      · rw [beq_false_of_ne fun e => h (by simp [e]), Bool.false_and]
      · rw [List.isEmpty_eq_false_iff.mpr h, Bool.and_false]
    have ih := ih (h.imp_left fun h e => h (List.mem_cons_of_mem _ e))
    by_cases hm : t ∈ sn.tags <;> simp [hasTags, hasTag, hb, hm, ih]

theorem hasTags_pure (sn : Snap) (l : List Tag) (h : "" ∉ l) :
    hasTags sn l = true ↔ ∀ t ∈ l, t ∈ sn.tags :=
  hasTags_subset sn l (.inl h)

/-- the marker list `[""]` selects the untagged snapshots (and, degenerate, snapshots that
    literally carry the tag `""`, which restic never writes) -/
theorem hasTags_marker (sn : Snap) : hasTags sn [""] = true ↔ sn.tags = [] ∨ "" ∈ sn.tags := by
  rcases hs : sn.tags with _ | ⟨a, b⟩ <;> simp [hasTags, hasTag, hs]

/-- for a snapshot that has tags, `""` in a list is an ordinary tag -/
theorem hasTags_of_tagged (sn : Snap) (l : List Tag) (h : sn.tags ≠ []) :
    hasTags sn l = true ↔ ∀ t ∈ l, t ∈ sn.tags :=
  hasTags_subset sn l (.inr h)

/-- untagged snapshots: only the FIRST entry of the list counts — the order dependence of lists that
    mix `""` with other tags (`["", "a"]` selects untagged snapshots, `["a", ""]` does not).
    Characterisation of the code, not a specification. -/
theorem hasTags_of_untagged (sn : Snap) (l : List Tag) (h : sn.tags = []) :
    hasTags sn l = true ↔ l = [] ∨ l.head? = some "" := by
  cases l with
  | nil => simp [hasTags]
  | cons t rest =>
    simp only [hasTags, hasTag, h, List.isEmpty_nil, Bool.and_true, List.contains_nil,
      Bool.not_false, if_true]
    by_cases ht : t = ""
    · simp [ht]
    · simp [ht]

/-- the order dependence is real -/
example : hasTags ⟨0, 0, "h", [], []⟩ ["", "a"] = true ∧ hasTags ⟨0, 0, "h", [], []⟩ ["a", ""] = false := by
  decide

theorem hasTagList_spec (sn : Snap) (ls : List (List Tag)) :
    hasTagList sn ls = true ↔ ls = [] ∨ ∃ l ∈ ls, hasTags sn l = true := by
  unfold hasTagList
  cases ls with
  | nil => simp
  | cons a b => simp

/-- on every tag list the transcription agrees with the reading `tagListSat` of the statement -/
theorem hasTags_eq_tagListSat (sn : Snap) (l : List Tag) : hasTags sn l = tagListSat sn l := by
  unfold tagListSat
  by_cases hu : unspecifiedTagCase sn l = true
  · rw [if_pos hu]
  · rw [if_neg hu]
    simp only [unspecifiedTagCase, Bool.or_eq_true, Bool.and_eq_true, List.contains_iff_mem,
      bne_iff_ne, ne_eq, not_or, not_and, Decidable.not_not] at hu
    by_cases hl : l = [""]
    · rw [if_pos hl, hl, Bool.eq_iff_iff, hasTags_marker]
      simp [hu.2]
    · rw [if_neg hl, Bool.eq_iff_iff, hasTags_pure sn l fun hm => hl (hu.1 hm)]
      simp

/-- `SnapshotFilter.matches` is the declarative filter predicate: host in the
    list (or no hosts given), some tag list satisfied (or none given), all paths contained. -/
theorem matches_spec (f : Filter) (sn : Snap) : f.matches sn = specMatches f sn := by
  unfold Filter.matches specMatches hasHostname hasTagList hasPaths
  have : f.tags.any (hasTags sn) = f.tags.any (tagListSat sn) := by
    congr 1; funext l; exact hasTags_eq_tagListSat sn l
  rw [this]
  cases f.hosts <;> cases f.tags <;> simp

/-- the same with the transcription's `hasTags` where `matches_spec` has the reading `tagListSat` -/
theorem matches_iff (f : Filter) (sn : Snap) :
    f.matches sn = true ↔
      (f.hosts = [] ∨ sn.host ∈ f.hosts) ∧ (f.tags = [] ∨ ∃ l ∈ f.tags, hasTags sn l = true) ∧
      (∀ p ∈ f.paths, p ∈ sn.paths) := by
  simp only [Filter.matches, Bool.and_eq_true, hasHostname_spec, hasTagList_spec, hasPaths_spec, and_assoc]

/-- filter mode of `FindAll`: exactly the matching snapshots are handed to the callback, whatever
    the visiting order -/
theorem findAll_mem (f : Filter) (visit : List Snap) (sn : Snap) :
    sn ∈ findAll f visit ↔ sn ∈ visit ∧ specMatches f sn = true := by
  simp [findAll, matches_spec]

theorem findAll_perm (f : Filter) {v v' : List Snap} (h : v.Perm v') :
    (findAll f v).Perm (findAll f v') := h.filter _

/-- the transcription meets the executable statement `specFindAll` (ids are the positions in the
    snapshot set, hence distinct) -/
theorem findAll_specOK (f : Filter) (snaps visit : List Snap) (hp : visit.Perm snaps)
    (hid : ∀ a ∈ snaps, ∀ b ∈ snaps, a.id = b.id → a = b) :
    specFindAll f snaps ((findAll f visit).map (·.id)) = true := by
  simp only [specFindAll, List.all_eq_true, beq_iff_eq]
  intro sn hsn
  cases hm : specMatches f sn with
  | true =>
    simp only [List.contains_iff_mem, List.mem_map]
    exact ⟨sn, (findAll_mem f visit sn).mpr ⟨hp.mem_iff.mpr hsn, hm⟩, rfl⟩
  | false =>
    rw [Bool.eq_false_iff]
    intro hc
    simp only [List.contains_iff_mem, List.mem_map] at hc
    obtain ⟨a, ha, hia⟩ := hc
    have ha' := (findAll_mem f visit a).mp ha
    have := hid a (hp.mem_iff.mp ha'.1) sn hsn hia
    subst this
    rw [hm] at ha'; exact absurd ha'.2 (by simp)

def Cand (f : Filter) (s : Snap) : Prop := f.matches s = true ∧ withinLimit f s = true

/-- the three early returns of the callback in source order, the guards spelt as propositions -/
theorem latestStep_eq (f : Filter) (cur : Option Snap) (sn : Snap) :
    latestStep f cur sn =
      if withinLimit f sn = false then cur
      else if ∃ l, cur = some l ∧ sn.time < l.time then cur
      else if f.matches sn = false then cur else some sn := by
  unfold latestStep withinLimit
  cases f.limit <;> cases cur <;> simp

theorem latestStep_cases (f : Filter) (cur : Option Snap) (sn : Snap) :
    (latestStep f cur sn = some sn ∧ Cand f sn ∧ ∀ l, cur = some l → l.time ≤ sn.time) ∨
    (latestStep f cur sn = cur ∧ (Cand f sn → ∃ l, cur = some l ∧ sn.time < l.time)) := by
  rw [latestStep_eq]
  by_cases hw : withinLimit f sn = false
  · exact .inr ⟨if_pos hw, fun h => absurd h.2 (by simp [hw])⟩
  rw [if_neg hw]
  by_cases ho : ∃ l, cur = some l ∧ sn.time < l.time
  · exact .inr ⟨if_pos ho, fun _ => ho⟩
  rw [if_neg ho]
  by_cases hm : f.matches sn = false
  · exact .inr ⟨if_pos hm, fun h => absurd h.1 (by simp [hm])⟩
  rw [if_neg hm]
  exact .inl ⟨rfl, ⟨by simpa using hm, by simpa using hw⟩, fun l hl => Int.not_lt.mp fun h => ho ⟨l, hl, h⟩⟩

/-- "at least as new as", not "the newest": among equally new candidates the visiting order decides -/
structure LatestInv (f : Filter) (seen : List Snap) (cur : Option Snap) : Prop where
  isCand : ∀ l, cur = some l → l ∈ seen ∧ Cand f l
  newest : ∀ s ∈ seen, Cand f s → ∃ l, cur = some l ∧ s.time ≤ l.time

theorem latestStep_inv (f : Filter) (seen : List Snap) (cur : Option Snap) (sn : Snap)
    (h : LatestInv f seen cur) : LatestInv f (seen ++ [sn]) (latestStep f cur sn) := by
  rcases latestStep_cases f cur sn with ⟨he, hc, hle⟩ | ⟨he, hno⟩ <;> rw [he]
  · refine ⟨fun l hl => by cases hl; exact ⟨by simp, hc⟩, fun s hs hcs => ⟨sn, rfl, ?_⟩⟩
    rcases List.mem_append.mp hs with hs | hs
    · obtain ⟨l, hl, hsl⟩ := h.newest s hs hcs
      exact Int.le_trans hsl (hle l hl)
    · cases List.mem_singleton.mp hs
      exact Int.le_refl _
  · refine ⟨fun l hl => (h.isCand l hl).imp_left (List.mem_append_left _), fun s hs hcs => ?_⟩
    rcases List.mem_append.mp hs with hs | hs
    · exact h.newest s hs hcs
    · cases List.mem_singleton.mp hs
      obtain ⟨l, hl, hlt⟩ := hno hcs
      exact ⟨l, hl, Int.le_of_lt hlt⟩

theorem findLatest_inv (f : Filter) (visit : List Snap) : LatestInv f visit (findLatest f visit) :=
  Proofs.foldl_seen (latestStep_inv f) visit ⟨nofun, nofun⟩

/-- Found: for every visiting order the result is a matching snapshot, not after
    the time limit, and at least as new as every other such snapshot. -/
theorem latest_some (f : Filter) (visit : List Snap) (s : Snap) (h : findLatest f visit = some s) :
    s ∈ visit ∧ f.matches s = true ∧ withinLimit f s = true ∧
    ∀ s' ∈ visit, f.matches s' = true → withinLimit f s' = true → s'.time ≤ s.time := by
  have := findLatest_inv f visit
  obtain ⟨hs, hc⟩ := this.isCand s h
  refine ⟨hs, hc.1, hc.2, fun s' hs' hm hw => ?_⟩
  obtain ⟨l, hl, hle⟩ := this.newest s' hs' ⟨hm, hw⟩
  cases h.symm.trans hl
  exact hle

/-- Not found: "no snapshot found" is answered exactly when no snapshot
    satisfies filter and limit. -/
theorem latest_none_iff (f : Filter) (visit : List Snap) :
    findLatest f visit = none ↔ ∀ s ∈ visit, ¬ (f.matches s = true ∧ withinLimit f s = true) := by
  have := findLatest_inv f visit
  constructor
  · intro h s hs hc
    obtain ⟨l, hl, _⟩ := this.newest s hs hc
    cases h.symm.trans hl
  · intro h
    cases hr : findLatest f visit with
    | none => rfl
    | some l => exact absurd (this.isCand l hr).2 (h l (this.isCand l hr).1)

/-- the visiting order only matters among equally new candidates: two orders give answers with
    the same timestamp (or both none) -/
theorem latest_perm (f : Filter) {v v' : List Snap} (hp : v.Perm v') :
    (findLatest f v).map (·.time) = (findLatest f v').map (·.time) := by
  cases h1 : findLatest f v with
  | none =>
    have := (latest_none_iff f v).mp h1
    have h2 : findLatest f v' = none :=
      (latest_none_iff f v').mpr fun s hs => this s (hp.mem_iff.mpr hs)
    simp [h2]
  | some a =>
    cases h2 : findLatest f v' with
    | none =>
      have := (latest_none_iff f v').mp h2
      have ha := latest_some f v a h1
      exact absurd ⟨ha.2.1, ha.2.2.1⟩ (this a (hp.mem_iff.mp ha.1))
    | some b =>
      have ha := latest_some f v a h1
      have hb := latest_some f v' b h2
      have h3 := ha.2.2.2 b (hp.mem_iff.mpr hb.1) hb.2.1 hb.2.2.1
      have h4 := hb.2.2.2 a (hp.mem_iff.mp ha.1) ha.2.1 ha.2.2.1
      simp only [Option.map_some, Option.some.injEq]
      omega

/-- every newest candidate is the answer for some visiting order (visit it last): the set of
    possible answers is exactly the set allowed by the statement -/
theorem latest_complete (f : Filter) (snaps : List Snap) (s : Snap) (hs : s ∈ snaps)
    (hc : f.matches s = true ∧ withinLimit f s = true)
    (hmax : ∀ s' ∈ snaps, f.matches s' = true → withinLimit f s' = true → s'.time ≤ s.time) :
    ∃ visit, visit.Perm snaps ∧ findLatest f visit = some s := by
  refine ⟨snaps.erase s ++ [s], ?_, ?_⟩
  · exact (List.perm_append_comm.trans (List.perm_cons_erase hs).symm)
  · unfold findLatest
    rw [List.foldl_append]
    simp only [List.foldl_cons, List.foldl_nil]
    have hinv : LatestInv f _ ((snaps.erase s).foldl (latestStep f) none) := findLatest_inv f (snaps.erase s)
    rcases latestStep_cases f ((snaps.erase s).foldl (latestStep f) none) s with ⟨he, _, _⟩ | ⟨he, hno⟩
    · exact he
    · obtain ⟨l, hl, hlt⟩ := hno hc
      obtain ⟨hlm, hlc⟩ := hinv.isCand l hl
      have := hmax l (List.mem_of_mem_erase hlm) hlc.1 hlc.2
      omega

theorem latest_specOK (f : Filter) (snaps visit : List Snap) (hp : visit.Perm snaps)
    (hid : ∀ a ∈ snaps, ∀ b ∈ snaps, a.id = b.id → a = b) :
    specLatest f snaps ((findLatest f visit).map (·.id)) = true := by
  unfold specLatest
  cases h : findLatest f visit with
  | none =>
    have := (latest_none_iff f visit).mp h
    simp only [Option.map_none, List.isEmpty_iff, List.filter_eq_nil_iff, Bool.and_eq_true, ← matches_spec]
    intro a ha; exact this a (hp.mem_iff.mpr ha)
  | some s =>
    have hs := latest_some f visit s h
    simp only [Option.map_some, Bool.and_eq_true, List.any_eq_true, List.mem_filter, beq_iff_eq,
      List.all_eq_true, decide_eq_true_eq, ← matches_spec, and_imp]
    refine ⟨⟨s, ⟨hp.mem_iff.mp hs.1, hs.2.1, hs.2.2.1⟩, rfl⟩, ?_⟩
    intro a ha _ _ hia b hb hmb hwb
    have := hid a ha s (hp.mem_iff.mp hs.1) hia
    subst this
    exact hs.2.2.2 b (hp.mem_iff.mpr hb) hmb hwb

/-- one iteration of the id loop does nothing (a repeated `latest`, an id seen before), reports one
    error, or reports one new snapshot -/
theorem idsStep_cases (lr : Option Snap) (st : IdsState) (a : Arg) :
    ((idsStep lr st a).out = st.out ∧ (idsStep lr st a).ids = st.ids ∧ ∀ n, a = .id n false → n ∈ st.ids) ∨
    (∃ k ∈ ["nomatch", "syntax", "notfound"], (idsStep lr st a).out = st.out ++ [.err k] ∧
        (idsStep lr st a).ids = st.ids ∧ ∀ n, a ≠ .id n false) ∨
    (∃ n, (idsStep lr st a).out = st.out ++ [.snap n] ∧ (idsStep lr st a).ids = n :: st.ids ∧
        (a = .id n false ∨ (a = .latest ∧ ∃ s, lr = some s ∧ s.id = n))) := by
  cases a with
  | latest =>
    by_cases hu : st.usedFilter = true
    · rw [show idsStep lr st .latest = st from if_pos hu]
      exact .inl ⟨rfl, rfl, nofun⟩
    · cases lr with
      | none =>
        rw [show idsStep none st .latest = { st with usedFilter := true, out := st.out ++ [.err "nomatch"] }
          from if_neg hu]
        exact .inr (.inl ⟨"nomatch", .head _, rfl, rfl, nofun⟩)
      | some s =>
        rw [show idsStep (some s) st .latest = ⟨true, s.id :: st.ids, st.out ++ [.snap s.id]⟩ from if_neg hu]
        exact .inr (.inr ⟨s.id, rfl, rfl, .inr ⟨rfl, s, rfl, rfl⟩⟩)
  | latestSub => exact .inr (.inl ⟨"syntax", .tail _ (.head _), rfl, rfl, nofun⟩)
  | unknown => exact .inr (.inl ⟨"notfound", .tail _ (.tail _ (.head _)), rfl, rfl, nofun⟩)
  | id m sub =>
    cases sub with
    | true => exact .inr (.inl ⟨"syntax", .tail _ (.head _), rfl, rfl, nofun⟩)
    | false =>
      by_cases hc : st.ids.contains m = true
      · rw [show idsStep lr st (.id m false) = st from if_pos hc]
        exact .inl ⟨rfl, rfl, fun n h => by cases h; exact List.contains_iff_mem.mp hc⟩
      · rw [show idsStep lr st (.id m false) = { st with ids := m :: st.ids, out := st.out ++ [.snap m] }
          from if_neg hc]
        exact .inr (.inr ⟨m, rfl, rfl, .inl rfl⟩)

/-- `idsReported` is what keeps `allNamed` when an id seen before is skipped -/
structure IdsInv (lr : Option Snap) (done : List Arg) (st : IdsState) : Prop where
  fromArgs : ∀ n, Ev.snap n ∈ st.out →
    Arg.id n false ∈ done ∨ (Arg.latest ∈ done ∧ ∃ s, lr = some s ∧ s.id = n)
  allNamed : ∀ n, Arg.id n false ∈ done → Ev.snap n ∈ st.out
  idsReported : ∀ n ∈ st.ids, Ev.snap n ∈ st.out
  errKinds : ∀ k, Ev.err k ∈ st.out → k ∈ ["nomatch", "syntax", "notfound"]

theorem idsStep_inv (lr : Option Snap) (done : List Arg) (st : IdsState) (a : Arg) (h : IdsInv lr done st) :
    IdsInv lr (done ++ [a]) (idsStep lr st a) := by
  have w : ∀ n, Ev.snap n ∈ st.out →
      Arg.id n false ∈ done ++ [a] ∨ (Arg.latest ∈ done ++ [a] ∧ ∃ s, lr = some s ∧ s.id = n) :=
    fun n hn => (h.fromArgs n hn).imp (List.mem_append_left _) (And.imp_left (List.mem_append_left _))
  rcases idsStep_cases lr st a with ⟨ho, hi, ha⟩ | ⟨k, hk, ho, hi, ha⟩ | ⟨m, ho, hi, ha⟩
  · -- the argument is skipped
    constructor <;> simp only [ho, hi]
    case fromArgs => exact w
    case allNamed =>
      intro n hn
      rcases List.mem_append.mp hn with hn | hn
      · exact h.allNamed n hn
      · exact h.idsReported n (ha n (List.mem_singleton.mp hn).symm)
    case idsReported => exact h.idsReported
    case errKinds => exact h.errKinds
  · -- an error is reported
    constructor <;> simp only [ho, hi]
    case fromArgs => exact fun n hn => w n ((List.mem_append.mp hn).resolve_right (by simp))
    case allNamed =>
      intro n hn
      rcases List.mem_append.mp hn with hn | hn
      · exact List.mem_append_left _ (h.allNamed n hn)
      · exact absurd (List.mem_singleton.mp hn).symm (ha n)
    case idsReported => exact fun n hn => List.mem_append_left _ (h.idsReported n hn)
    case errKinds =>
      intro k' hk'
      rcases List.mem_append.mp hk' with hk' | hk'
      · exact h.errKinds k' hk'
      · cases List.mem_singleton.mp hk'; exact hk
  · -- snapshot `m` is reported
    constructor <;> simp only [ho, hi]
    case fromArgs =>
      intro n hn
      rcases List.mem_append.mp hn with hn | hn
      · exact w n hn
      · cases List.mem_singleton.mp hn
        exact ha.imp (fun e => by rw [e]; simp) fun ⟨e, hs⟩ => ⟨by rw [e]; simp, hs⟩
    case allNamed =>
      intro n hn
      rcases List.mem_append.mp hn with hn | hn
      · exact List.mem_append_left _ (h.allNamed n hn)
      · rcases ha with e | ⟨e, _⟩
        · cases (List.mem_singleton.mp hn).trans e; simp
        · cases (List.mem_singleton.mp hn).trans e
    case idsReported =>
      intro n hn
      rcases List.mem_cons.mp hn with rfl | hn
      · simp
      · exact List.mem_append_left _ (h.idsReported n hn)
    case errKinds => exact fun k' hk' => h.errKinds k' ((List.mem_append.mp hk').resolve_right (by simp))

/-- `FindAll` adds at most one event to those of the loop: the error for filters given with ids -/
theorem findAllIds_out (f : Filter) (latestRes : Option Snap) (args : List Arg) :
    IdsInv latestRes args (args.foldl (idsStep latestRes) {}) ∧
    (findAllIds f latestRes args = (args.foldl (idsStep latestRes) {}).out ∨
      findAllIds f latestRes args = (args.foldl (idsStep latestRes) {}).out ++ [.err "filters"]) := by
  refine ⟨Proofs.foldl_seen (idsStep_inv latestRes) args ⟨nofun, nofun, nofun, nofun⟩, ?_⟩
  simp only [findAllIds]
  split
  · exact .inr rfl
  · exact .inl rfl

/-- explicit ids: the callback sees exactly the named snapshots (each named existing snapshot is
    reported) plus, when `latest` is among the arguments, the snapshot `findLatest` resolved. -/
theorem findAllIds_spec (f : Filter) (latestRes : Option Snap) (args : List Arg) (n : Nat) :
    (Ev.snap n ∈ findAllIds f latestRes args →
        Arg.id n false ∈ args ∨ (Arg.latest ∈ args ∧ ∃ s, latestRes = some s ∧ s.id = n)) ∧
    (Arg.id n false ∈ args → Ev.snap n ∈ findAllIds f latestRes args) := by
  obtain ⟨inv, e | e⟩ := findAllIds_out f latestRes args <;> rw [e]
  · exact ⟨inv.fromArgs n, inv.allNamed n⟩
  · exact ⟨fun h => inv.fromArgs n (by simpa using h), fun h => List.mem_append_left _ (inv.allNamed n h)⟩

theorem findAllIds_err (f : Filter) (latestRes : Option Snap) (args : List Arg) (k : String)
    (h : Ev.err k ∈ findAllIds f latestRes args) : k ∈ ["nomatch", "syntax", "notfound", "filters"] := by
  obtain ⟨inv, e | e⟩ := findAllIds_out f latestRes args <;> rw [e] at h
  · exact List.mem_append_left ["filters"] (inv.errKinds k h)
  · rcases List.mem_append.mp h with h | h
    · exact List.mem_append_left ["filters"] (inv.errKinds k h)
    · exact List.mem_append_right ["nomatch", "syntax", "notfound"] (by simpa using h)

theorem insertStr_perm (x : String) (l : List String) : (insertStr x l).Perm (x :: l) := by
  induction l with
  | nil => simp [insertStr]
  | cons y ys ih =>
    unfold insertStr
    split
    · exact List.Perm.refl _
    · exact (List.Perm.cons y ih).trans (List.Perm.swap x y ys)

theorem sortStrings_perm (l : List String) : (sortStrings l).Perm l := by
  induction l with
  | nil => exact List.Perm.refl _
  | cons x xs ih => exact (insertStr_perm x _).trans (List.Perm.cons x ih)

theorem insertStr_sorted (x : String) (l : List String) (h : l.Pairwise (· ≤ ·)) :
    (insertStr x l).Pairwise (· ≤ ·) := by
  induction l with
  | nil => simp [insertStr]
  | cons y ys ih =>
    unfold insertStr
    have hy := List.pairwise_cons.mp h
    by_cases hxy : x ≤ y
    · rw [if_pos hxy]
      refine List.pairwise_cons.mpr ⟨?_, h⟩
      intro z hz
      rcases List.mem_cons.mp hz with hz | hz
      · subst hz; exact hxy
      · exact String.le_trans hxy (hy.1 z hz)
    · rw [if_neg hxy]
      have hyx : y ≤ x := by
        rcases String.le_total x y with h' | h'
        · exact absurd h' hxy
        · exact h'
      refine List.pairwise_cons.mpr ⟨?_, ih hy.2⟩
      intro z hz
      have := (insertStr_perm x ys).mem_iff.mp hz
      rcases List.mem_cons.mp this with hz | hz
      · subst hz; exact hyx
      · exact hy.1 z hz

theorem sortStrings_sorted (l : List String) : (sortStrings l).Pairwise (· ≤ ·) := by
  induction l with
  | nil => simp [sortStrings]
  | cons x xs ih => exact insertStr_sorted x _ ih

/-- sorting makes the key order-insensitive, and nothing more: equal sorted lists ⇔ same multiset -/
theorem sortStrings_eq_iff (a b : List String) : sortStrings a = sortStrings b ↔ a.Perm b := by
  constructor
  · intro h
    exact (sortStrings_perm a).symm.trans (h ▸ sortStrings_perm b)
  · intro h
    -- two ascending arrangements of the same multiset are equal
    exact ((sortStrings_perm a).trans (h.trans (sortStrings_perm b).symm)).eq_of_pairwise
      (fun _ _ _ _ => String.le_antisymm) (sortStrings_sorted a) (sortStrings_sorted b)

/-- a criterion that is switched off contributes the same component to both keys -/
theorem ite_eq_ite_iff {α} (c : Bool) (x y z : α) :
    ((if c = true then x else z) = (if c = true then y else z)) ↔ (c = true → x = y) := by
  cases c <;> simp

theorem bool_or_iff_imp (c : Bool) (P : Prop) : (c = false ∨ P) ↔ (c = true → P) := by
  cases c <;> simp

/-- two snapshots get the same key iff they agree on the chosen criteria, paths
    and tags compared as multisets -/
theorem keyOf_eq_iff (g : GroupBy) (a b : Snap) :
    keyOf g a = keyOf g b ↔
      (g.host = true → a.host = b.host) ∧ (g.path = true → a.paths.Perm b.paths) ∧
      (g.tag = true → a.tags.Perm b.tags) := by
  simp only [keyOf, GroupKey.mk.injEq, ite_eq_ite_iff, sortStrings_eq_iff]

theorem specSameGroup_iff (g : GroupBy) (a b : Snap) :
    specSameGroup g a b = true ↔ keyOf g a = keyOf g b := by
  simp only [keyOf_eq_iff, specSameGroup, Bool.and_eq_true, Bool.or_eq_true, Bool.not_eq_true',
    beq_iff_eq, List.isPerm_iff, bool_or_iff_imp, and_assoc]

def keys {α : Type} (gs : List (GroupKey × List α)) : List GroupKey := gs.map (·.1)

theorem addToGroups_keys {α : Type} (gs : List (GroupKey × List α)) (k : GroupKey) (sn : α) :
    keys (addToGroups gs k sn) = if k ∈ keys gs then keys gs else keys gs ++ [k] := by
  induction gs with
  | nil => simp [addToGroups, keys]
  | cons p rest ih =>
    obtain ⟨k', l⟩ := p
    unfold addToGroups
    by_cases h : k' = k
    · subst h; simp [keys]
    · simp only [h, if_false]
      simp only [keys, List.map_cons, List.mem_cons] at ih ⊢
      rw [ih]
      have : ¬ k = k' := fun e => h e.symm
      by_cases hm : k ∈ List.map (fun x => x.fst) rest
      · simp [hm, this]
      · simp [hm, this]

theorem addToGroups_mem {α : Type} (gs : List (GroupKey × List α)) (k : GroupKey) (sn : α)
    (hnd : (keys gs).Nodup) (k' : GroupKey) (l : List α) (h : (k', l) ∈ addToGroups gs k sn) :
    (k' ≠ k ∧ (k', l) ∈ gs) ∨
    (k' = k ∧ ((∃ l0, (k, l0) ∈ gs ∧ l = l0 ++ [sn]) ∨ (k ∉ keys gs ∧ l = [sn]))) := by
  induction gs with
  | nil =>
    cases List.mem_singleton.mp h
    exact .inr ⟨rfl, .inr ⟨List.not_mem_nil, rfl⟩⟩
  | cons p rest ih =>
    obtain ⟨k0, l0⟩ := p
    obtain ⟨hk0, hnd'⟩ := List.nodup_cons.mp hnd
    unfold addToGroups at h
    by_cases e : k0 = k
    · subst e
      rw [if_pos rfl] at h
      rcases List.mem_cons.mp h with h | h
      · cases h; exact .inr ⟨rfl, .inl ⟨l0, List.mem_cons_self, rfl⟩⟩
      · -- the keys being distinct, an entry of the tail has another key
        exact .inl ⟨fun e => hk0 (e ▸ List.mem_map_of_mem (f := (·.1)) h), List.mem_cons_of_mem _ h⟩
    · rw [if_neg e] at h
      rcases List.mem_cons.mp h with h | h
      · cases h; exact .inl ⟨e, List.mem_cons_self⟩
      · rcases ih hnd' h with ⟨h1, h2⟩ | ⟨h1, ⟨l1, h2, h3⟩ | ⟨h2, h3⟩⟩
        · exact .inl ⟨h1, List.mem_cons_of_mem _ h2⟩
        · exact .inr ⟨h1, .inl ⟨l1, List.mem_cons_of_mem _ h2, h3⟩⟩
        · exact .inr ⟨h1, .inr ⟨fun hm => (List.mem_cons.mp hm).elim (fun e' => e e'.symm) h2, h3⟩⟩

theorem filter_key_snoc {α : Type} (kf : α → GroupKey) (done : List α) (sn : α) (k : GroupKey) :
    (done ++ [sn]).filter (fun s => kf s = k) =
      if kf sn = k then done.filter (fun s => kf s = k) ++ [sn] else done.filter (fun s => kf s = k) := by
  by_cases h : kf sn = k <;> simp [List.filter_append, h]

structure GroupInv {α : Type} (kf : α → GroupKey) (done : List α) (gs : List (GroupKey × List α)) : Prop where
  nodup : (keys gs).Nodup
  groups : ∀ k l, (k, l) ∈ gs → l = done.filter (fun s => kf s = k) ∧ l ≠ []
  covered : ∀ s ∈ done, kf s ∈ keys gs

theorem group_step {α : Type} (kf : α → GroupKey) (done : List α) (gs : List (GroupKey × List α)) (sn : α)
    (h : GroupInv kf done gs) : GroupInv kf (done ++ [sn]) (addToGroups gs (kf sn) sn) := by
  constructor
  case nodup =>
    rw [addToGroups_keys]
    by_cases hn : kf sn ∈ keys gs
    · rw [if_pos hn]; exact h.nodup
    · rw [if_neg hn]
      exact List.nodup_append.mpr ⟨h.nodup, by simp, by
        intro a ha b hb; simp at hb; subst hb; intro e; subst e; exact hn ha⟩
  case groups =>
    intro k l hin
    rw [filter_key_snoc]
    rcases addToGroups_mem gs _ sn h.nodup k l hin with ⟨hne, hm⟩ | ⟨rfl, ⟨l0, hm, rfl⟩ | ⟨hn, rfl⟩⟩
    · rw [if_neg fun e => hne e.symm]; exact h.groups k l hm
    · rw [if_pos rfl, ← (h.groups _ l0 hm).1]; exact ⟨rfl, by simp⟩
    · have : done.filter (fun s => kf s = kf sn) = [] := by
        simp only [List.filter_eq_nil_iff, decide_eq_true_eq]
        intro s hs e
        exact hn (e ▸ h.covered s hs)
      rw [if_pos rfl, this]; exact ⟨rfl, by simp⟩
  case covered =>
    intro s hs
    rw [addToGroups_keys]
    by_cases hn : kf sn ∈ keys gs
    · rw [if_pos hn]
      rcases List.mem_append.mp hs with hs | hs
      · exact h.covered s hs
      · cases List.mem_singleton.mp hs; exact hn
    · rw [if_neg hn]
      rcases List.mem_append.mp hs with hs | hs
      · exact List.mem_append_left _ (h.covered s hs)
      · cases List.mem_singleton.mp hs; simp

theorem groupWith_partition {α : Type} (kf : α → GroupKey) (l : List α) :
    (keys (groupWith kf l)).Nodup ∧
    (∀ k grp, (k, grp) ∈ groupWith kf l → grp = l.filter (fun s => kf s = k) ∧ grp ≠ []) ∧
    (∀ s ∈ l, ∃ grp, (kf s, grp) ∈ groupWith kf l) := by
  have : GroupInv kf l (groupWith kf l) := Proofs.foldl_seen (group_step kf) l ⟨.nil, nofun, nofun⟩
  refine ⟨this.nodup, this.groups, ?_⟩
  intro s hs
  have := this.covered s hs
  simp only [keys, List.mem_map] at this
  obtain ⟨⟨k, grp⟩, hm, he⟩ := this
  simp only at he
  exact ⟨grp, he ▸ hm⟩

/-- `GroupSnapshots` partitions the list by key: the keys are pairwise distinct, the group of key `k` is
    the sub-list of the input with key `k` (input order kept, never empty), and every snapshot's key
    has a group. -/
theorem group_partition (g : GroupBy) (l : List Snap) :
    (keys (groupSnapshots g l)).Nodup ∧
    (∀ k grp, (k, grp) ∈ groupSnapshots g l → grp = l.filter (fun s => keyOf g s = k) ∧ grp ≠ []) ∧
    (∀ s ∈ l, ∃ grp, (keyOf g s, grp) ∈ groupSnapshots g l) :=
  groupWith_partition (keyOf g) l

/-- two snapshots of the input end up in the same group iff they agree on the chosen criteria
    (paths and tags as multisets) -/
theorem same_group_iff (g : GroupBy) (l : List Snap) (a b : Snap) (ha : a ∈ l) (hb : b ∈ l) :
    (∃ k grp, (k, grp) ∈ groupSnapshots g l ∧ a ∈ grp ∧ b ∈ grp) ↔
      (g.host = true → a.host = b.host) ∧ (g.path = true → a.paths.Perm b.paths) ∧
      (g.tag = true → a.tags.Perm b.tags) := by
  rw [← keyOf_eq_iff]
  obtain ⟨_, hgrp, hall⟩ := group_partition g l
  constructor
  · rintro ⟨k, grp, hm, hag, hbg⟩
    have := (hgrp k grp hm).1
    rw [this] at hag hbg
    simp only [List.mem_filter, decide_eq_true_eq] at hag hbg
    rw [hag.2, hbg.2]
  · intro he
    obtain ⟨grp, hm⟩ := hall a ha
    refine ⟨_, grp, hm, ?_, ?_⟩
    · rw [(hgrp _ grp hm).1]; simp [ha]
    · rw [(hgrp _ grp hm).1]; simp [hb, he]

theorem groupWith_unique {α : Type} (kf : α → GroupKey) (l : List α) (a : α) (k k' : GroupKey)
    (grp grp' : List α) (h : (k, grp) ∈ groupWith kf l) (h' : (k', grp') ∈ groupWith kf l)
    (ha : a ∈ grp) (ha' : a ∈ grp') : k = k' ∧ grp = grp' := by
  obtain ⟨_, hgrp, _⟩ := groupWith_partition kf l
  have e1 := (hgrp k grp h).1
  have e2 := (hgrp k' grp' h').1
  rw [e1] at ha; rw [e2] at ha'
  simp only [List.mem_filter, decide_eq_true_eq] at ha ha'
  have : k = k' := ha.2.symm.trans ha'.2
  subst this
  exact ⟨rfl, e1.trans e2.symm⟩

theorem group_unique (g : GroupBy) (l : List Snap) (a : Snap) (k k' : GroupKey) (grp grp' : List Snap)
    (h : (k, grp) ∈ groupSnapshots g l) (h' : (k', grp') ∈ groupSnapshots g l)
    (ha : a ∈ grp) (ha' : a ∈ grp') : k = k' ∧ grp = grp' :=
  groupWith_unique (keyOf g) l a k k' grp grp' h h' ha ha'

/-- a filter with all three criteria and a limit selects a proper, non-empty subset -/
example :
    let s0 : Snap := ⟨0, 10, "h1", ["/a", "/b"], ["x", "y"]⟩
    let s1 : Snap := ⟨1, 20, "h1", ["/b", "/a"], ["y"]⟩
    let s2 : Snap := ⟨2, 30, "h2", ["/a"], []⟩
    let f : Filter := ⟨["h1"], [["y"], [""]], ["/a"], some 25⟩
    (findAll f [s0, s1, s2]).map (·.id) = [0, 1] ∧ (findLatest f [s0, s1, s2]).map (·.id) = some 1 ∧
    (findLatest f [s1, s0, s2]).map (·.id) = some 1 := by decide +kernel

/-- grouping by paths merges differently ordered path lists and separates different hosts -/
example :
    let s0 : Snap := ⟨0, 10, "h1", ["/a", "/b"], ["x"]⟩
    let s1 : Snap := ⟨1, 20, "h1", ["/b", "/a"], ["y"]⟩
    let s2 : Snap := ⟨2, 30, "h2", ["/a", "/b"], []⟩
    (groupSnapshots ⟨false, true, true⟩ [s0, s1, s2]).map (fun p => p.2.map (·.id)) = [[0, 1], [2]] := by
  decide

end Restic.Props.C24
