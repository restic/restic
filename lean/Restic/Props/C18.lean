import Restic.Model.RestoreTreeFacts
import Restic.Proofs.C18_Callbacks
import Restic.Proofs.C18_Traverse
/-!
# C18 — restore never touches anything outside the target directory

Statement (properties.jsonl): for any snapshot tree content, including node names such as '..',
'.', names containing path separators, duplicate names, symlinks pointing outside, and any
pre-existing files, directories or symlinks already in the target, restore (with or without
--delete, --overwrite and --sparse) creates, modifies and deletes only paths inside the target
directory.

Model: `RestoreFS.lean` (file system with symlinks and the follow behaviour of each system call),
`RestoreTree.lean` (both passes of `RestoreTo`).

`restore_confined`: for EVERY tree (any names, order, duplicates, node types, link targets, hard
link groups, directories without subtree), EVERY initial file system in which the target
directory itself is a chain of real directories (anything below and beside it: symlinks at any
position, pointing anywhere), EVERY select filter (arbitrary function), delete on/off, overwrite
always/never: every location not strictly inside the target directory has the same entry (type,
content, mode, link target) before and after.

It needs two facts about the source that are FALSE on the unmodified tree (finding F13 and the
duplicate-name / metadata-through-symlink findings) and hold after the two `fix:` commits; both are
regenerated from the source on every run (`source_has_fixes`). For each a negation witness is
proved by evaluation and reproduces on the real binary.
-/
namespace Restic.Props.C18
open Restic.Model.RestoreFS Restic.Model.RestoreTree

structure Setup (cfg : Cfg) : Prop where
  chain : cfg.chainFix = true
  mfix : cfg.metaFix = true
  plainDst : PlainPath cfg.dst
  ne : cfg.dst ≠ []

def Inv2 (cfg : Cfg) (fs0 : FS) (st : St) : Prop :=
  Frame cfg.dst fs0 st.fs ∧ RealFrom st.fs [] cfg.dst

/-- the first pass schedules a file only below a parent chain in which `ensureDir` left no symlink; the
    rest of that pass and the earlier file writes keep it so (`NoNewSym`) -/
def FilesOK (cfg : Cfg) (fs : FS) (files : List (Path × List UInt8)) : Prop :=
  ∀ f ∈ files, PlainPath f.1 ∧ f.1 ≠ [] ∧ NoSymFrom fs [] (cfg.dst ++ f.1.dropLast)

def Inv1 (cfg : Cfg) (fs0 : FS) (st : St) : Prop := Inv2 cfg fs0 st ∧ FilesOK cfg st.fs st.files

theorem filesOK_of_noNewSym {cfg : Cfg} {fs fs' : FS} {files : List (Path × List UInt8)}
    (h : NoNewSym fs fs') (hf : FilesOK cfg fs files) : FilesOK cfg fs' files :=
  fun f hm => ⟨(hf f hm).1, (hf f hm).2.1, (hf f hm).2.2.of_noNewSym h⟩

theorem Inv2.of_frame {cfg : Cfg} {fs0 : FS} {st st' : St} (h : Inv2 cfg fs0 st)
    (hf : Frame cfg.dst st.fs st'.fs) : Inv2 cfg fs0 st' :=
  ⟨h.1.trans hf, h.2.of_frame hf⟩

theorem firstEnterDir_inv (cfg : Cfg) (hs : Setup cfg) (fs0 : FS) (st : St) (rel : Path)
    (hrel : PlainPath rel) (h : Inv1 cfg fs0 st) : Inv1 cfg fs0 (firstEnterDir cfg st rel).1 := by
  obtain ⟨e1, e2, _⟩ := ensureDir_spec cfg hs.chain hs.plainDst hs.ne st.fs rel hrel h.1.2
  exact ⟨h.1.of_frame e1, filesOK_of_noNewSym e2 h.2⟩

theorem firstVisitNode_fs (cfg : Cfg) (st : St) (n : Node) (rel : Path) :
    (firstVisitNode cfg st n rel).1.fs = (ensureDir cfg st.fs rel.dropLast).1 := by
  simp only [firstVisitNode, apply_ite Prod.fst, apply_ite St.fs, ite_self]

theorem mem_ite {α : Type} {c : Prop} [Decidable c] {a : α} {s t : List α}
    (h : a ∈ if c then s else t) : a ∈ s ∨ a ∈ t := by
  split at h
  · exact .inl h
  · exact .inr h

theorem firstVisitNode_files (cfg : Cfg) (st : St) (n : Node) (rel : Path) :
    ∀ f ∈ (firstVisitNode cfg st n rel).1.files,
      f ∈ st.files ∨ (f.1 = rel ∧ (ensureDir cfg st.fs rel.dropLast).2 = true) := by
  intro f hf
  simp only [firstVisitNode, apply_ite Prod.fst, apply_ite St.files, apply_ite St.fs, ite_self] at hf
  cases hok : (ensureDir cfg st.fs rel.dropLast).2
  · exact .inl (by simpa only [hok, Bool.not_false, if_true] using hf)
  · -- each guard that returns early leaves the list as it was; the last branch appends `rel`
    simp only [hok, Bool.not_true, Bool.false_eq_true, if_false] at hf
    iterate 4 (rcases mem_ite hf with h | hf; exact .inl h)
    rcases List.mem_append.mp hf with h | h
    · exact .inl h
    · exact .inr ⟨by rw [List.mem_singleton.mp h], rfl⟩

theorem firstVisitNode_inv (cfg : Cfg) (hs : Setup cfg) (fs0 : FS) (st : St) (n : Node) (rel : Path)
    (hrel : PlainPath rel) (hne : rel ≠ []) (h : Inv1 cfg fs0 st) :
    Inv1 cfg fs0 (firstVisitNode cfg st n rel).1 := by
  obtain ⟨e1, e2, _, e4⟩ := ensureDir_spec cfg hs.chain hs.plainDst hs.ne st.fs rel.dropLast
    (plainPath_dropLast hrel) h.1.2
  refine ⟨h.1.of_frame (by rw [firstVisitNode_fs]; exact e1), ?_⟩
  rw [firstVisitNode_fs]
  intro f hm
  rcases firstVisitNode_files cfg st n rel f hm with h1 | ⟨h1, hok⟩
  · exact filesOK_of_noNewSym e2 h.2 f h1
  · rw [h1]; exact ⟨hrel, hne, (e4 hok).noSym⟩

theorem firstPass_visInv (cfg : Cfg) (hs : Setup cfg) (fs0 : FS) :
    VisInv (firstPass cfg) (Inv1 cfg fs0) where
  err := fun _ h => h
  nodel := fun _ h => h
  enter := by
    intro f hf st rel hrel h
    cases hf
    exact firstEnterDir_inv cfg hs fs0 st rel hrel h
  visit := fun st n rel hrel hne h => firstVisitNode_inv cfg hs fs0 st n rel hrel hne h
  leave := fun f hf => by cases hf
  skipped := fun g hg => by cases hg

theorem restoreOneFile_inv (cfg : Cfg) (hs : Setup cfg) (fs0 : FS) (rd : Bool) (s : St)
    (f : Path × List UInt8) (h : Inv2 cfg fs0 s)
    (hf : PlainPath f.1 ∧ f.1 ≠ [] ∧ NoSymFrom s.fs [] (cfg.dst ++ f.1.dropLast)) :
    Inv2 cfg fs0 (restoreOneFile cfg rd s f) ∧ NoNewSym s.fs (restoreOneFile cfg rd s f).fs := by
  obtain ⟨hp, hne, hns⟩ := hf
  -- the parent chain holds no symlink, so the file is created where its path says, or not at all
  have hlex : Lex s.fs (cfg.dst ++ f.1) := by
    rw [← List.dropLast_concat_getLast hne, ← List.append_assoc]
    exact locate_noSym s.fs _ _ (plainPath_append hs.plainDst (plainPath_dropLast hp))
      (hp _ (List.getLast_mem _)) hns
  obtain ⟨ho, hn⟩ := createFile_only s.fs (cfg.dst ++ f.1) f.2 rd hlex
  have hfr := ho.frame (inside_append cfg.dst f.1 hne)
  unfold restoreOneFile
  generalize createFile s.fs (cfg.dst ++ f.1) f.2 rd = r at hfr hn ⊢
  obtain ⟨fs1, ok⟩ := r
  cases ok <;> exact ⟨h.of_frame hfr, hn⟩

theorem restoreList_inv (cfg : Cfg) (hs : Setup cfg) (fs0 : FS) (rd : Bool)
    (fl : List (Path × List UInt8)) (s : St) (h : Inv2 cfg fs0 s) (hf : FilesOK cfg s.fs fl) :
    Inv2 cfg fs0 (fl.foldl (restoreOneFile cfg rd) s) ∧
    NoNewSym s.fs (fl.foldl (restoreOneFile cfg rd) s).fs :=
  List.foldlRecOn fl _ (motive := fun s' => Inv2 cfg fs0 s' ∧ NoNewSym s.fs s'.fs) ⟨h, .refl _⟩
    fun s' ⟨h1, hn1⟩ f hm =>
      have ⟨h2, hn2⟩ := restoreOneFile_inv cfg hs fs0 rd s' f h1 (filesOK_of_noNewSym hn1 hf f hm)
      ⟨h2, hn1.trans hn2⟩

theorem restoreFiles_inv (cfg : Cfg) (hs : Setup cfg) (fs0 : FS) (rd : Bool) (st : St)
    (h : Inv1 cfg fs0 st) : Inv2 cfg fs0 (restoreFiles cfg rd st) := by
  obtain ⟨h2, hf⟩ := h
  have hsub : ∀ c, FilesOK cfg st.fs (st.files.filter c) := fun c f hm => hf f (List.mem_filter.mp hm).1
  obtain ⟨i1, n1⟩ := restoreList_inv cfg hs fs0 rd _ { st with files := [] } h2 (hsub _)
  exact (restoreList_inv cfg hs fs0 rd _ _ i1 (filesOK_of_noNewSym n1 (hsub _))).1

theorem secondVisitNode_inv (cfg : Cfg) (hs : Setup cfg) (fs0 : FS) (st : St) (n : Node) (rel : Path)
    (hrel : PlainPath rel) (hne : rel ≠ []) (h : Inv2 cfg fs0 st) :
    Inv2 cfg fs0 (secondVisitNode cfg st n rel).1 := by
  obtain ⟨e1, _, _, e4⟩ := ensureDir_spec cfg hs.chain hs.plainDst hs.ne st.fs rel.dropLast
    (plainPath_dropLast hrel) h.2
  unfold secondVisitNode
  rw [if_pos hs.chain]
  generalize ensureDir cfg st.fs rel.dropLast = r at e1 e4 ⊢
  obtain ⟨fs1, ok⟩ := r
  have base : Inv2 cfg fs0 { st with fs := fs1 } := h.of_frame e1
  cases ok with
  | false => exact base
  | true =>
    have hl := Leaf.below hs.plainDst hrel hne (e4 rfl)
    -- every branch changes only `dst ++ rel` and below
    refine base.of_frame (Only.frame ?_ (inside_append cfg.dst _ hne))
    have hmeta := restoreMetadata_only cfg hs.mfix n hl
    simp only [Bool.not_true, Bool.false_eq_true, if_false, apply_ite Prod.fst, apply_ite St.fs]
    refine .ite (.ite (.refl _ _) (restoreNodeTo_only cfg hs.mfix n hl)) ?_
    split
    · simp only [apply_ite Prod.fst, apply_ite St.fs]
      exact .ite (.ite (.refl _ _) (restoreHardlinkAt_only cfg hs.mfix n hl _)) (.ite hmeta (.refl _ _))
    · simp only [apply_ite Prod.fst, apply_ite St.fs]
      exact .ite hmeta (.refl _ _)

theorem secondLeaveDir_inv (cfg : Cfg) (hs : Setup cfg) (fs0 : FS) (st : St) (n : Option Node)
    (rel : Path) (exp : List Name) (hrel : PlainPath rel) (hne : n.isSome = true → rel ≠ [])
    (h : Inv2 cfg fs0 st) : Inv2 cfg fs0 (secondLeaveDir cfg st n rel exp).1 := by
  obtain ⟨e1, _, _, e4⟩ := ensureDir_spec cfg hs.chain hs.plainDst hs.ne st.fs rel hrel h.2
  unfold secondLeaveDir
  rw [if_pos hs.chain]
  generalize ensureDir cfg st.fs rel = r at e1 e4 ⊢
  obtain ⟨fs1, ok⟩ := r
  have base : Inv2 cfg fs0 { st with fs := fs1 } := h.of_frame e1
  cases ok with
  | false => exact base
  | true =>
    have hreal := e4 rfl
    have hd : Frame (cfg.dst ++ rel) fs1
        (if st.delete then removeUnexpectedFiles cfg fs1 rel exp else (fs1, true)).1 := by
      split
      · exact removeUnexpectedFiles_frame cfg fs1 rel exp (plainPath_append hs.plainDst hrel) hreal
      · exact .refl _ _
    simp only [Bool.not_true, Bool.false_eq_true, if_false]
    generalize (if st.delete = true then removeUnexpectedFiles cfg fs1 rel exp else (fs1, true)) = r at hd ⊢
    obtain ⟨fs2, ok1⟩ := r
    have base2 : Inv2 cfg fs0 { st with fs := fs2 } := base.of_frame (hd.mono (List.prefix_append _ _))
    cases ok1 with
    | false => exact base2
    | true =>
      cases n with
      | none => exact base2
      | some nd =>
        -- metadata of the directory itself, below its parent chain
        exact base2.of_frame ((restoreMetadata_only cfg hs.mfix nd (.of_real
          (plainPath_append hs.plainDst hrel) (by simp [hne rfl]) (hreal.of_frame hd))).frame
          (inside_append cfg.dst _ (hne rfl)))

theorem isDirBelowFrom_real (fs : FS) (base : Path) (rest : List Name) (hp : PlainPath (base ++ rest))
    (hr : RealFrom fs [] base) (h : isDirBelowFrom fs base rest = true) :
    RealFrom fs [] (base ++ rest) := by
  induction rest generalizing base with
  | nil => simpa using hr
  | cons c rest ih =>
    rw [List.append_cons] at hp ⊢
    rw [isDirBelowFrom, Bool.and_eq_true, lstat_real fs base c hp.left.left (hp.left c (by simp)) hr] at h
    exact ih (base ++ [c]) hp (hr.snoc h.1) h.2

theorem secondSkippedDir_inv (cfg : Cfg) (hs : Setup cfg) (fs0 : FS) (st : St) (rel : Path)
    (exp : List Name) (hrel : PlainPath rel) (h : Inv2 cfg fs0 st) :
    Inv2 cfg fs0 (secondSkippedDir cfg st rel exp).1 := by
  have hD := plainPath_append hs.plainDst hrel
  unfold secondSkippedDir
  split
  · exact h
  · split
    · exact h
    · next hb =>
      rw [Bool.not_eq_true, Bool.not_eq_false', isDirBelow, Bool.and_eq_true] at hb
      exact h.of_frame ((removeUnexpectedFiles_frame cfg st.fs rel exp hD
        (isDirBelowFrom_real st.fs cfg.dst rel hD h.2 hb.2)).mono (List.prefix_append _ _))

theorem secondPass_visInv (cfg : Cfg) (hs : Setup cfg) (fs0 : FS) :
    VisInv (secondPass cfg) (Inv2 cfg fs0) where
  err := fun _ h => h
  nodel := fun _ h => h
  enter := fun f hf => by cases hf
  visit := fun st n rel hrel hne h => secondVisitNode_inv cfg hs fs0 st n rel hrel hne h
  leave := by
    intro f hf st n rel exp hrel hne h
    cases hf
    exact secondLeaveDir_inv cfg hs fs0 st n rel exp hrel hne h
  skipped := by
    intro g hg st rel exp hrel h
    cases hg
    exact secondSkippedDir_inv cfg hs fs0 st rel exp hrel h

/-- C18: every location not strictly inside the target directory holds the
    same entry before and after the restore. -/
theorem restore_confined (cfg : Cfg) (hs : Setup cfg) (tree : List Node) (fs0 : FS) (delete : Bool)
    (hreal : RealFrom fs0 [] cfg.dst) :
    Frame cfg.dst fs0 (restore cfg tree fs0 delete).fs := by
  unfold restore
  dsimp only
  -- `MkdirAll(dst)` finds the chain in place
  have hmk := mkdirAll_real fs0 cfg.dst 0o700 hs.plainDst hreal
  generalize mkdirAll fs0 cfg.dst 0o700 = r at hmk ⊢
  obtain ⟨fs1, ok⟩ := r
  subst hmk
  cases ok with
  | false => exact .refl _ _
  | true =>
    have h1 := traverseTree_inv cfg (firstPass cfg) _ (firstPass_visInv cfg hs fs1) tree
      ⟨fs1, delete, [], [], [], 0⟩ ⟨⟨.refl _ _, hreal⟩, fun f hf => by cases hf⟩
    simp only [Bool.not_true, Bool.false_eq_true, if_false]
    generalize traverseTree cfg (firstPass cfg) tree ⟨fs1, delete, [], [], [], 0⟩ = r at h1 ⊢
    obtain ⟨st1, fatal⟩ := r
    cases fatal with
    | true => exact h1.1.1
    | false =>
      exact (traverseTree_inv cfg (secondPass cfg) _ (secondPass_visInv cfg hs fs1) tree _
        (restoreFiles_inv cfg hs fs1 delete st1 h1)).1

/-- the executable statement `outsideEq` holds of the transcription -/
theorem restore_meets_spec (cfg : Cfg) (hs : Setup cfg) (tree : List Node) (fs0 : FS) (delete : Bool)
    (hreal : RealFrom fs0 [] cfg.dst) :
    outsideEq cfg.dst fs0 (restore cfg tree fs0 delete).fs = true := by
  have h := restore_confined cfg hs tree fs0 delete hreal
  unfold outsideEq
  simp only [List.all_eq_true, Bool.or_eq_true, beq_iff_eq]
  intro q _
  by_cases hq : cfg.dst <+: q
  · exact Or.inl (List.isPrefixOf_iff_prefix.mpr hq)
  · right
    exact (h q (fun hin => hq hin.1)).symm

theorem outside_untouched (cfg : Cfg) (hs : Setup cfg) (tree : List Node) (fs0 : FS) (delete : Bool)
    (hreal : RealFrom fs0 [] cfg.dst) (q : Path) (hq : ¬ cfg.dst <+: q) :
    (restore cfg tree fs0 delete).fs.get q = fs0.get q :=
  restore_confined cfg hs tree fs0 delete hreal q (fun hin => hq hin.1)

/-- On the current source `ensureDir` checks every component below the target and is called by
    all four visitor call sites, and `restoreNodeMetadataTo` looks at the item first. Fails to
    build on the unmodified tree. -/
theorem source_has_fixes :
    chainFixOfSource = true ∧ metaFixOfSource = true ∧ secondPassShape = true ∧
    skippedDirShape = true := by decide +kernel

/-- Closed world: every transcribed function makes exactly the transcribed operative calls; in
    particular metadata is applied through the guarded `restoreNodeMetadataTo` only. -/
theorem call_graph_closed : callGraphClosed = true := by decide +kernel

/-! ## negation witnesses for the unmodified source, and the same inputs with the fixes -/

def nT : Name := [116]   -- "t": the target directory
def nO : Name := [111]   -- "o": a directory beside it
def nA : Name := [97]
def nB : Name := [98]
def nF : Name := [102]
def nS : Name := [115]

def fileNode (name : Name) (mode : Nat) (links inode : Nat) : Node :=
  .mk name .file mode [120] links inode false [] false []
def dirNode (name : Name) (children : List Node) : Node :=
  .mk name .dir 0o755 [] 1 0 false [] true children
def linkNode (name : Name) (target : List Name) : Node :=
  .mk name .symlink 0o777 [] 1 0 false target false []

def selAll : Path → Bool → Bool × Bool := fun _ _ => (true, true)

/-- `--include /a/b/f` -/
def selABF : Path → Bool → Bool × Bool := fun loc isDir =>
  (loc == [nA, nB, nF], isDir && (loc == [nA] || loc == [nA, nB]))

/-- F13: the target already contains `t/a -> ../o`; `restore --include /a/b/f` creates
    `o/b` and `o/b/f` -/
def fsF13 : FS := ⟨[([nT], .dir 0o755), ([nT, nA], .symlink false [dotdot, nO]), ([nO], .dir 0o755)]⟩
def treeF13 : List Node := [dirNode nA [dirNode nB [fileNode nF 0o644 1 0]]]

theorem f13_witness :
    outsideEq [nT] fsF13 (restore ⟨[nT], selABF, .always, false, false⟩ treeF13 fsF13 false).fs = false ∧
    (restore ⟨[nT], selABF, .always, false, false⟩ treeF13 fsF13 false).fs.get [nO, nB, nF]
      = some (.file [120] 0o644) := by decide

theorem f13_fixed :
    outsideEq [nT] fsF13 (restore ⟨[nT], selABF, .always, true, true⟩ treeF13 fsF13 false).fs = true ∧
    (restore ⟨[nT], selABF, .always, true, true⟩ treeF13 fsF13 false).fs.get [nT, nA, nB, nF]
      = some (.file [120] 0o644) := by decide

/-- duplicate names: a symlink `s -> ../o/f` and a regular file `s` (mode 0777) in one tree.
    The file is restored, replaced by the symlink in the second pass, and the file's metadata
    is then applied through the symlink: `o/f` outside the target gets mode 0777. -/
def fsDup : FS := ⟨[([nT], .dir 0o755), ([nO], .dir 0o755), ([nO, nF], .file [1] 0o600)]⟩
def treeDup : List Node := [linkNode nS [dotdot, nO, nF], fileNode nS 0o777 1 0]

theorem dup_witness :
    outsideEq [nT] fsDup (restore ⟨[nT], selAll, .always, false, false⟩ treeDup fsDup false).fs = false ∧
    (restore ⟨[nT], selAll, .always, false, false⟩ treeDup fsDup false).fs.get [nO, nF]
      = some (.file [1] 0o777) := by decide

/-- the ancestor fix alone does not help here, the metadata check is needed -/
theorem dup_needs_metaFix :
    outsideEq [nT] fsDup (restore ⟨[nT], selAll, .always, true, false⟩ treeDup fsDup false).fs = false := by
  decide

theorem dup_fixed :
    outsideEq [nT] fsDup (restore ⟨[nT], selAll, .always, true, true⟩ treeDup fsDup false).fs = true := by
  decide

/-- duplicate names, directory variant: symlink `a -> ../o` and directory `a` containing a
    symlink `f`: in the second pass the (still empty) directory is replaced by the symlink and
    `f` is then removed and created in `o` -/
def treeDupDir : List Node := [linkNode nA [dotdot, nO], dirNode nA [linkNode nF [nB]]]

theorem dupdir_witness :
    (restore ⟨[nT], selAll, .always, false, false⟩ treeDupDir fsDup false).fs.get [nO, nF]
      = some (.symlink false [nB]) := by decide

theorem dupdir_fixed :
    outsideEq [nT] fsDup (restore ⟨[nT], selAll, .always, true, true⟩ treeDupDir fsDup false).fs = true := by
  decide

/-- `--overwrite never`, hard link group `a`,`b`, and `t/a` already is a symlink to `o/f`:
    `a` is kept, `b` becomes a hard link to the symlink, and `b`'s mode is applied through it -/
def fsHL : FS := ⟨[([nT], .dir 0o755), ([nT, nA], .symlink false [dotdot, nO, nF]),
  ([nO], .dir 0o755), ([nO, nF], .file [1] 0o600)]⟩
def treeHL : List Node := [fileNode nA 0o777 2 7, fileNode nB 0o777 2 7]

theorem hardlink_symlink_witness :
    (restore ⟨[nT], selAll, .never, false, false⟩ treeHL fsHL false).fs.get [nO, nF]
      = some (.file [1] 0o777) := by decide

theorem hardlink_symlink_fixed :
    outsideEq [nT] fsHL (restore ⟨[nT], selAll, .never, true, true⟩ treeHL fsHL false).fs = true := by
  decide

/-- `skippedDir` (--delete, nothing restored in `a`): a stale selected entry of a traversed
    directory is removed … -/
def selOnlyStale : Path → Bool → Bool × Bool := fun loc isDir =>
  (loc == [nA, nS], isDir && loc == [nA])
def fsSkip : FS := ⟨[([nT], .dir 0o755), ([nT, nA], .dir 0o755), ([nT, nA, nS], .file [1] 0o600),
  ([nT, nA, nF], .file [2] 0o600), ([nO], .dir 0o755), ([nO, nS], .file [3] 0o600)]⟩
def treeSkip : List Node := [dirNode nA [fileNode nF 0o644 1 0]]

theorem skippedDir_deletes_inside :
    (restore ⟨[nT], selOnlyStale, .always, true, true⟩ treeSkip fsSkip true).fs.get [nT, nA, nS] = none ∧
    (restore ⟨[nT], selOnlyStale, .always, true, true⟩ treeSkip fsSkip true).fs.get [nT, nA, nF]
      = some (.file [2] 0o600) ∧
    outsideEq [nT] fsSkip (restore ⟨[nT], selOnlyStale, .always, true, true⟩ treeSkip fsSkip true).fs = true := by
  decide

/-- … but not through a symlink: with `t/a -> ../o` the guard `isDirBelow` fails and `o/s`
    (which the filter would select) stays -/
def fsSkipLink : FS := ⟨[([nT], .dir 0o755), ([nT, nA], .symlink false [dotdot, nO]),
  ([nO], .dir 0o755), ([nO, nS], .file [3] 0o600)]⟩

theorem skippedDir_not_through_symlink :
    (restore ⟨[nT], selOnlyStale, .always, true, true⟩ treeSkip fsSkipLink true).fs.get [nO, nS]
      = some (.file [3] 0o600) ∧
    outsideEq [nT] fsSkipLink (restore ⟨[nT], selOnlyStale, .always, true, true⟩ treeSkip fsSkipLink true).fs = true := by
  decide

/-- the hypotheses of `restore_confined` are satisfiable: the F13 input with the fixes -/
example : Setup ⟨[nT], selABF, .always, true, true⟩ :=
  ⟨rfl, rfl, by intro n hn; simp at hn; subst hn; exact ⟨by decide, by decide, by decide⟩, by decide⟩

example : RealFrom fsF13 [] [nT] := by
  intro k h1 h2
  have : k = 1 := by simp at h2; omega
  subst this
  decide

/-- invalid names are rejected by the transcribed checks, plain ones pass -/
example : nameCheck1 dotdot = false ∧ nameCheck1 dot = false ∧ nameCheck1 [] = false ∧
    nameCheck1 [97, 47, 98] = false ∧ nameCheck1 slash = true ∧ nameCheck1 nA = true := by decide +kernel

end Restic.Props.C18
