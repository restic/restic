import Restic.Model.RepairPacks
import Restic.Proofs.C33_Rewrite
import Restic.Props.C33
import Restic.Gen.Source
/-!
# C34 — repair packs and repair snapshots salvage all intact data

Theorems about `Restic.Model.RepairPacks` (transcription of `RepairPacks` /
`reuploadBlobsFromPack` with `MasterIndex.Rewrite` reused from C33, and of the repair callbacks
of `repair snapshots` over `TreeRewriter.RewriteTree`). All statements are for all inputs: any
set of named packs, any index / header entry lists, any loadability oracle, any tree.
-/
namespace Restic.Props.C34
open Restic.Model.RepairIndex Restic.Model.RepairPacks Restic.Proofs.C33

abbrev PEv := Restic.Model.RepairPacks.Ev
abbrev PTEv := Restic.Model.RepairPacks.TEv

theorem mem_reupload {loadable : ID → Entry → Bool} {p : ID} {blobs : List Entry} {h : Handle} :
    h ∈ reupload loadable p blobs ↔ ∃ e ∈ blobs, loadable p e = true ∧ handleOf e = h := by
  unfold reupload
  simp only [List.mem_map, List.mem_filter, mem_sortOff]
  constructor
  · rintro ⟨e, ⟨h1, h2⟩, h3⟩; exact ⟨e, h1, h2, h3⟩
  · rintro ⟨e, h1, h2, h3⟩; exact ⟨e, ⟨h1, h2⟩, h3⟩

theorem mem_repairOne {loadable : ID → Entry → Bool} {np : NamedPack} {h : Handle} :
    h ∈ repairOne loadable np ↔
      ∃ e, (e ∈ np.idx ∨ e ∈ np.hdr.getD []) ∧ loadable np.id e = true ∧ handleOf e = h := by
  unfold repairOne
  simp only [List.mem_append, mem_reupload, or_and_right, exists_or]
  cases np.hdr with
  | none => exact or_congr_right ⟨fun h => (nomatch h), fun ⟨_, h, _⟩ => nomatch h⟩
  | some hb =>
    by_cases hs : sortOff np.idx = sortOff hb
    · -- index entry and header agree: the header's blobs were handled through the index entry
      have hsub : ∀ e ∈ hb, e ∈ np.idx := fun e he => mem_sortOff.mp (hs ▸ mem_sortOff.mpr he)
      simp only [hs, bne_self_eq_false, Bool.false_eq_true, if_false, List.not_mem_nil, or_false,
        Option.getD_some]
      exact ⟨Or.inl, fun h => h.elim id fun ⟨e, he, r⟩ => ⟨e, hsub e he, r⟩⟩
    · simp only [bne_iff_ne, ne_eq, hs, not_false_eq_true, if_true, mem_reupload, Option.getD_some]

theorem repairOne_salvages (loadable : ID → Entry → Bool) (np : NamedPack) (e : Entry)
    (he : e ∈ np.idx ∨ e ∈ np.hdr.getD []) (hl : loadable np.id e = true) :
    handleOf e ∈ repairOne loadable np :=
  mem_repairOne.mpr ⟨e, he, hl, rfl⟩

theorem mem_uploaded {loadable : ID → Entry → Bool} {named : List NamedPack} {idxs : List IdxFile} {h : Handle} :
    h ∈ (repairPacks loadable named idxs).uploaded ↔ ∃ np ∈ named, h ∈ repairOne loadable np :=
  List.mem_flatMap

/-- **salvage_all**: every blob of a named pack — listed by the index or by the readable pack
    header — that `loadBlobsFromPack` can still deliver is uploaded again (before the pack is removed:
    `uploads_before_removes`). -/
theorem salvage_all (loadable : ID → Entry → Bool) (named : List NamedPack) (idxs : List IdxFile)
    (np : NamedPack) (hnp : np ∈ named) (e : Entry)
    (he : e ∈ np.idx ∨ e ∈ np.hdr.getD []) (hl : loadable np.id e = true) :
    handleOf e ∈ (repairPacks loadable named idxs).uploaded :=
  mem_uploaded.mpr ⟨np, hnp, repairOne_salvages loadable np e he hl⟩

theorem uploaded_sound (loadable : ID → Entry → Bool) (named : List NamedPack) (idxs : List IdxFile)
    (h : Handle) (hh : h ∈ (repairPacks loadable named idxs).uploaded) :
    ∃ np ∈ named, ∃ e, (e ∈ np.idx ∨ e ∈ np.hdr.getD []) ∧ loadable np.id e = true ∧ handleOf e = h :=
  let ⟨np, hnp, hh⟩ := mem_uploaded.mp hh
  ⟨np, hnp, mem_repairOne.mp hh⟩

def isRemovePack : PEv → Bool | .removePack _ => true | _ => false

/-- **uploads_before_removes**: the command's trace is `pre ++ removals` where `pre`
    removes no pack and contains every upload and the flush that stores the new packs and their
    index; the removals are exactly the named packs. -/
theorem uploads_before_removes (loadable : ID → Entry → Bool) (named : List NamedPack) (idxs : List IdxFile) :
    ∃ pre, (repairPacks loadable named idxs).trace = pre ++ named.map (fun np => Restic.Model.RepairPacks.Ev.removePack np.id) ∧
      (∀ ev ∈ pre, isRemovePack ev = false) ∧
      (∀ h ∈ (repairPacks loadable named idxs).uploaded, Restic.Model.RepairPacks.Ev.upload h ∈ pre) ∧
      Restic.Model.RepairPacks.Ev.flush ∈ pre := by
  refine ⟨_, rfl, ?_, ?_, ?_⟩
  · intro ev hev
    simp only [List.mem_append, List.mem_map, List.mem_singleton] at hev
    rcases hev with (⟨h, _, rfl⟩ | rfl) | (hev | ⟨i, _, rfl⟩)
    · rfl
    · rfl
    · split at hev
      · cases hev
      · simp only [List.mem_singleton] at hev; subst hev; rfl
    · rfl
  · intro h hh
    exact List.mem_append_left _ (List.mem_append_left _ (List.mem_map.mpr ⟨h, hh, rfl⟩))
  · exact List.mem_append_left _ (List.mem_append_right _ (List.mem_singleton.mpr rfl))

/-- the index afterwards (old files kept or rewritten by `Rewrite(excludePacks = ids)`): exactly
    the old entries of the packs that were not named; the named packs are no longer indexed -/
theorem index_after (loadable : ID → Entry → Bool) (named : List NamedPack) (idxs : List IdxFile)
    (hnd : idxs.Nodup) (x : ID × Entry) :
    x ∈ out (repairPacks loadable named idxs).rw ↔
      x.1 ∉ named.map (·.id) ∧ x ∈ loadedEntries idxs := by
  -- `.rw` is this `rewrite` by definition. The instance of `rewrite_exact` is elaborated on its own
  -- (`have`): elaborated against the goal, the unifier unfolds `repairPacks` and `rewrite` and
  -- runs out of heartbeats
  have h : (repairPacks loadable named idxs).rw = rewrite (named.map (·.id)) idxs [] := rfl
  rw [h]
  have := Restic.Props.C33.rewrite_exact (named.map (·.id)) idxs [] hnd x
  exact this

theorem named_deindexed (loadable : ID → Entry → Bool) (named : List NamedPack) (idxs : List IdxFile)
    (hnd : idxs.Nodup) (np : NamedPack) (hnp : np ∈ named) (e : Entry) :
    (np.id, e) ∉ out (repairPacks loadable named idxs).rw := by
  intro h
  exact ((index_after loadable named idxs hnd (np.id, e)).mp h).1 (List.mem_map.mpr ⟨np, hnp, rfl⟩)

/-- the transcription meets the executable statement `specPacks`, for an abstract final state:
    handles available afterwards ⊇ `other` ∪ uploaded, named packs neither stored nor indexed.
    `h2` and `h3` are the second and third conjunct of `specPacks`, assumed of that state; what is
    proved is the first, from `salvage_all`. -/
theorem repairPacks_spec (loadable : ID → Entry → Bool) (named : List NamedPack) (idxs : List IdxFile)
    (other availAfter : List Handle) (packsAfter idxPacksAfter : List ID)
    (h1 : ∀ h ∈ (repairPacks loadable named idxs).uploaded, h ∈ availAfter)
    (h2 : ∀ h ∈ other, h ∈ availAfter)
    (h3 : ∀ np ∈ named, np.id ∉ packsAfter ∧ np.id ∉ idxPacksAfter) :
    specPacks loadable named other availAfter packsAfter idxPacksAfter = true := by
  unfold specPacks
  simp only [Bool.and_eq_true, List.all_eq_true, List.mem_append, Bool.or_eq_true,
    Bool.not_eq_true', List.contains_eq_mem, decide_eq_true_eq, decide_eq_false_iff_not]
  refine ⟨⟨?_, h2⟩, h3⟩
  intro np hnp e he
  by_cases hl : loadable np.id e = true
  · exact Or.inr (h1 _ (salvage_all loadable named idxs np hnp e he hl))
  · exact Or.inl (by simpa using hl)

theorem phase2_only_removes (named : List ID) (t : List PTEv)
    (h : acceptFrom named 2 t = true) : ∀ e ∈ t, ∃ i, e = .removeData i ∧ i ∈ named := by
  induction t with
  | nil => intro e he; cases he
  | cons a t ih =>
    intro e he
    cases a with
    | saveData | saveIndex | removeIndex | other => exact absurd h Bool.false_ne_true
    | removeData i =>
      simp only [acceptFrom, Bool.and_eq_true, List.contains_eq_mem, decide_eq_true_eq] at h
      rcases List.mem_cons.mp he with rfl | he
      · exact ⟨i, rfl, h.1⟩
      · exact ih h.2 e he

/-- In an accepted trace, once a pack has been removed nothing is saved any more, and only named
    packs are removed: every salvaged blob and the index describing it were stored before. -/
theorem accept_remove_last (named : List ID) (a b : List PTEv) (x : ID) :
    ∀ ph, acceptFrom named ph (a ++ Restic.Model.RepairPacks.TEv.removeData x :: b) = true →
      x ∈ named ∧ ∀ e ∈ b, ∃ i, e = Restic.Model.RepairPacks.TEv.removeData i ∧ i ∈ named := by
  induction a with
  | nil =>
    intro ph h
    simp only [List.nil_append, acceptFrom, Bool.and_eq_true, List.contains_eq_mem, decide_eq_true_eq] at h
    exact ⟨h.1, phase2_only_removes named b h.2⟩
  | cons e a ih =>
    intro ph h
    cases e with
    | saveData | saveIndex => simp only [List.cons_append, acceptFrom, Bool.and_eq_true] at h; exact ih 0 h.2
    | removeIndex i => simp only [List.cons_append, acceptFrom, Bool.and_eq_true] at h; exact ih 1 h.2
    | removeData i => simp only [List.cons_append, acceptFrom, Bool.and_eq_true] at h; exact ih 2 h.2
    | other w => exact absurd h Bool.false_ne_true

theorem fixContent_all (avail : ID → Option Nat) (c : List ID) :
    (fixContent avail c).all (fun i => (avail i).isSome) = true := by
  unfold fixContent
  rw [List.all_eq_true]
  intro i hi
  exact (List.mem_filter.mp hi).2

theorem fixContent_id (avail : ID → Option Nat) (c : List ID)
    (h : c.all (fun i => (avail i).isSome) = true) : fixContent avail c = c := by
  unfold fixContent
  rw [List.filter_eq_self]
  simpa [List.all_eq_true] using h

mutual
/-- **rwNode_ok**, `rwNodes_ok` (tree level): whatever the tree looked like, the rewritten
    tree satisfies everything `check` demands: all file contents are indexed, sizes agree, every
    subtree is present and OK, no node of invalid type is left. -/
theorem rwNode_ok (avail : ID → Option Nat) : ∀ (n n' : Node), rwNode avail n = some n' → nodeOK avail n' = true
  | .file nm m c s, n', h => by
    simp only [rwNode, Option.some.injEq] at h; subst h
    simp [nodeOK, fixContent_all]
  | .dir nm m sub, n', h => by
    simp only [rwNode, Option.some.injEq] at h; subst h
    simp only [nodeOK, subOK]; exact rwSub_ok avail sub
  | .other nm m, n', h => by
    simp only [rwNode, Option.some.injEq] at h; subst h; rfl
  | .invalid nm m, n', h => by simp [rwNode] at h
theorem rwSub_ok (avail : ID → Option Nat) : ∀ (s : Sub), nodesOK avail (rwSub avail s) = true
  | .missing => by simp [rwSub, nodesOK]
  | .tree ns => by simp only [rwSub]; exact rwNodes_ok avail ns
theorem rwNodes_ok (avail : ID → Option Nat) : ∀ (ns : Nodes), nodesOK avail (rwNodes avail ns) = true
  | .nil => by simp [rwNodes, nodesOK]
  | .cons n rest => by
    simp only [rwNodes]
    cases h : rwNode avail n with
    | none => simp only; exact rwNodes_ok avail rest
    | some n' =>
      simp only [nodesOK, Bool.and_eq_true]
      exact ⟨rwNode_ok avail n n' h, rwNodes_ok avail rest⟩
end

/-- **repaired_snapshots_checkok** (snapshot level): a repaired snapshot (root readable) has an OK tree -/
theorem repaired_snapshots_checkok (avail : ID → Option Nat) (root : Sub) (ns : Nodes)
    (h : rwRoot avail root = some ns) : nodesOK avail ns = true := by
  cases root with
  | missing => simp [rwRoot] at h
  | tree t => simp only [rwRoot, Option.some.injEq] at h; subst h; exact rwNodes_ok avail t

/-- **intact_file_unchanged** (node level): a file whose blobs are all available and whose
    recorded size is the sum of the blob sizes is returned unchanged -/
theorem intact_file_unchanged (avail : ID → Option Nat) (n : Node) (h : intactFile avail n = true) :
    rwNode avail n = some n := by
  cases n with
  | file nm m c s =>
    simp only [intactFile, Bool.and_eq_true, beq_iff_eq] at h
    simp only [rwNode, Option.some.injEq]
    rw [fixContent_id avail c h.1, ← h.2]
  | dir nm m sub => simp [intactFile] at h
  | other nm m => simp [intactFile] at h
  | invalid nm m => simp [intactFile] at h

mutual
/-- a tree that is OK is not changed at all (healthy snapshots are left alone) -/
theorem ok_node_unchanged (avail : ID → Option Nat) : ∀ (n : Node), nodeOK avail n = true → rwNode avail n = some n
  | .file nm m c s, h => intact_file_unchanged avail _ (by simpa [intactFile, nodeOK] using h)
  | .dir nm m sub, h => by
    cases sub with
    | missing => simp [nodeOK, subOK] at h
    | tree ns =>
      simp only [nodeOK, subOK] at h
      simp only [rwNode, rwSub, Option.some.injEq]
      rw [ok_nodes_unchanged avail ns h]
  | .other nm m, _ => rfl
  | .invalid nm m, h => by simp [nodeOK] at h
theorem ok_nodes_unchanged (avail : ID → Option Nat) : ∀ (ns : Nodes), nodesOK avail ns = true → rwNodes avail ns = ns
  | .nil, _ => rfl
  | .cons n rest, h => by
    simp only [nodesOK, Bool.and_eq_true] at h
    simp only [rwNodes, ok_node_unchanged avail n h.1, ok_nodes_unchanged avail rest h.2]
end

theorem rw_idempotent (avail : ID → Option Nat) (ns : Nodes) :
    rwNodes avail (rwNodes avail ns) = rwNodes avail ns :=
  ok_nodes_unchanged avail _ (rwNodes_ok avail ns)

theorem rwNode_name (avail : ID → Option Nat) (n n' : Node) (h : rwNode avail n = some n') :
    n'.name = n.name := by
  cases n with
  | invalid => simp only [rwNode] at h; cases h
  | file | dir | other => simp only [rwNode, Option.some.injEq] at h; subst h; rfl

theorem find_rw (avail : ID → Option Nat) (x : String) : ∀ (ns : Nodes) (n n' : Node),
    ns.find x = some n → rwNode avail n = some n' → (rwNodes avail ns).find x = some n'
  | .nil, n, n', h, _ => by simp [Nodes.find] at h
  | .cons a rest, n, n', h, hr => by
    simp only [Nodes.find] at h
    by_cases hx : (a.name == x) = true
    · simp only [hx, if_true, Option.some.injEq] at h; subst h
      have hn := rwNode_name avail a n' hr
      simp only [rwNodes, hr, Nodes.find, hn, hx, if_true]
    · simp only [hx, Bool.false_eq_true, if_false] at h
      simp only [rwNodes]
      cases ha : rwNode avail a with
      | none => exact find_rw avail x rest n n' h hr
      | some a' =>
        have hn := rwNode_name avail a a' ha
        simp only [Nodes.find, hn, hx, Bool.false_eq_true, if_false]
        exact find_rw avail x rest n n' h hr

/-- **intact_files_unchanged** (path level): a file reachable under some path through loadable
    directories whose data is fully available is found unchanged under the same path in the
    repaired tree. -/
theorem intact_files_unchanged (avail : ID → Option Nat) : ∀ (path : List String) (ns : Nodes) (f : Node),
    lookup path ns = some f → intactFile avail f = true → lookup path (rwNodes avail ns) = some f
  | [], ns, f, h, _ => by simp [lookup] at h
  | [x], ns, f, h, hi => by
    simp only [lookup] at h ⊢
    exact find_rw avail x ns f f h (intact_file_unchanged avail f hi)
  | x :: y :: rest, ns, f, h, hi => by
    simp only [lookup] at h ⊢
    cases hf : ns.find x with
    | none => rw [hf] at h; simp at h
    | some d =>
      rw [hf] at h
      cases d with
      | dir nm m sub =>
        cases sub with
        | missing => simp at h
        | tree t =>
          simp only at h
          have := find_rw avail x ns (.dir nm m (.tree t)) (.dir nm m (.tree (rwNodes avail t))) hf
            (by simp [rwNode, rwSub])
          rw [this]
          exact intact_files_unchanged avail (y :: rest) t f h hi
      | file nm m c s => simp at h
      | other nm m => simp at h
      | invalid nm m => simp at h

/-- `RepairPacks` (calls listed by end position): `reuploadBlobsFromPack`, called in the closure
    passed to `WithBlobUploader`, ends before `WithBlobUploader` returns (which flushes packs and
    index); then the index is rewritten, and the pack files are removed last. -/
theorem repairPacks_call_order :
    Restic.Gen.RepairPacks_calls.idxOf "reuploadBlobsFromPack" < Restic.Gen.RepairPacks_calls.idxOf "repo.WithBlobUploader"
    ∧ Restic.Gen.RepairPacks_calls.idxOf "repo.WithBlobUploader" < Restic.Gen.RepairPacks_calls.idxOf "rewriteIndexFiles"
    ∧ Restic.Gen.RepairPacks_calls.idxOf "rewriteIndexFiles" < Restic.Gen.RepairPacks_calls.idxOf "restic.ParallelRemove"
    ∧ "restic.ParallelRemove" ∈ Restic.Gen.RepairPacks_calls := by decide +kernel

/-- `reuploadBlobsFromPack` saves what `loadBlobsFromPack` delivers -/
theorem reupload_calls :
    "uploader.SaveBlob" ∈ Restic.Gen.reuploadBlobsFromPack_calls
    ∧ "repo.loadBlobsFromPack" ∈ Restic.Gen.reuploadBlobsFromPack_calls := by decide +kernel

def b1 : Entry := ⟨0, "b1", 0, 100, 0⟩
def b2 : Entry := ⟨0, "b2", 100, 50, 0⟩
def b3 : Entry := ⟨0, "b3", 150, 60, 0⟩
/-- pack "p": the index knows b1, b2; the header also lists b3; b2 is damaged -/
def exNamed : List NamedPack := [⟨"p", [b1, b2], some [b1, b2, b3]⟩]
def exLoadable : ID → Entry → Bool := fun _ e => e.id != "b2"

example : (repairPacks exLoadable exNamed []).uploaded = [⟨0, "b1"⟩, ⟨0, "b1"⟩, ⟨0, "b3"⟩] := by decide +kernel
example : specPacks exLoadable exNamed [] [⟨0, "b1"⟩, ⟨0, "b3"⟩] [] [] = true := by decide +kernel
/-- the spec is not trivial: losing b3 violates it -/
example : specPacks exLoadable exNamed [] [⟨0, "b1"⟩] [] [] = false := by decide +kernel

def exAvail : ID → Option Nat := fun i => if i == "gone" then none else some 10
def exTree : Nodes :=
  .cons (.file "a" "m" ["x", "gone", "y"] 30)
  (.cons (.dir "d" "m" .missing)
  (.cons (.invalid "weird" "m")
  (.cons (.dir "e" "m" (.tree (.cons (.file "ok" "m" ["x"] 10) .nil))) .nil)))
example : rwNodes exAvail exTree =
  .cons (.file "a" "m" ["x", "y"] 20)
  (.cons (.dir "d" "m" (.tree .nil))
  (.cons (.dir "e" "m" (.tree (.cons (.file "ok" "m" ["x"] 10) .nil))) .nil)) := by rfl
example : nodesOK exAvail exTree = false := by decide +kernel
example : lookup ["e", "ok"] exTree = some (.file "ok" "m" ["x"] 10) := by rfl
example : intactFile exAvail (.file "ok" "m" ["x"] 10) = true := by decide +kernel

end Restic.Props.C34
