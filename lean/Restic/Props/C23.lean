import Restic.Model.Forget
import Restic.Props.C22
import Restic.Props.C24
import Restic.Gen.Source
import Restic.Proofs.Basics
/-!
# C23 — forget never removes a whole group and removes only what it reports

About `Restic.Model.Forget.runForget` (the decision logic of `runForget`), built on C24 (selection,
grouping) and C22 (`ApplyPolicy`).
-/
namespace Restic.Props.C23
open Restic.Model.Snapshots Restic.Model.Policy Restic.Model.Forget

/-- T1 (call order in the current source): `ApplyPolicy` and the "refusing to delete last snapshot"
    error (identified as the first `fmt.Errorf` of `runForget`) come before the only removal call
    `restic.ParallelRemove` -/
theorem guard_before_remove :
    Restic.Gen.runForget_calls.idxOf "data.ApplyPolicy" < Restic.Gen.runForget_calls.idxOf "fmt.Errorf" ∧
    Restic.Gen.runForget_calls.idxOf "fmt.Errorf" < Restic.Gen.runForget_calls.idxOf "restic.ParallelRemove" ∧
    Restic.Gen.runForget_calls.idxOf "policy.Empty" < Restic.Gen.runForget_calls.idxOf "restic.ParallelRemove" ∧
    Restic.Gen.runForget_calls.count "restic.ParallelRemove" = 1 ∧
    "repo.RemoveUnpacked" ∉ Restic.Gen.runForget_calls := by decide +kernel

theorem dedup_mem (l : List Nat) (n : Nat) : n ∈ dedup l ↔ n ∈ l := by
  induction l with
  | nil => rfl
  | cons x xs ih =>
    unfold dedup
    by_cases hc : xs.contains x = true
    · rw [if_pos hc, ih]
      exact ⟨List.mem_cons_of_mem _, fun h => (List.mem_cons.mp h).elim (fun e => e ▸ by simpa using hc) id⟩
    · rw [if_neg hc, List.mem_cons, List.mem_cons, ih]

theorem removal_removed_mem (o : Opts) (failing : List Nat) (gs : List GroupReport) (rs : List Nat) (n : Nat)
    (h : n ∈ (removal o failing gs rs).removed) : n ∈ rs := by
  unfold removal at h
  split at h
  · cases h
  · exact (List.mem_filter.mp h).1

theorem removal_dry (o : Opts) (failing : List Nat) (gs : List GroupReport) (rs : List Nat)
    (h : o.dryRun = true) : (removal o failing gs rs).removed = [] := by
  simp [removal, h]

theorem removal_ok (o : Opts) (failing : List Nat) (gs : List GroupReport) (rs : List Nat)
    (hd : o.dryRun = false) (h : (removal o failing gs rs).outcome = .ok) :
    (removal o failing gs rs).removed = rs := by
  simp only [removal, hd, Bool.false_eq_true, if_false] at h ⊢
  by_cases hl : ((rs.filter fun i => !failing.contains i).length == rs.length) = true
  · exact List.filter_eq_self.mpr (List.length_filter_eq_length_iff.mp (beq_iff_eq.mp hl))
  · rw [if_neg hl] at h; cases h

theorem removal_groups (o : Opts) (failing : List Nat) (gs : List GroupReport) (rs : List Nat) :
    (removal o failing gs rs).groups = gs ∧ (removal o failing gs rs).removeSet = rs := by
  unfold removal; split <;> exact ⟨rfl, rfl⟩

theorem removal_outcome (o : Opts) (failing : List Nat) (gs : List GroupReport) (rs : List Nat) :
    (removal o failing gs rs).outcome = .ok ∨ (removal o failing gs rs).outcome = .error "remove-failed" := by
  unfold removal
  split
  · exact Or.inl rfl
  · simp only; split
    · exact Or.inl rfl
    · exact Or.inr rfl

/-- a run either aborts before the removal step (nothing reported, nothing removed) or reaches it
    with explicit ids (`ids`) or with the per-group reports of the policy -/
inductive Shape (sub : Int → Dur → Int) (now : Int) (visit : List PSnap) (latestRes : Option Snap)
    (failing : List Nat) (o : Opts) : Run → Prop where
  | aborted (oc : Outcome) (h : oc ≠ .ok) (h' : oc ≠ .error "remove-failed") :
      Shape sub now visit latestRes failing o (abort oc)
  | ids (hargs : o.args ≠ []) :
      Shape sub now visit latestRes failing o
        (removal o failing [] (dedup (snapIds (findAllIds o.filter latestRes o.args))))
  | policy (hargs : o.args = [])
      (hguard : o.policy.empty = true → o.unsafeAllowRemoveAll = true ∧ o.filter.empty = false)
      (reports : List GroupReport)
      (hrep : ∀ g ∈ groupP o.groupBy (visit.filter fun s => o.filter.matches s.sn),
        ∃ r ∈ reports, groupDecision sub now o.policy g.2 = some r)
      (hrep' : ∀ r ∈ reports, ∃ g ∈ groupP o.groupBy (visit.filter fun s => o.filter.matches s.sn),
        groupDecision sub now o.policy g.2 = some r) :
      Shape sub now visit latestRes failing o (removal o failing reports (dedup (reports.flatMap (·.remove))))

theorem runForget_shape (sub : Int → Dur → Int) (now : Int) (visit : List PSnap) (latestRes : Option Snap)
    (failing : List Nat) (o : Opts) :
    Shape sub now visit latestRes failing o (runForget sub now visit latestRes failing o) := by
  unfold runForget
  -- the early returns in source order; every `abort` but the one for a `FindAll` error carries a
  -- literal outcome
  cases verifyOpts o.policy with
  | some why => exact .aborted _ nofun nofun
  | none =>
  dsimp only
  by_cases hlock : (o.noLock && !o.dryRun) = true
  · rw [if_pos hlock]; exact .aborted _ nofun nofun
  rw [if_neg hlock]
  by_cases hargs : o.args = []
  · rw [if_neg (by simp [hargs])]
    by_cases h1 : (o.policy.empty && !o.unsafeAllowRemoveAll) = true
    · rw [if_pos h1]; exact .aborted _ nofun nofun
    rw [if_neg h1]
    by_cases h2 : (o.policy.empty && o.filter.empty) = true
    · rw [if_pos h2]; exact .aborted _ nofun nofun
    rw [if_neg h2]
    by_cases h3 : ((groupP o.groupBy (visit.filter fun s => o.filter.matches s.sn)).map
        fun g => groupDecision sub now o.policy g.2).any (·.isNone) = true
    · rw [if_pos h3]; exact .aborted _ nofun (by simp)
    rw [if_neg h3]
    refine .policy hargs ?_ _ (fun g hg => ?_) fun r hr => ?_
    · intro he
      rw [he] at h1 h2
      exact ⟨by simpa using h1, by simpa using h2⟩
    · simp only [List.any_map, List.any_eq_true, Function.comp_def, not_exists, not_and,
        Bool.not_eq_true, Option.isNone_eq_false_iff] at h3
      obtain ⟨r, hr⟩ := Option.isSome_iff_exists.mp (h3 g hg)
      exact ⟨r, List.mem_filterMap.mpr ⟨some r, List.mem_map.mpr ⟨g, hg, hr⟩, rfl⟩, hr⟩
    · obtain ⟨x, hx, rfl⟩ := List.mem_filterMap.mp hr
      obtain ⟨g, hg, hx⟩ := List.mem_map.mp hx
      exact ⟨g, hg, hx⟩
  · rw [if_pos (by simpa using hargs)]
    cases hf : (findAllIds o.filter latestRes o.args).find?
        (fun e => match e with | .err _ => true | _ => false) with
    | none => exact .ids hargs
    | some e =>
      cases e with
      | snap n => exact .ids hargs
      | err k =>
        -- "remove-failed" is not an error kind of `FindAll`
        refine .aborted _ nofun fun e => ?_
        have := Restic.Props.C24.findAllIds_err _ _ _ k (List.mem_of_find?_eq_some hf)
        rw [Outcome.error.inj e] at this
        simp at this

/- The `shape_*` lemmas are about a variable run `r`, which the case analysis on `Shape` needs; the theorems on
   `runForget` further down are these at `runForget_shape`. -/
section
variable {sub : Int → Dur → Int} {now : Int} {visit : List PSnap} {latestRes : Option Snap}
  {failing : List Nat} {o : Opts} {r : Run}

theorem shape_dry (hs : Shape sub now visit latestRes failing o r) (h : o.dryRun = true) : r.removed = [] := by
  cases hs with
  | aborted => rfl
  | _ => exact removal_dry _ _ _ _ h

theorem shape_abort (hs : Shape sub now visit latestRes failing o r)
    (h : r.outcome ≠ .ok) (h' : r.outcome ≠ .error "remove-failed") : r.removed = [] := by
  cases hs with
  | aborted => rfl
  | _ => exact (removal_outcome _ _ _ _).elim (absurd · h) (absurd · h')

theorem shape_removed (hs : Shape sub now visit latestRes failing o r) :
    (∀ n ∈ r.removed, n ∈ r.removeSet) ∧
    (r.outcome = .ok → o.dryRun = false → r.removed = r.removeSet) := by
  cases hs with
  | aborted => exact ⟨fun _ h => h, fun _ _ => rfl⟩
  | _ =>
    rw [(removal_groups _ _ _ _).2]
    exact ⟨removal_removed_mem _ _ _ _, fun h hd => removal_ok _ _ _ _ hd h⟩

theorem shape_reported (hs : Shape sub now visit latestRes failing o r) (hargs : o.args = []) (n : Nat) :
    n ∈ r.removeSet ↔ ∃ g ∈ r.groups, n ∈ g.remove := by
  cases hs with
  | aborted => simp [abort]
  | ids ha => exact absurd hargs ha
  | policy _ _ reports _ _ =>
    rw [(removal_groups _ _ _ _).1, (removal_groups _ _ _ _).2, dedup_mem, List.mem_flatMap]

theorem shape_ids (hs : Shape sub now visit latestRes failing o r) (hargs : o.args ≠ []) (n : Nat) :
    (n ∈ r.removeSet → Arg.id n false ∈ o.args ∨ (Arg.latest ∈ o.args ∧ ∃ s, latestRes = some s ∧ s.id = n)) ∧
    (r.outcome = .ok ∨ r.outcome = .error "remove-failed" → Arg.id n false ∈ o.args → n ∈ r.removeSet) := by
  cases hs with
  | aborted oc h1 h2 => exact ⟨nofun, fun h => h.elim (absurd · h1) (absurd · h2)⟩
  | ids =>
    have hmem : n ∈ dedup (snapIds (findAllIds o.filter latestRes o.args)) ↔
        Ev.snap n ∈ findAllIds o.filter latestRes o.args := by
      rw [dedup_mem, snapIds, List.mem_filterMap]
      refine ⟨fun ⟨e, he, hn⟩ => ?_, fun h => ⟨_, h, rfl⟩⟩
      cases e with
      | snap m => cases hn; exact he
      | err k => cases hn
    have key := Restic.Props.C24.findAllIds_spec o.filter latestRes o.args n
    rw [(removal_groups _ _ _ _).2, hmem]
    exact ⟨key.1, fun _ h => key.2 h⟩
  | policy ha => exact absurd ha hargs

theorem groupDecision_some (sub : Int → Dur → Int) (now : Int) (p : Policy) (grp : List PSnap) (rep : GroupReport)
    (h : groupDecision sub now p grp = some rep) :
    ∃ ds, applyPolicy sub now grp p = .ok ds ∧ rep.keep = (keepOf ds).map (·.sn.id) ∧
      rep.remove = (removeOf ds).map (·.sn.id) ∧ (p.empty = false → keepOf ds ≠ []) := by
  unfold groupDecision at h
  cases hds : applyPolicy sub now grp p with
  | panic => rw [hds] at h; cases h
  | ok ds =>
    rw [hds] at h
    dsimp only at h
    by_cases hcond : (!p.empty && ((keepOf ds).map (·.sn.id)).isEmpty) = true
    · rw [if_pos hcond] at h; cases h
    · rw [if_neg hcond] at h
      cases h
      exact ⟨ds, rfl, rfl, rfl, fun hp he => hcond (by simp [hp, he])⟩

theorem shape_keep_nonempty (hs : Shape sub now visit latestRes failing o r) (hargs : o.args = [])
    (hp : o.policy.empty = false) : ∀ g ∈ r.groups, g.keep ≠ [] := by
  cases hs with
  | aborted => exact nofun
  | ids ha => exact absurd hargs ha
  | policy _ _ reports _ hrep' =>
    rw [(removal_groups _ _ _ _).1]
    intro g hg
    obtain ⟨grp, _, hd⟩ := hrep' g hg
    obtain ⟨ds, _, hk, _, hne⟩ := groupDecision_some _ _ _ _ _ hd
    rw [hk]
    exact fun e => hne hp (List.map_eq_nil_iff.mp e)

theorem shape_empty_policy (hs : Shape sub now visit latestRes failing o r) (hargs : o.args = [])
    (hp : o.policy.empty = true) (hu : ¬ (o.unsafeAllowRemoveAll = true ∧ o.filter.empty = false)) :
    r.removed = [] ∧ r.outcome ≠ .ok := by
  cases hs with
  | aborted oc h _ => exact ⟨rfl, h⟩
  | ids ha => exact absurd hargs ha
  | policy _ hguard => exact absurd (hguard hp) hu

theorem shape_group_survives (hs : Shape sub now visit latestRes failing o r) (hargs : o.args = [])
    (hp : o.policy.empty = false) (hids : (visit.map (·.sn.id)).Nodup) :
    ∀ g ∈ groupP o.groupBy (visit.filter fun s => o.filter.matches s.sn), ∃ s ∈ g.2, s.sn.id ∉ r.removed := by
  have hinj := Proofs.inj_of_nodup_map _ _ hids
  have hgrp : ∀ g ∈ groupP o.groupBy (visit.filter fun s => o.filter.matches s.sn),
      g.2.Sublist visit ∧ g.2 ≠ [] := fun g hg => by
    obtain ⟨hf, hne⟩ := (Restic.Props.C24.groupWith_partition _ _).2.1 g.1 g.2 hg
    exact ⟨hf ▸ List.filter_sublist.trans List.filter_sublist, hne⟩
  have hrem := (shape_removed hs).1
  have hrepd := shape_reported hs hargs
  cases hs with
  | aborted =>
    intro g hg
    obtain ⟨a, ha⟩ := List.exists_mem_of_ne_nil _ (hgrp g hg).2
    exact ⟨a, ha, nofun⟩
  | ids ha => exact absurd hargs ha
  | policy _ _ reports hrep hrep' =>
    intro g hg
    obtain ⟨rep, _, hdec⟩ := hrep g hg
    obtain ⟨ds, hds, _, _, hne⟩ := groupDecision_some _ _ _ _ _ hdec
    obtain ⟨x, hxk⟩ := List.exists_mem_of_ne_nil _ (hne hp)
    have hperm := Restic.Props.C22.partition sub now g.2 o.policy ds hds
    have hxg : x ∈ g.2 := hperm.mem_iff.mp (List.mem_append_left _ hxk)
    refine ⟨x, hxg, fun hxr => ?_⟩
    -- were it removed, some group `g'` would report a snapshot `y` with the id of `x` as removed
    obtain ⟨rep', hrep'm, hxin⟩ := (hrepd _).mp (hrem _ hxr)
    rw [(removal_groups _ _ _ _).1] at hrep'm
    obtain ⟨g', hg', hdec'⟩ := hrep' rep' hrep'm
    obtain ⟨ds', hds', _, hr', _⟩ := groupDecision_some _ _ _ _ _ hdec'
    rw [hr', List.mem_map] at hxin
    obtain ⟨y, hyr, hyid⟩ := hxin
    have hyg : y ∈ g'.2 := (Restic.Props.C22.partition sub now g'.2 o.policy ds' hds').mem_iff.mp
      (List.mem_append_right _ hyr)
    -- ids being distinct `y` is `x`, so `g'` is `g` and `x` is kept and removed by the same decisions
    obtain rfl : y = x := hinj y ((hgrp g' hg').1.subset hyg) x ((hgrp g hg).1.subset hxg) hyid
    obtain ⟨_, hgg⟩ := Restic.Props.C24.groupWith_unique _ _ y g.1 g'.1 g.2 g'.2 hg hg' hxg hyg
    rw [← hgg, hds] at hds'
    cases hds'
    have hgn : g.2.Nodup := (List.Pairwise.of_map _ (fun _ _ hne e => hne (by rw [e])) hids).sublist (hgrp g hg).1
    exact (List.nodup_append.mp (hperm.nodup_iff.mpr hgn)).2.2 y hxk y hyr rfl

end

open Restic.Props.C22

/-- in a non-empty list some snapshot starts a run with no run before it (the first whose key is
    not `prev`), or the list ends inside the run of `prev` -/
theorem first_run (k : Kind) (l : List PSnap) (hl : l ≠ []) (nr : Nat) (prev : Int) :
    ∃ pre s rest, l = pre ++ s :: rest ∧ runHeads prev (keysOf k nr pre) = 0 ∧
      (bucketKey k s.civ (nr + pre.length) != lastOr prev (keysOf k nr pre) || rest.isEmpty) = true := by
  induction l generalizing nr with
  | nil => exact absurd rfl hl
  | cons s t ih =>
    by_cases hnew : bucketKey k s.civ nr ≠ prev ∨ t = []
    · exact ⟨[], s, t, rfl, rfl, by simpa [lastOr, keysOf] using hnew⟩
    · simp only [not_or, Decidable.not_not] at hnew
      obtain ⟨pre, x, rest, hsplit, hrun, hhit⟩ := ih hnew.2 (nr + 1)
      refine ⟨s :: pre, x, rest, by rw [hsplit]; rfl, ?_, ?_⟩
      · simp [keysOf, runHeads, hnew.1, hrun]
      · rw [List.length_cons, ← Nat.add_assoc, Nat.add_right_comm]
        simpa [keysOf, lastOr, hnew.1] using hhit

/-- a policy with any count rule (n > 0 or unlimited) keeps at least one
    snapshot of every non-empty list — so only policies made of keep-tag / keep-within rules can
    run into the "refusing to delete last snapshot" guard -/
theorem keep_nonempty_of_count (sub : Int → Dur → Int) (now : Int) (l : List PSnap) (p : Policy)
    (ds : List Decision) (h : applyPolicy sub now l p = .ok ds) (hl : l ≠ [])
    (k : Kind) (hk : p.countOf k > 0 ∨ p.countOf k = -1) : keepOf ds ≠ [] := by
  have hsne : sortNewestFirst l ≠ [] := fun e => hl (e ▸ sort_perm l).symm.eq_nil
  obtain ⟨pre, s, rest, hsplit, hrun, hhit⟩ := first_run k _ hsne 0 (-1)
  -- at that position the rule `k` still has its full count
  refine List.ne_nil_of_mem ((keep_iff sub now l p ds h s).mpr ⟨pre, rest, hsplit, ?_⟩)
  simp only [keptRuns, Bool.or_eq_true, List.any_eq_true]
  refine .inl (.inr ⟨k, by cases k <;> simp [countKinds], ?_⟩)
  rw [Nat.zero_add] at hhit
  simp only [countRuleRuns, hrun, hhit, Bool.and_true, Bool.or_eq_true, beq_iff_eq, decide_eq_true_eq]
  exact hk.symm

section
variable (sub : Int → Dur → Int) (now : Int) (visit : List PSnap) (latestRes : Option Snap)
  (failing : List Nat) (o : Opts)

/-- `--dry-run` deletes nothing, in policy mode and with explicit ids alike -/
theorem dryrun_no_remove (h : o.dryRun = true) : (runForget sub now visit latestRes failing o).removed = [] :=
  shape_dry (runForget_shape sub now visit latestRes failing o) h

/-- a run that fails for any reason other than a failing backend removal
    (option errors, unknown or malformed ids, "refusing to delete last snapshot") removes nothing -/
theorem abort_no_remove (h : (runForget sub now visit latestRes failing o).outcome ≠ .ok)
    (h' : (runForget sub now visit latestRes failing o).outcome ≠ .error "remove-failed") :
    (runForget sub now visit latestRes failing o).removed = [] :=
  shape_abort (runForget_shape sub now visit latestRes failing o) h h'

/-- Policy mode: every deleted snapshot is reported as removed by some
    group; after a successful run without `--dry-run` the deleted snapshots are exactly the reported ones -/
theorem removed_eq_reported (hargs : o.args = []) (n : Nat) :
    (n ∈ (runForget sub now visit latestRes failing o).removed →
      ∃ g ∈ (runForget sub now visit latestRes failing o).groups, n ∈ g.remove) ∧
    ((runForget sub now visit latestRes failing o).outcome = .ok → o.dryRun = false →
      (n ∈ (runForget sub now visit latestRes failing o).removed ↔
        ∃ g ∈ (runForget sub now visit latestRes failing o).groups, n ∈ g.remove)) := by
  have hs := runForget_shape sub now visit latestRes failing o
  have h1 := shape_removed hs
  have h2 := shape_reported hs hargs n
  refine ⟨fun hn => h2.mp (h1.1 n hn), fun hok hd => ?_⟩
  rw [h1.2 hok hd]; exact h2

/-- Explicit ids: only named snapshots (or the resolved `latest`) are
    deleted, and after a successful run without `--dry-run` every named snapshot is deleted -/
theorem ids_removed_named (hargs : o.args ≠ []) (n : Nat) :
    (n ∈ (runForget sub now visit latestRes failing o).removed →
      Arg.id n false ∈ o.args ∨ (Arg.latest ∈ o.args ∧ ∃ s, latestRes = some s ∧ s.id = n)) ∧
    ((runForget sub now visit latestRes failing o).outcome = .ok → o.dryRun = false →
      Arg.id n false ∈ o.args → n ∈ (runForget sub now visit latestRes failing o).removed) := by
  have hs := runForget_shape sub now visit latestRes failing o
  have h1 := shape_removed hs
  have h2 := shape_ids hs hargs n
  refine ⟨fun hn => h2.1 (h1.1 n hn), fun hok hd hn => ?_⟩
  rw [h1.2 hok hd]; exact h2.2 (Or.inl hok) hn

/-- As reported: with a non-empty policy every reported group keeps a snapshot -/
theorem no_group_emptied (hargs : o.args = []) (hp : o.policy.empty = false) :
    ∀ g ∈ (runForget sub now visit latestRes failing o).groups, g.keep ≠ [] :=
  shape_keep_nonempty (runForget_shape sub now visit latestRes failing o) hargs hp

/-- `no_group_emptied` for the repository itself: with a non-empty policy, every group of the selected
    snapshots retains at least one snapshot, whatever the outcome of the run -/
theorem group_survives (hargs : o.args = []) (hp : o.policy.empty = false)
    (hids : (visit.map (·.sn.id)).Nodup) :
    ∀ g ∈ groupP o.groupBy (visit.filter fun s => o.filter.matches s.sn),
      ∃ s ∈ g.2, s.sn.id ∉ (runForget sub now visit latestRes failing o).removed :=
  shape_group_survives (runForget_shape sub now visit latestRes failing o) hargs hp hids

/-- an empty policy removes nothing, and the run fails, unless
    `--unsafe-allow-remove-all` is combined with a snapshot filter -/
theorem empty_policy_guard (hargs : o.args = []) (hp : o.policy.empty = true)
    (hu : ¬ (o.unsafeAllowRemoveAll = true ∧ o.filter.empty = false)) :
    (runForget sub now visit latestRes failing o).removed = [] ∧
    (runForget sub now visit latestRes failing o).outcome ≠ .ok :=
  shape_empty_policy (runForget_shape sub now visit latestRes failing o) hargs hp hu

end

def mk (id : Nat) (t : Int) (host : String) (d : Int) : PSnap :=
  ⟨⟨id, t, host, ["/p"], []⟩, ⟨2024, 5, d, 8, 2024, 19⟩⟩
def exRepo : List PSnap := [mk 0 100 "h1" 10, mk 1 200 "h1" 11, mk 2 300 "h2" 12, mk 3 400 "h1" 13]
def exOpts (dry : Bool) (p : Policy) : Opts :=
  { policy := p, unsafeAllowRemoveAll := false, dryRun := dry, noLock := false,
    filter := ⟨[], [], [], none⟩, groupBy := ⟨false, true, true⟩, args := [] }

/-- keep-last 1 with two host groups: each group keeps its newest snapshot (3 of `h1`, 2 of `h2`) and
    the two older ones of `h1` are removed; the same with `--dry-run` removes nothing; a keep-tag policy
    that matches nothing is refused; an empty policy is fatal -/
example :
    (runForget (fun t _ => t) 1000 exRepo none [] (exOpts false (onlyLast 1))).removed = [1, 0] ∧
    (runForget (fun t _ => t) 1000 exRepo none [] (exOpts false (onlyLast 1))).groups = [⟨[3], [1, 0]⟩, ⟨[2], []⟩] ∧
    (runForget (fun t _ => t) 1000 exRepo none [] (exOpts true (onlyLast 1))).removed = [] ∧
    (runForget (fun t _ => t) 1000 exRepo none [] (exOpts false { onlyLast 0 with tags := [["zz"]] })).outcome = .error "refuse" ∧
    (runForget (fun t _ => t) 1000 exRepo none [] (exOpts false (onlyLast 0))).outcome = .fatal "no-policy" := by
  decide

end Restic.Props.C23
