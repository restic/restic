import Restic.Proofs.C56_Inv
import Restic.Proofs.C56_FirstPos
import Restic.Gen.Source
/-!
# C56 — The index hash table behaves as a multimap

Statement (properties.jsonl): for any sequence of insertions, including many entries with equal
keys, colliding buckets and table growth, looking up a blob ID yields exactly the entries inserted
for it, the first-entry position of a key never changes, and iteration yields every entry once.

All theorems are about `Restic.Model.IndexMap` (transcription of `indexmap.go`), for **every** hash
function, every history of `add`/`preallocate` operations of any length below the
`2^bloomShift` entry limit of the data structure (beyond it the Go code panics by design), every id.
`bloomShift`/`maxLoad` are the regenerated constants of the current source.
-/
namespace Restic.Props.C56
open Restic.Model.IndexMap Restic.Proofs.C56

theorem bloomShift_lt_wordBits : bloomShift < wordBits := by decide

theorem maxLoad_pos : 0 < maxLoad := by decide

/-- T1 (regenerated from indexmap.go): `add` grows the table *before* it hashes the id (the bucket
    is computed for the new table size), then allocates the entry and builds the pointer word with
    `bloomInsertID`; `preallocate` rehashes with `bloomInsertID` and grows the block list last -/
theorem add_call_order :
    Restic.Gen.indexMap_add_calls.idxOf "m.preallocate" < Restic.Gen.indexMap_add_calls.idxOf "m.hash"
    ∧ Restic.Gen.indexMap_add_calls.idxOf "m.hash" < Restic.Gen.indexMap_add_calls.idxOf "m.newEntry"
    ∧ "bloomInsertID" ∈ Restic.Gen.indexMap_add_calls
    ∧ "bloomInsertID" ∈ Restic.Gen.indexMap_preallocate_calls
    ∧ Restic.Gen.indexMap_preallocate_calls.getLast? = some "m.blockList.preallocate" := by decide +kernel

section
variable (hash : ID → Nat)

/-- the value inserted at position `p` (1-based); total, `default` outside `1 .. ins.length` -/
def valAt (ins : List Val) (p : Nat) : Val := ins.getD (p - 1) default

theorem valAt_succ (ins : List Val) {i : Nat} (h : i < ins.length) : valAt ins (i + 1) = ins[i] := by
  rw [valAt, Nat.add_sub_cancel, List.getD_eq_getElem?_getD, List.getElem?_eq_getElem h]; rfl

theorem range_map_valAt (ins : List Val) : (List.range' 1 ins.length).map (valAt ins) = ins := by
  apply List.ext_getElem
  · simp
  · intro i h1 h2
    simp [valAt, List.getD_eq_getElem?_getD, h2]

theorem peek_valAt {m : IndexMap} {ins : List Val} (inv : Inv hash m ins) {p : Nat} (h0 : 0 < p)
    (hs : p < m.blockList.size) : ∃ e, m.blockList.peek p = some e ∧ e.v = valAt ins p := by
  obtain ⟨e, he⟩ := inv.wf.peek_some hs
  obtain ⟨i, rfl⟩ := Nat.exists_eq_succ_of_ne_zero (Nat.ne_of_gt h0)
  have hi : i < ins.length := Nat.lt_of_succ_lt_succ (Nat.lt_of_lt_of_eq hs inv.size)
  have := inv.vals i hi
  rw [he] at this
  exact ⟨e, he, (Option.some.inj this).trans (valAt_succ ins hi).symm⟩

theorem filterMap_peek_map_v {m : IndexMap} {ins : List Val} (inv : Inv hash m ins) (ps : List Nat)
    (h : ∀ p, p ∈ ps → 0 < p ∧ p < m.blockList.size) :
    (ps.filterMap m.blockList.peek).map (·.v) = ps.map (valAt ins) := by
  induction ps with
  | nil => rfl
  | cons p ps ih =>
    obtain ⟨e, he, hv⟩ := peek_valAt hash inv (h p List.mem_cons_self).1 (h p List.mem_cons_self).2
    rw [List.filterMap_cons_some he, List.map_cons, List.map_cons, hv,
      ih fun q hq => h q (List.mem_cons_of_mem _ hq)]

theorem idAt_eq {m : IndexMap} {ins : List Val} (inv : Inv hash m ins) {p : Nat} (h0 : 0 < p)
    (hs : p < m.blockList.size) : idAt m.blockList p = some (valAt ins p).id := by
  obtain ⟨e, he, hv⟩ := peek_valAt hash inv h0 hs
  simp [idAt, he, hv]

def positionsOf (ins : List Val) (id : ID) : List Nat :=
  (List.range' 1 ins.length).filter fun p => decide ((valAt ins p).id = id)

theorem positionsOf_map (ins : List Val) (id : ID) :
    (positionsOf ins id).map (valAt ins) = ins.filter (fun v => decide (v.id = id)) := by
  have := List.filter_map (f := valAt ins) (p := fun v => decide (v.id = id)) (l := List.range' 1 ins.length)
  rw [range_map_valAt] at this
  rw [this]; rfl

theorem mem_positionsOf (ins : List Val) (id : ID) (p : Nat) :
    p ∈ positionsOf ins id ↔ 0 < p ∧ p < ins.length + 1 ∧ (valAt ins p).id = id := by
  simp only [positionsOf, List.mem_filter, List.mem_range'_1, decide_eq_true_eq]
  constructor
  · rintro ⟨⟨h1, h2⟩, h3⟩; exact ⟨by omega, by omega, h3⟩
  · rintro ⟨h1, h2, h3⟩; exact ⟨⟨by omega, by omega⟩, h3⟩

theorem matching_perm {m : IndexMap} {ins : List Val} (inv : Inv hash m ins) (id : ID) {w : Nat} {l : List Nat}
    (c : Chain m.blockList w l)
    (ml : ∀ p, p ∈ l ↔ (0 < p ∧ p < m.blockList.size ∧ ∃ id', idAt m.blockList p = some id' ∧
      bucketOf hash m.buckets.size id' = bucketOf hash m.buckets.size id)) :
    (matching m.blockList id l).Perm (positionsOf ins id) := by
  have hmp := mem_positionsOf ins id
  unfold matching positionsOf at *
  rw [List.perm_ext_iff_of_nodup (c.nodup.filter _)
    ((List.nodup_range' (step := 1) (by omega)).filter _)]
  intro p
  rw [hmp]
  simp only [List.mem_filter, decide_eq_true_eq, ml p]
  have hsz := inv.size
  constructor
  · rintro ⟨⟨h0, hs, _⟩, hid⟩
    rw [idAt_eq hash inv h0 hs] at hid
    exact ⟨h0, by omega, Option.some.inj hid⟩
  · rintro ⟨h0, hs, hid⟩
    have hs' : p < m.blockList.size := by omega
    have := idAt_eq hash inv h0 hs'
    exact ⟨⟨h0, hs', _, this, by rw [hid]⟩, by rw [this, hid]⟩

/-- closed form of the lookups in a reachable state: they read the positions of the values inserted
    for `id`, newest first (a chain is sorted, whatever the hash) -/
structure Lookup (m : IndexMap) (ins : List Val) (id : ID) : Prop where
  valuesWithID : m.valuesWithID hash id = .ok ((positionsOf ins id).reverse.filterMap m.blockList.peek)
  get : m.get hash id = .ok ((positionsOf ins id).reverse.filterMap m.blockList.peek).head?
  firstIndex : m.firstIndex hash id = .ok (firstOf (-1) (positionsOf ins id).reverse)
  vals : ((positionsOf ins id).reverse.filterMap m.blockList.peek).map (·.v) =
    (ins.filter fun v => decide (v.id = id)).reverse

theorem State.lookup {m : IndexMap} {ins : List Val} (st : State hash m ins) (id : ID) : Lookup hash m ins id := by
  rcases st with ⟨hb, _, _, hins⟩ | inv
  · subst hins
    exact { valuesWithID := by simp [IndexMap.valuesWithID, hb, positionsOf], get := by simp [IndexMap.get, hb, positionsOf],
            firstIndex := by simp [IndexMap.firstIndex, hb, firstOf, positionsOf], vals := rfl }
  · have hw := Array.getElem?_eq_getElem (bucketOf_lt hash inv.nb id)
    obtain ⟨l, cl, ml⟩ := inv.part.chains _ _ hw
    have hne : (m.buckets.size == 0) = false := by simpa using Nat.ne_of_gt inv.nb
    have walk := cl.walk id _ cl.length_le_size
    -- two sorted lists with the same members
    have hm : matching m.blockList id l = (positionsOf ins id).reverse :=
      List.Perm.eq_of_pairwise (le := (· > ·)) (fun a b _ _ h1 h2 => absurd h1 (Nat.lt_asymm h2)) (cl.pairwise.filter _)
        (List.pairwise_reverse.mpr ((List.pairwise_lt_range' (s := 1) (n := ins.length)).filter _))
        ((matching_perm hash inv id cl ml).trans (List.reverse_perm _).symm)
    rw [hm] at walk
    refine {
      valuesWithID := by simp only [IndexMap.valuesWithID, hashOf_eq, hne, hw, Bool.false_eq_true, if_false]; exact walk.values
      get := by simp only [IndexMap.get, hashOf_eq, hne, hw, Bool.false_eq_true, if_false]; exact walk.get
      firstIndex := by simp only [IndexMap.firstIndex, hashOf_eq, hne, hw, Bool.false_eq_true, if_false]; exact walk.first _
      vals := ?_ }
    rw [filterMap_peek_map_v hash inv _ (fun p hp => cl.mem_bounds p (List.mem_filter.mp (hm ▸ hp)).1), List.map_reverse,
      positionsOf_map]

/-- **valuesWithID_multimap**: `valuesWithID` yields exactly the values inserted for the id (as a multiset) -/
theorem valuesWithID_multimap {m : IndexMap} {ins : List Val} (st : State hash m ins) (id : ID) :
    ∃ L, m.valuesWithID hash id = .ok L ∧ (L.map (·.v)).Perm (ins.filter fun v => decide (v.id = id)) :=
  ⟨_, (State.lookup hash st id).valuesWithID, (State.lookup hash st id).vals ▸ List.reverse_perm _⟩

theorem get_eq_head {m : IndexMap} {ins : List Val} (st : State hash m ins) (id : ID) :
    ∃ L, m.valuesWithID hash id = .ok L ∧ m.get hash id = .ok L.head? :=
  ⟨_, (State.lookup hash st id).valuesWithID, (State.lookup hash st id).get⟩

/-- **get_spec**: `get` finds an inserted entry of the id, and `none` iff nothing was inserted for it -/
theorem get_spec {m : IndexMap} {ins : List Val} (st : State hash m ins) (id : ID) :
    ∃ r, m.get hash id = .ok r ∧
      (r = none ↔ ∀ v, v ∈ ins → v.id ≠ id) ∧ (∀ e, r = some e → e.v ∈ ins ∧ e.v.id = id) := by
  obtain ⟨L, hL, hg⟩ := get_eq_head hash st id
  obtain ⟨L', hL', hperm⟩ := valuesWithID_multimap hash st id
  rw [hL] at hL'; cases hL'
  have hmem : ∀ v, v ∈ L.map (·.v) ↔ v ∈ ins ∧ v.id = id := fun v => by rw [hperm.mem_iff]; simp
  refine ⟨L.head?, hg, ?_, fun e he => (hmem e.v).mp (List.mem_map_of_mem (List.mem_of_mem_head? he))⟩
  rw [List.head?_eq_none_iff, ← List.map_eq_nil_iff (f := (·.v)), List.eq_nil_iff_forall_not_mem]
  exact ⟨fun h v hv hid => h v ((hmem v).mpr ⟨hv, hid⟩), fun h v hv => h v ((hmem v).mp hv).1 ((hmem v).mp hv).2⟩

theorem firstOf_eq_firstPos (ins : List Val) (id : ID) {ps : List Nat} (hp : ps.Perm (positionsOf ins id)) :
    firstOf (-1) ps = firstPos ins id := by
  have hmem := fun p => hp.mem_iff.trans (mem_positionsOf ins id p)
  have hpos : ∀ p, p ∈ ps → ∃ q, p = q + 1 ∧ ∃ h : q < ins.length, ins[q].id = id := fun p hp' => by
    obtain ⟨h0, hs, hv⟩ := (hmem p).mp hp'
    obtain ⟨q, rfl⟩ := Nat.exists_eq_succ_of_ne_zero (Nat.ne_of_gt h0)
    have hq := Nat.lt_of_succ_lt_succ hs
    exact ⟨q, rfl, hq, valAt_succ ins hq ▸ hv⟩
  rcases firstPos_cases ins id with ⟨h1, hno⟩ | ⟨i, hi, hl, hid, hmin⟩
  · have : ps = [] := List.eq_nil_iff_forall_not_mem.mpr fun p hp' => by
      obtain ⟨q, _, hq, hv⟩ := hpos p hp'
      exact hno _ (List.getElem_mem hq) hv
    rw [this, h1]; rfl
  · have hi1 : i + 1 ∈ ps :=
      (hmem _).mpr ⟨Nat.succ_pos i, Nat.succ_lt_succ hl, (valAt_succ ins hl).symm ▸ hid⟩
    rcases firstOf_spec ps with ⟨hnil, _⟩ | ⟨p, hp', hr, hle⟩
    · rw [hnil] at hi1; cases hi1
    · obtain ⟨q, rfl, hq, hv⟩ := hpos p hp'
      -- `q` is not before the first entry of `id`, and not behind it
      have h1 : i ≤ q := Nat.le_of_not_lt fun hlt => hmin _ hlt hv
      rw [hr, hi, Nat.le_antisymm (Nat.le_of_succ_le_succ (hle _ hi1)) h1]

/-- `firstIndex` is the position of the first insertion of the id (`-1` if none) -/
theorem firstIndex_eq {m : IndexMap} {ins : List Val} (st : State hash m ins) (id : ID) :
    m.firstIndex hash id = .ok (firstPos ins id) := by
  rw [(State.lookup hash st id).firstIndex, firstOf_eq_firstPos ins id (List.reverse_perm _)]

theorem refAll_eq (hat : HAT) (ps : List Nat) (h : ∀ p, p ∈ ps → p < hat.size)
    (hs : ∀ p, p ∈ ps → (hat.peek p).isSome) : refAll hat ps = .ok (ps.filterMap hat.peek) := by
  induction ps with
  | nil => rfl
  | cons p ps ih =>
    obtain ⟨e, he⟩ := Option.isSome_iff_exists.mp (hs p List.mem_cons_self)
    simp only [refAll, ref_of_peek (h p List.mem_cons_self) he, Res.bind,
      ih (fun q hq => h q (List.mem_cons_of_mem _ hq)) (fun q hq => hs q (List.mem_cons_of_mem _ hq)),
      List.filterMap_cons, he]

/-- **values_eq**: iteration yields exactly the inserted values, each once (in insertion order) -/
theorem values_eq {m : IndexMap} {ins : List Val} (st : State hash m ins) :
    ∃ L, m.values = .ok L ∧ L.map (·.v) = ins := by
  rcases st with ⟨_, _, hs, hins⟩ | inv
  · subst hins; exact ⟨[], by simp [IndexMap.values, hs, refAll], rfl⟩
  · have hsz := inv.size
    have hb : ∀ p, p ∈ List.range' 1 (m.blockList.size - 1) → 0 < p ∧ p < m.blockList.size := by
      intro p hp; rw [List.mem_range'_1] at hp; omega
    refine ⟨_, refAll_eq _ _ (fun p hp => (hb p hp).2) (fun p hp => ?_), ?_⟩
    · obtain ⟨e, he⟩ := inv.wf.peek_some (hb p hp).2
      simp [he]
    · rw [filterMap_peek_map_v hash inv _ hb]
      have : m.blockList.size - 1 = ins.length := by omega
      rw [this, range_map_valAt]

theorem len_eq {m : IndexMap} {ins : List Val} (st : State hash m ins) : m.len = ins.length := by
  rcases st with ⟨_, hn, _, hins⟩ | inv
  · subst hins; simpa [IndexMap.len] using hn
  · exact inv.num

theorem inserted_append (a b : List Op) : inserted (a ++ b) = inserted a ++ inserted b := by
  induction a with
  | nil => rfl
  | cons op a ih => cases op <;> simp [inserted, ih]

theorem run_append (a b : List Op) (m : IndexMap) :
    run hash (a ++ b) m = (run hash a m).bind (run hash b) := by
  induction a generalizing m with
  | nil => rfl
  | cons op a ih =>
    simp only [List.cons_append, run]
    cases step hash m op <;> simp [Res.bind, ih]

theorem run_state (ops : List Op) (m : IndexMap) (ins : List Val) (st : State hash m ins)
    (hb : ins.length + (inserted ops).length < 2 ^ bloomShift) :
    ∃ m', run hash ops m = .ok m' ∧ State hash m' (ins ++ inserted ops) := by
  induction ops generalizing m ins with
  | nil => exact ⟨m, rfl, (List.append_nil ins).symm ▸ st⟩
  | cons op ops ih =>
    cases op with
    | add v =>
      have hb : ins.length + ((inserted ops).length + 1) < 2 ^ bloomShift := hb
      obtain ⟨m1, h1, inv1⟩ := add_spec hash st v
        (Nat.lt_of_le_of_lt (Nat.add_le_add_left (Nat.le_add_left ..) _) hb)
      obtain ⟨m', h', st'⟩ := ih m1 (ins ++ [v]) (Or.inr inv1)
        (by rw [List.length_append, Nat.add_assoc, Nat.add_comm _ (inserted ops).length]; exact hb)
      exact ⟨m', by rw [run, step, h1]; exact h', by rw [inserted, List.append_cons]; exact st'⟩
    | prealloc n =>
      obtain ⟨m1, h1, st1, _⟩ := preallocate_spec hash st n
      obtain ⟨m', h', st'⟩ := ih m1 ins st1 hb
      exact ⟨m', by rw [run, step, h1]; exact h', st'⟩

/-- **run_refines**: every history with fewer than `2^bloomShift` insertions runs without
    panic or non-termination and ends in a state that represents exactly the inserted values -/
theorem run_refines (ops : List Op) (hb : (inserted ops).length < 2 ^ bloomShift) :
    ∃ m, run hash ops IndexMap.empty = .ok m ∧ State hash m (inserted ops) := by
  obtain ⟨m, h, st⟩ := run_state hash ops IndexMap.empty [] (State.empty hash) (by change 0 + _ < _; omega)
  exact ⟨m, h, by simpa using st⟩

/-- `valuesWithID_multimap` for histories -/
theorem lookup_after_history (ops : List Op) (hb : (inserted ops).length < 2 ^ bloomShift) (id : ID) :
    ∃ m L, run hash ops IndexMap.empty = .ok m ∧ m.valuesWithID hash id = .ok L ∧
      (L.map (·.v)).Perm ((inserted ops).filter fun v => decide (v.id = id)) := by
  obtain ⟨m, h, st⟩ := run_refines hash ops hb
  obtain ⟨L, hL, hp⟩ := valuesWithID_multimap hash st id
  exact ⟨m, L, h, hL, hp⟩

/-- **firstIndex_stable**: once an id has a first-entry position, no later operation changes it -/
theorem firstIndex_stable (ops more : List Op) (hb : (inserted (ops ++ more)).length < 2 ^ bloomShift)
    (id : ID) (k : Int) (m : IndexMap) (hrun : run hash ops IndexMap.empty = .ok m)
    (hk : m.firstIndex hash id = .ok k) (hk0 : k ≠ -1) :
    ∃ m', run hash (ops ++ more) IndexMap.empty = .ok m' ∧ m'.firstIndex hash id = .ok k := by
  have hb1 : (inserted ops).length < 2 ^ bloomShift := by
    rw [inserted_append, List.length_append] at hb; omega
  obtain ⟨m1, h1, st1⟩ := run_refines hash ops hb1
  rw [hrun] at h1; cases h1
  rw [firstIndex_eq hash st1 id] at hk; cases hk
  obtain ⟨m', h', st'⟩ := run_refines hash (ops ++ more) hb
  refine ⟨m', h', ?_⟩
  rw [firstIndex_eq hash st' id, inserted_append, firstPos_append_of_ne _ _ _ hk0]

/-- what a state answers to the observations of the correspondence run -/
theorem spec_holds {m : IndexMap} {ins : List Val} (st : State hash m ins) (id : ID) :
    (∃ L, m.valuesWithID hash id = .ok L ∧ specValuesWithID ins id (L.map (·.v)) = true) ∧
    (∃ r, m.get hash id = .ok r ∧ specGet ins id (r.map (·.v)) = true) ∧
    (∃ k, m.firstIndex hash id = .ok k ∧ specFirstIndex ins id k = true) ∧
    (∃ L, m.values = .ok L ∧ specValues ins (L.map (·.v)) = true) ∧
    specLen ins m.len = true := by
  refine ⟨?_, ?_, ?_, ?_, ?_⟩
  · obtain ⟨L, hL, hp⟩ := valuesWithID_multimap hash st id
    refine ⟨L, hL, ?_⟩
    simp only [specValuesWithID, List.isPerm_iff]
    have : (fun v : Val => v.id == id) = fun v => decide (v.id = id) := by
      funext v; apply Bool.eq_iff_iff.mpr; simp
    rw [this]; exact hp
  · obtain ⟨r, hr, hnone, hsome⟩ := get_spec hash st id
    refine ⟨r, hr, ?_⟩
    cases r with
    | none =>
      simp only [specGet, Option.map_none, Bool.not_eq_true', List.any_eq_false, beq_iff_eq]
      exact fun v hv => by simpa using hnone.mp rfl v hv
    | some e =>
      obtain ⟨h1, h2⟩ := hsome e rfl
      simp [specGet, h1, h2]
  · exact ⟨_, firstIndex_eq hash st id, by simp [specFirstIndex]⟩
  · obtain ⟨L, hL, hv⟩ := values_eq hash st
    exact ⟨L, hL, by simp [specValues, hv, List.isPerm_iff]⟩
  · simp [specLen, len_eq hash st]

/-- after any history (below the entry limit) the model meets the five `spec…` checks -/
theorem history_meets_spec (ops : List Op) (hb : (inserted ops).length < 2 ^ bloomShift) (id : ID) :
    ∃ m, run hash ops IndexMap.empty = .ok m ∧
      (∃ L, m.valuesWithID hash id = .ok L ∧ specValuesWithID (inserted ops) id (L.map (·.v)) = true) ∧
      (∃ r, m.get hash id = .ok r ∧ specGet (inserted ops) id (r.map (·.v)) = true) ∧
      (∃ k, m.firstIndex hash id = .ok k ∧ specFirstIndex (inserted ops) id k = true) ∧
      (∃ L, m.values = .ok L ∧ specValues (inserted ops) (L.map (·.v)) = true) ∧
      specLen (inserted ops) m.len = true := by
  obtain ⟨m, h, st⟩ := run_refines hash ops hb
  exact ⟨m, h, spec_holds hash st id⟩

theorem ref_congr {h h' : HAT} {q : Nat} (hq : q < h.size) (hs : h.size ≤ h'.size) (hp : h'.peek q = h.peek q) :
    h'.ref q = h.ref q := by
  unfold HAT.ref
  rw [if_neg (by omega), if_neg (by omega), hp]

/-- `Alloc` returns the next position and keeps everything stored before, across block growth -/
theorem hat_ref_alloc {h : HAT} (wf : HATWF h) :
    ∃ h', h.alloc = .ok (h', h.size) ∧ HATWF h' ∧ h'.size = h.size + 1 ∧
      ∀ q, q < h.size → h'.ref q = h.ref q := by
  obtain ⟨h', ha, wf', hs, hp⟩ := wf.alloc
  exact ⟨h', ha, wf', hs, fun q hq => ref_congr hq (by omega) (hp q hq)⟩

/-- `preallocate` (block size doubling with pairwise merging) keeps every stored entry in place -/
theorem hat_ref_preallocate {h : HAT} (wf : HATWF h) (n : Nat) :
    HATWF (h.preallocate n) ∧ ∀ q, q < h.size → (h.preallocate n).ref q = h.ref q := by
  obtain ⟨wf', hs, hp, _⟩ := wf.preallocate n
  exact ⟨wf', fun q hq => ref_congr hq (by omega) (hp q hq)⟩

theorem hat_ref_set {h : HAT} (wf : HATWF h) (p q : Nat) (e : Entry) (hp : p < h.size) (hq : q < h.size) :
    (h.set p e).ref q = if q = p then .ok e else h.ref q := by
  have hs := hat_set_size h p e
  by_cases h' : q = p
  · obtain ⟨e0, he0⟩ := wf.peek_some hp
    rw [if_pos h']
    exact ref_of_peek (by omega) (by simp [wf.peek_set, h', he0])
  · rw [if_neg h']
    exact ref_congr hq (by omega) (by simp [wf.peek_set, h'])

theorem chain_word_lt {hat : HAT} {w : Nat} {l : List Nat} (c : Chain hat w l) : w < 2 ^ wordBits := by
  induction c with
  | nil => exact Nat.two_pow_pos _
  | cons _ _ hk _ _ _ ih => exact bloomInsertID_lt _ bloomShift_lt_wordBits hk ih

/-- **word_lt**: in a reachable state every bucket word fits in 64 bits (the model's unbounded
    naturals never exceed the Go `uint`) -/
theorem word_lt {m : IndexMap} {ins : List Val} (st : State hash m ins) (b w : Nat)
    (hw : m.buckets[b]? = some w) : w < 2 ^ wordBits := by
  rcases st with ⟨hb, _, _, _⟩ | inv
  · have : m.buckets[b]? = none := Array.getElem?_eq_none (by omega)
    rw [this] at hw; cases hw
  · obtain ⟨l, cl, _⟩ := inv.part.chains b w hw
    exact chain_word_lt cl

end

/-- a byte-sum hash: the ids `[1]`, `[65]` collide in every table size ≤ 64 and `[1]`, `[29]`
    share a bloom bit -/
def exHash (id : ID) : Nat := id.foldl (fun a b => a + b.toNat) 0

def exOps : List Op :=
  [.add ⟨[1], 0, 0, 10, 0⟩, .add ⟨[65], 1, 5, 10, 0⟩, .add ⟨[1], 2, 7, 10, 0⟩, .prealloc 1000, .add ⟨[29], 3, 0, 10, 0⟩]

example : (inserted exOps).length < 2 ^ bloomShift := by decide +kernel

example : ∃ m, run exHash exOps IndexMap.empty = .ok m ∧
    (∃ L, m.valuesWithID exHash [1] = .ok L ∧ L.length = 2) ∧ m.firstIndex exHash [1] = .ok 1 := by
  obtain ⟨m, h, st⟩ := run_refines exHash exOps (by decide)
  obtain ⟨L, hL, hp⟩ := valuesWithID_multimap exHash st [1]
  refine ⟨m, h, ⟨L, hL, ?_⟩, ?_⟩
  · have := hp.length_eq
    simpa [exOps, inserted] using this
  · rw [firstIndex_eq exHash st [1]]; rfl

end Restic.Props.C56
