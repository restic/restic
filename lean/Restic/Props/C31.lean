import Restic.Model.Upgrade
import Restic.Model.BeFiles
import Restic.Proofs.BeFiles
import Restic.Gen.Source
/-!
# C31 — upgrading a repository to format v2 preserves all data

Theorems about `Restic.Model.Upgrade` (transcription of `UpgradeRepo` / `upgradeRepository`) for
**all** fault schedules (`fail : Nat → Bool`, which operations on the config file fail) and all
interruption points (prefixes of the state sequence), on backends with and without atomic replace.

Full statement of the config part of C31: `∀ atomic fail, specOK (states .old (upgrade … fail .old).2)`.
* It is **false** on backends without atomic replace (`nonatomic_window`, proved negation witness;
  open known finding, inherent: the config must be removed before the new one can be saved).
* On backends with atomic replace it is **false for the unchanged source** (`atomic_unfixed_loss`:
  the roll-back path removes the config before re-uploading it) and **true with the fix**
  (commit 2374624c1 of /repo; `atomic_safe`, all schedules, all interruption points).
  `current_source_fixed` states (from the regenerated call list) that the current source has the fix.
* `final_ok` (= DESIGN's `upgrade_partial`): whenever the run reports anything but a double failure,
  a config is present at the end — on every backend.
-/
namespace Restic.Props.C31
open Restic.Model.Upgrade

/-- the current source guards the contingency `Remove` with `Properties().HasAtomicReplace` -/
def currentFixed : Bool := Restic.Gen.C31_UpgradeRepo_calls.contains "repo.be.Properties"

theorem doSave_op (atomic fl : Bool) (op : OpKind) (target st : Cfg) : (doSave atomic fl op target st).op = op := by
  grind [doSave]

theorem doSave_after {atomic fl : Bool} {op : OpKind} {target st : Cfg}
    (h : (doSave atomic fl op target st).ok = true) : (doSave atomic fl op target st).after = target := by
  grind [doSave]

theorem doSave_after_ne_none {atomic fl : Bool} {op : OpKind} {target st : Cfg} (hs : st ≠ .none)
    (ht : target ≠ .none) : (doSave atomic fl op target st).after ≠ .none := by
  grind [doSave]

theorem cfgOK_iff {c : Cfg} : cfgOK c = true ↔ c ≠ .none := by cases c <;> simp [cfgOK]

/-- **atomic_safe**: with the fix, on a backend with atomic replace, whatever operations fail and
    wherever the run is interrupted, the config file is the old or the new one. -/
theorem atomic_safe (fail : Nat → Bool) : specOK (states .old (upgrade true true fail .old).2) = true := by
  -- the run consists of saves only; a save over a config leaves a config
  simp only [upgrade, contingency, contRemoves, Bool.not_true, Bool.false_eq_true, if_false, Bool.or_self]
  split <;> simp [specOK, states, cfgOK_iff, doSave_after_ne_none]

theorem atomic_fixed_never_removes (fail : Nat → Bool) (st : Cfg) :
    ∀ s ∈ (upgrade true true fail st).2, s.op ≠ .remove := by
  simp only [upgrade, contingency, contRemoves, Bool.not_true, Bool.false_eq_true, if_false, Bool.or_self]
  split <;> simp [doSave_op]

/-- unchanged source, proved part: as long as saving the new config does not *fail*, every
    interruption point is safe (pure crash points) -/
theorem atomic_safe_unfixed_partial (fail : Nat → Bool) (h : fail 0 = false) :
    specOK (states .old (upgrade false true fail .old).2) = true := by
  simp [upgrade, doSave, states, specOK, cfgOK, h]

/-- unchanged source, negation witness: the save of the new config fails; the roll-back removes the
    old config; an interruption (or a second failure) there leaves no config -/
theorem atomic_unfixed_loss :
    ∃ fail : Nat → Bool, specOK (states .old (upgrade false true fail .old).2) = false ∧
      (states .old (upgrade false true fail .old).2) = [.old, .old, .none, .old] :=
  ⟨fun i => i == 0, by decide, by decide⟩

theorem atomic_unfixed_double_failure :
    ∃ fail : Nat → Bool, upgrade false true fail .old =
      (.failedNotRestored, [⟨.saveNew, false, .old⟩, ⟨.remove, true, .none⟩, ⟨.saveOld, false, .none⟩]) :=
  ⟨fun i => i == 0 || i == 2, by decide⟩

/-- **nonatomic_window** (negation witness, F10): on a backend without atomic replace even the fault-free run passes
    through a state without config: `[old, none, new]`. The fix does not (cannot) change this. -/
theorem nonatomic_window (fixed : Bool) :
    states .old (upgrade fixed false (fun _ => false) .old).2 = [.old, .none, .new] ∧
    specOK (states .old (upgrade fixed false (fun _ => false) .old).2) = false := by
  cases fixed <;> exact ⟨by decide, by decide⟩

theorem fix_only_affects_atomic (fail : Nat → Bool) (st : Cfg) :
    upgrade true false fail st = upgrade false false fail st := by
  simp [upgrade, contingency, contRemoves]

/-- The run is not empty and its last step leaves the config its outcome announces. Said of the last step so
    that it survives prepending steps (`cons`), which is how `upgrade` and `contingency` build their lists. -/
def LastAgrees (r : Outcome × List Step) : Prop :=
  ∃ pre s, r.2 = pre ++ [s] ∧ (r.1 = .upgraded → s.after = .new) ∧ (r.1 = .failedRestored → s.after = .old)

theorem LastAgrees.cons {o : Outcome} {l : List Step} (x : Step) : LastAgrees (o, l) → LastAgrees (o, x :: l)
  | ⟨pre, s, h, hs⟩ => ⟨x :: pre, s, congrArg (x :: ·) h, hs⟩

theorem LastAgrees.final {r : Outcome × List Step} (st : Cfg) : LastAgrees r →
    (r.1 = .upgraded → finalState st r.2 = .new) ∧ (r.1 = .failedRestored → finalState st r.2 = .old)
  | ⟨pre, s, h, hs⟩ => by
    have : finalState st r.2 = s.after := by
      rw [h, finalState, states, List.map_append, ← List.cons_append]
      simp only [List.map_cons, List.map_nil, List.getLast?_concat, Option.getD_some]
    rwa [this]

theorem contingency_last (fixed atomic : Bool) (fail : Nat → Bool) (n : Nat) (st : Cfg) :
    LastAgrees (contingency fixed atomic fail n st) := by
  have reupload (fl : Bool) (st : Cfg) : LastAgrees
      (if (doSave atomic fl .saveOld .old st).ok then .failedRestored else .failedNotRestored,
        [doSave atomic fl .saveOld .old st]) := by
    cases h : (doSave atomic fl .saveOld .old st).ok with
    | true => exact ⟨[], _, rfl, nofun, fun _ => doSave_after h⟩
    | false => exact ⟨[], _, rfl, nofun, nofun⟩
  unfold contingency
  split
  · exact (reupload ..).cons _
  · exact reupload ..

theorem upgrade_last (fixed atomic : Bool) (fail : Nat → Bool) (st : Cfg) :
    LastAgrees (upgrade fixed atomic fail st) := by
  have saved (pre : List Step) (fl : Bool) (st : Cfg) (h : (doSave atomic fl .saveNew .new st).ok = true) :
      LastAgrees (.upgraded, pre ++ [doSave atomic fl .saveNew .new st]) :=
    ⟨pre, _, rfl, fun _ => doSave_after h, nofun⟩
  unfold upgrade
  dsimp only
  -- the `if`s of `upgrade` in order: no atomic replace (the first `Remove` failed / saved / the save failed),
  -- atomic replace (saved / the save failed)
  split
  · split
    · exact (contingency_last ..).cons _
    · split
      · exact saved [_] _ _ ‹_›
      · exact ((contingency_last ..).cons _).cons _
  · split
    · exact saved [] _ _ ‹_›
    · exact (contingency_last ..).cons _

/-- **final_ok**: if the run ends (no interruption) and does not report a double failure, a config
    is present: the new one after success, the old one after a successful re-upload -/
theorem final_ok (fixed atomic : Bool) (fail : Nat → Bool) :
    ((upgrade fixed atomic fail .old).1 = .upgraded → finalState .old (upgrade fixed atomic fail .old).2 = .new) ∧
    ((upgrade fixed atomic fail .old).1 = .failedRestored → finalState .old (upgrade fixed atomic fail .old).2 = .old) :=
  (upgrade_last fixed atomic fail .old).final .old

theorem no_fault_upgrades (fixed atomic : Bool) :
    (upgrade fixed atomic (fun _ => false) .old).1 = .upgraded ∧
    finalState .old (upgrade fixed atomic (fun _ => false) .old).2 = .new := by
  cases fixed <;> cases atomic <;> exact ⟨by decide, by decide⟩

open Restic.Model.BeFiles Restic.Proofs.BeFiles in
/-- the backend events of a run: successful steps as save/remove of the config handle -/
def toEvs (cfgNew cfgOld : Content) (steps : List Step) : List Ev :=
  steps.filterMap fun s =>
    if s.ok then
      some (match s.op with
        | .remove => Ev.remove ⟨.config, ""⟩
        | .saveNew => Ev.save ⟨.config, ""⟩ cfgNew
        | .saveOld => Ev.save ⟨.config, ""⟩ cfgOld)
    else none

open Restic.Model.BeFiles Restic.Proofs.BeFiles in
/-- **data_untouched**: every file other than the config (packs, indexes, snapshots, keys) is the
    same after any prefix of any run. That snapshots then restore unchanged needs, beyond this
    statement, that v1 data reads the same under a v2 config (C07; observed only: restore and
    `check --read-data` after the upgrade). -/
theorem data_untouched (fixed atomic : Bool) (fail : Nat → Bool) (cfg : Cfg) (st : State) (cn co : Content)
    (k : Nat) (h : Handle) (hh : h ≠ ⟨.config, ""⟩) :
    get (applyAll st (toEvs cn co ((upgrade fixed atomic fail cfg).2.take k))) h = get st h := by
  apply get_applyAll_untouched
  intro e he
  simp only [toEvs, List.mem_filterMap] at he
  obtain ⟨s, _, hs⟩ := he
  split at hs
  · simp only [Option.some.injEq] at hs
    subst hs
    cases s.op <;> simp [Ev.target] <;> exact fun e => hh e.symm
  · cases hs

/-- the current source contains the guard; with it `atomic_safe` is the statement about the code
    that is checked out (on a tree without the fix this theorem does not build and the
    correspondence run exhibits the failing schedule) -/
theorem current_source_fixed : currentFixed = true := by decide +kernel

theorem atomic_safe_current (fail : Nat → Bool) :
    specOK (states .old (upgrade currentFixed true fail .old).2) = true := by
  rw [current_source_fixed]; exact atomic_safe fail

/-- `upgradeRepository`: the atomic-replace test, then `Remove`, then `SaveConfig` -/
theorem upgradeRepository_order :
    Restic.Gen.C31_upgradeRepository_calls.filter (fun c => c ∈ ["repo.be.Properties", "repo.be.Remove", "restic.SaveConfig", "repo.be.Save"])
      = ["repo.be.Properties", "repo.be.Remove", "restic.SaveConfig"] := by decide +kernel

/-- `UpgradeRepo`: the raw config is read (and copied to a temp dir) before anything is changed; the
    roll-back re-uploads it with `Save` after the (guarded) `Remove` -/
theorem UpgradeRepo_order :
    Restic.Gen.C31_UpgradeRepo_calls.filter (fun c => c ∈ ["repo.LoadRaw", "os.WriteFile", "upgradeRepository", "repo.be.Remove", "repo.be.Save"])
      = ["repo.LoadRaw", "os.WriteFile", "upgradeRepository", "repo.be.Remove", "repo.be.Save"] := by decide +kernel

/-- the migration is `UpgradeRepo` and nothing else; `migrate` checks the repository before applying -/
theorem migration_plumbing :
    Restic.Gen.C31_Apply_calls = ["repository.UpgradeRepo"] ∧
    Restic.Gen.C31_applyMigrations_calls.filter (fun c => c ∈ ["runCheck", "m.Apply"]) = ["runCheck", "m.Apply"] := by decide +kernel

/-- atomic, fixed, the save of the new config and the re-upload both fail: the old config stays -/
example : states .old (upgrade true true (fun _ => true) .old).2 = [.old, .old, .old] := by decide +kernel
/-- non-atomic, the save of the new config fails, the re-upload works -/
example : states .old (upgrade false false (fun i => i == 1) .old).2 = [.old, .none, .none, .none, .old] := by decide +kernel
/-- the signature classifier of the correspondence run: an interruption right after the fault-free
    `Remove` on a non-atomic backend is filed under the known window -/
example : lossAt false [⟨.remove, true, .none⟩] false = .nonAtomicWindow := by decide +kernel

end Restic.Props.C31
