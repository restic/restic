import Restic.Model.Location
import Restic.Gen.Source
/-!
# C50 — Repository passwords embedded in locations are never displayed

Theorems over `Restic.Model.Location` (transcription of `location.StripPassword`,
`rest.StripPassword`, `prepareURL`, `strings.Replace(…, 1)`), for all location strings and all
`url.Parse` oracles.
-/
namespace Restic.Props.C50
open Restic.Model.Location

theorem hasPrefix_len {s p : Bytes} (h : hasPrefix s p = true) : p.length ≤ s.length := by
  unfold hasPrefix at h
  exact (List.isPrefixOf_iff_prefix.mp h).length_le

theorem restPrefix_length : restPrefix.length = 5 := rfl

theorem replaceFirst_here (old new post : Bytes) :
    replaceFirst (old ++ post) old new = new ++ post := by
  unfold replaceFirst
  rw [if_pos (List.isPrefixOf_iff_prefix.mpr (List.prefix_append old post)), List.drop_left]

/-- `strings.Replace(…, 1)` hits the occurrence after `pre` when no earlier one is possible:
    `old` contains a byte `z` that `pre` lacks, and `pre` ends in a byte `y` that `old` lacks. -/
theorem replaceFirst_after (pre old new post : Bytes) (y z : UInt8)
    (hz : z ∈ old) (hzpre : z ∉ pre) (hy : pre.getLast? = some y) (hyold : y ∉ old) :
    replaceFirst (pre ++ old ++ post) old new = pre ++ new ++ post := by
  -- in the form that survives dropping the head of `pre`: every non-empty suffix contains `y`
  replace hy : ∀ k, k < pre.length → y ∈ pre.drop k := fun k hk =>
    List.mem_of_getLast? (by rw [List.getLast?_drop, if_neg (Nat.not_le.2 hk), hy])
  induction pre with
  | nil => exact replaceFirst_here old new post
  | cons c t ih =>
    -- of two prefixes of one string one is a prefix of the other: `z` or `y` is where it must not be
    rw [List.cons_append, List.cons_append]
    have hnot : ¬ old <+: c :: (t ++ old ++ post) := fun hp => by
      obtain h | h := List.prefix_or_prefix_of_prefix hp (l₂ := c :: t) ⟨old ++ post, by simp⟩
      · exact hzpre (h.subset hz)
      · exact hyold (h.subset (hy 0 (Nat.succ_pos _)))
    rw [replaceFirst, if_neg (mt List.isPrefixOf_iff_prefix.1 hnot),
      ih (fun h => hzpre (List.mem_cons_of_mem _ h)) fun k hk => hy (k + 1) (Nat.succ_lt_succ hk)]
    rfl

theorem take_restPrefix {s : Bytes} (h : hasPrefix s restPrefix = true) : s.take 5 = restPrefix :=
  (List.prefix_iff_eq_take.mp (List.isPrefixOf_iff_prefix.mp h)).symm

/-- behind the guard neither slice fails; the three lookups that remain, as one `Option` expression -/
theorem restStrip_guarded (parse : Parser) (s : Bytes) (hpre : hasPrefix s restPrefix = true) :
    ∃ s', prepareURL s = some s' ∧ restStrip parse s = .ok (restPrefix ++
      ((parse s').bind fun u => u.user.bind fun ui => ui.password.map fun _ => stripUrl u ui).getD s') := by
  have h5 : 5 ≤ s.length := hasPrefix_len hpre
  refine ⟨_, by rw [prepareURL, sliceFrom, if_pos h5], ?_⟩
  rw [restStrip, hpre, Bool.not_true, if_neg Bool.false_ne_true, restStripUnguarded, sliceTo, if_pos h5,
    prepareURL, sliceFrom, if_pos h5, take_restPrefix hpre]
  dsimp only
  cases parse _ with
  | none => rfl
  | some u =>
    simp only [Option.bind_some]
    cases u.user with
    | none => rfl
    | some ui => simp only [Option.bind_some]; cases ui.password <;> rfl

theorem restStrip_total (parse : Parser) (s : Bytes) : restStrip parse s ≠ .panic := by
  by_cases hp : hasPrefix s restPrefix = true
  · obtain ⟨_, -, h⟩ := restStrip_guarded parse s hp
    rw [h]; nofun
  · rw [restStrip, Bool.eq_false_iff.2 hp]; nofun

/-- **strip_total** (F14): `location.StripPassword` never panics. -/
theorem strip_total (parse : Parser) (reg : Registry) (s : Bytes) :
    locStrip parse reg s ≠ .panic := by
  unfold locStrip
  cases reg.lookup (extractScheme s) with
  | none => nofun
  | some k =>
    cases k with
    | rest => exact restStrip_total parse s
    | noPassword => nofun

/-- F14 negation witness: the code before the fix panics on the location `rest` (in every
    registry that has the REST backend under its name, as restic's does). -/
theorem unguarded_panics_on_rest (parse : Parser) : restStripUnguarded parse restName = .panic := by
  rfl

/-- … and `rest` is dispatched to the REST stripper: no colon, so the whole string is the scheme. -/
theorem rest_dispatches_to_rest (parse : Parser) :
    locStrip parse [(restName, .rest)] restName = restStrip parse restName := by
  rfl

/-- the URL as displayed: the stars in place of the password -/
def skeleton (pre username post : Bytes) : Bytes := pre ++ username ++ stars ++ post

theorem not_mem_of_contains {l : Bytes} {c : UInt8} (h : l.contains c = false) : c ∉ l := fun hm =>
  Bool.false_ne_true (h.symm.trans (List.contains_iff_mem.2 hm))

theorem stripUrl_shape (u : Url) (ui : UserInfo) (p : Bytes)
    (hu : u.user = some ui) (hp : ui.password = some p) (hwf : u.wf = true) :
    stripUrl u ui = skeleton u.pre ui.username u.post := by
  unfold Url.wf at hwf
  simp only [hu, hp, Bool.and_eq_true, Bool.not_eq_true', beq_iff_eq] at hwf
  obtain ⟨⟨⟨hlast, hat⟩, hus⟩, hps⟩ := hwf
  -- `@` ends the user info and is not in `pre`; `/` ends `pre` and is not in the user info
  have hslash : cSlash ∉ ui.str ++ [cAt] := by
    rw [UserInfo.str, hp]
    intro h
    obtain (h | h) | h := (List.mem_append.1 h).imp_left List.mem_append.1
    · exact not_mem_of_contains hus h
    · obtain _ | ⟨_, h⟩ := h
      exact not_mem_of_contains hps h
    · cases List.mem_singleton.1 h
  rw [stripUrl, Url.str, hu, skeleton]
  exact (replaceFirst_after u.pre (ui.str ++ [cAt]) (ui.username ++ stars) u.post cSlash cAt
    (List.mem_append_right _ List.mem_cons_self) (not_mem_of_contains hat) hlast
    hslash).trans (by simp only [List.append_assoc])

/-- **rest_shape**: when `url.Parse` accepts the prepared URL with a password set, the display form is
    `rest:` followed by the password-free skeleton `scheme:// user :***@ rest`. -/
theorem rest_shape (parse : Parser) (s s' : Bytes) (u : Url) (ui : UserInfo) (p : Bytes)
    (hpre : hasPrefix s restPrefix = true) (hprep : prepareURL s = some s')
    (hparse : parse s' = some u) (hu : u.user = some ui) (hp : ui.password = some p)
    (hwf : u.wf = true) :
    restStrip parse s = .ok (restPrefix ++ skeleton u.pre ui.username u.post) := by
  obtain ⟨_, h1, h2⟩ := restStrip_guarded parse s hpre
  cases hprep.symm.trans h1
  rw [h2, hparse, Option.bind_some, hu, Option.bind_some, hp, Option.map_some, Option.getD_some,
    stripUrl_shape u ui p hu hp hwf]

/-- **noninterference_url** (on the structure): two parsed URLs that differ only in the password give
    the same display form. -/
theorem noninterference_url (pre post username escUser p₁ p₂ : Bytes)
    (h₁ : (Url.mk pre (some ⟨username, escUser, some p₁⟩) post).wf = true)
    (h₂ : (Url.mk pre (some ⟨username, escUser, some p₂⟩) post).wf = true) :
    stripUrl ⟨pre, some ⟨username, escUser, some p₁⟩, post⟩ ⟨username, escUser, some p₁⟩ =
    stripUrl ⟨pre, some ⟨username, escUser, some p₂⟩, post⟩ ⟨username, escUser, some p₂⟩ := by
  rw [stripUrl_shape _ _ p₁ rfl rfl h₁, stripUrl_shape _ _ p₂ rfl rfl h₂]

/-- **noninterference** (on `rest.StripPassword`): two accepted locations whose parses differ only
    in the password are displayed identically. -/
theorem noninterference (parse : Parser) (s₁ s₂ s₁' s₂' pre post username escUser p₁ p₂ : Bytes)
    (hs₁ : hasPrefix s₁ restPrefix = true) (hs₂ : hasPrefix s₂ restPrefix = true)
    (hq₁ : prepareURL s₁ = some s₁') (hq₂ : prepareURL s₂ = some s₂')
    (hp₁ : parse s₁' = some ⟨pre, some ⟨username, escUser, some p₁⟩, post⟩)
    (hp₂ : parse s₂' = some ⟨pre, some ⟨username, escUser, some p₂⟩, post⟩)
    (h₁ : (Url.mk pre (some ⟨username, escUser, some p₁⟩) post).wf = true)
    (h₂ : (Url.mk pre (some ⟨username, escUser, some p₂⟩) post).wf = true) :
    restStrip parse s₁ = restStrip parse s₂ := by
  rw [rest_shape parse s₁ s₁' _ _ p₁ hs₁ hq₁ hp₁ rfl rfl h₁,
      rest_shape parse s₂ s₂' _ _ p₂ hs₂ hq₂ hp₂ rfl rfl h₂]

theorem isInfix_iff (a b : Bytes) : isInfix a b = true ↔ a <:+: b := by
  induction b with
  | nil =>
    simp [isInfix, List.isEmpty_iff]
  | cons c t ih =>
    unfold isInfix
    rw [Bool.or_eq_true, ih, List.isPrefixOf_iff_prefix, List.infix_cons_iff]

/-- **secret_absent** (the literal reading): any byte string (e.g. the password, escaped or decoded,
    or a part of it) that does not occur in the password-free skeleton does not occur in the display form. -/
theorem secret_absent (parse : Parser) (s s' : Bytes) (u : Url) (ui : UserInfo) (p sec : Bytes)
    (hpre : hasPrefix s restPrefix = true) (hprep : prepareURL s = some s')
    (hparse : parse s' = some u) (hu : u.user = some ui) (hp : ui.password = some p)
    (hwf : u.wf = true)
    (hsk : ¬ sec <:+: restPrefix ++ skeleton u.pre ui.username u.post) :
    ∀ o, restStrip parse s = .ok o → ¬ sec <:+: o := by
  intro o ho
  rw [rest_shape parse s s' u ui p hpre hprep hparse hu hp hwf] at ho
  cases ho
  exact hsk

/-- without a password (or when `url.Parse` rejects the string) the location is shown as typed,
    with the trailing slash `prepareURL` adds -/
theorem no_password_untouched (parse : Parser) (s s' : Bytes)
    (hpre : hasPrefix s restPrefix = true) (hprep : prepareURL s = some s')
    (hnp : ∀ u ui, parse s' = some u → u.user = some ui → ui.password = none) :
    restStrip parse s = .ok (restPrefix ++ s') := by
  obtain ⟨_, h1, h2⟩ := restStrip_guarded parse s hpre
  cases hprep.symm.trans h1
  rw [h2]
  cases hq : parse s' with
  | none => rfl
  | some u =>
    cases hu : u.user with
    | none => simp only [Option.bind_some, hu]; rfl
    | some ui => simp only [Option.bind_some, hu, hnp u ui hq hu]; rfl

/-- backends registered with `location.NoPassword` show the location unchanged -/
theorem other_scheme_identity (parse : Parser) (reg : Registry) (s : Bytes)
    (h : reg.lookup (extractScheme s) = some .noPassword) : locStrip parse reg s = .ok s := by
  rw [locStrip, h]

theorem unregistered_identity (parse : Parser) (reg : Registry) (s : Bytes)
    (h : reg.lookup (extractScheme s) = none) : locStrip parse reg s = .ok s := by
  rw [locStrip, h]

theorem model_meets_spec (parse : Parser) (s s' : Bytes) (u : Url) (ui : UserInfo) (p : Bytes)
    (secrets : List Bytes)
    (hpre : hasPrefix s restPrefix = true) (hprep : prepareURL s = some s')
    (hparse : parse s' = some u) (hu : u.user = some ui) (hp : ui.password = some p)
    (hwf : u.wf = true)
    (hsk : ∀ sec ∈ secrets, ¬ sec <:+: restPrefix ++ skeleton u.pre ui.username u.post) :
    specOK secrets (restStrip parse s) = true := by
  rw [rest_shape parse s s' u ui p hpre hprep hparse hu hp hwf]
  unfold specOK
  simp only [Bool.and_eq_true, List.all_eq_true, Bool.not_eq_true', Bool.or_eq_true]
  refine ⟨fun sec hsec => Bool.eq_false_iff.mpr fun h => hsk sec hsec ((isInfix_iff _ _).mp h), .inr ?_⟩
  -- the placeholder sits between the user name and the remainder
  exact (isInfix_iff _ _).mpr ⟨restPrefix ++ u.pre ++ ui.username, u.post, by simp only [skeleton, List.append_assoc]⟩

/-- `specOK []` forbids only `panic` -/
theorem model_never_panics_spec (parse : Parser) (reg : Registry) (s : Bytes) :
    specOK [] (locStrip parse reg s) = true := by
  cases h : locStrip parse reg s with
  | panic => exact absurd h (strip_total parse reg s)
  | ok o => rfl

/-- The regenerated call list of `rest.StripPassword` starts with the prefix guard
    (`strings.HasPrefix`) — before the F14 fix the first call was `prepareURL`. -/
theorem guard_in_source :
    Restic.Gen.restStripPassword_calls.head? = some "strings.HasPrefix" := by decide +kernel

theorem dispatch_in_source :
    Restic.Gen.locStripPassword_calls = ["extractScheme", "registry.Lookup", "factory.StripPassword"] := by
  decide +kernel

/-- `rest:http://u:p%40@h/x` with the parse `net/url` returns -/
def exUrl : Url := ⟨[0x68,0x74,0x74,0x70,0x3a,0x2f,0x2f], some ⟨[0x75], [0x75], some [0x70,0x25,0x34,0x30]⟩, [0x68,0x2f,0x78]⟩

example : exUrl.wf = true := by decide +kernel
example : stripUrl exUrl ⟨[0x75], [0x75], some [0x70,0x25,0x34,0x30]⟩ =
    [0x68,0x74,0x74,0x70,0x3a,0x2f,0x2f] ++ [0x75] ++ stars ++ [0x68,0x2f,0x78] := by decide +kernel
example : restStrip (fun _ => some exUrl) (restPrefix ++ [0x78]) =
    .ok (restPrefix ++ [0x68,0x74,0x74,0x70,0x3a,0x2f,0x2f,0x75] ++ stars ++ [0x68,0x2f,0x78]) := by decide +kernel
example : specOK [[0x70,0x25,0x34,0x30]] (restStrip (fun _ => some exUrl) (restPrefix ++ [0x78])) = true := by decide +kernel
/-- the spec is falsifiable: an implementation that echoed the URL would fail it -/
example : specOK [[0x70,0x25,0x34,0x30]] (.ok (restPrefix ++ exUrl.str)) = false := by decide +kernel
example : specOK [] Out.panic = false := by decide +kernel

end Restic.Props.C50
