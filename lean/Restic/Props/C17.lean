import Restic.Proofs.C17_Loop
import Restic.Proofs.C17_Rabin
import Restic.Gen.Source
import Restic.Gen.Consts
/-!
# C17 — Content-defined chunking is lossless, bounded and shift-resistant

Statement (properties.jsonl): splitting a file yields chunks whose concatenation is the file; every
chunk except the last has a size between the minimum and maximum chunk size; the boundaries depend
only on the content and the polynomial, not on read sizes or previously processed files; inserting
or deleting bytes changes only the chunks around the edit.

`C17_Loop.lean` proves them of `readNextChunk` / `saveFile` / `worker` for an *arbitrary* splitter
under the laws L0 `InRange`, L1 `Streaming`, L2 `Bounded`, L3 `ResetsAfterCut` (`chunks_concat` needs
none); `C17_Rabin.lean` proves the laws of the transcription of github.com/restic/chunker. Here: the
statements with the constants and call orders regenerated from the current source (T1).

"Only the chunks around the edit change" has a part that is no theorem about any deterministic
splitter: *how soon* a common cut re-appears after the edit depends on the content (Rabin fingerprint
hits). Proved: chunks ending before the edit are unchanged (`edit_prefix_stable`), and from the first
common cut on everything is unchanged (`edit_resync`); the T2 run measures how many chunks change in
between (label histogram `changed*`).
-/
namespace Restic.Props.C17
open Restic.Model.Chunk Restic.Model Restic.Proofs.C17Rabin

def callIdx (l : List String) (c : String) : Nat := l.findIdx (· == c)

/-- `saveFile` resets the chunker and the chunk state before the first `readNextChunk`
    (this is what `Chunk.saveFile` transcribes and what `worker_file_indep` rests on). -/
theorem reset_before_loop :
    callIdx Gen.saveFile_calls "chnker.Reset" < callIdx Gen.saveFile_calls "chunkState.readNextChunk" ∧
    callIdx Gen.saveFile_calls "chunkState.reset" < callIdx Gen.saveFile_calls "chunkState.readNextChunk" ∧
    callIdx Gen.saveFile_calls "chunkState.readNextChunk" < Gen.saveFile_calls.length := by decide +kernel

/-- the worker creates one chunker and hands it to every `saveFile` (so reuse across files is real) -/
theorem worker_reuses_chunker :
    callIdx Gen.fileSaver_worker_calls "s.chunkerFactory.NewChunker" < callIdx Gen.fileSaver_worker_calls "s.saveFile" ∧
    callIdx Gen.fileSaver_worker_calls "s.saveFile" < Gen.fileSaver_worker_calls.length := by decide +kernel

/-- every file worker gets its OWN library chunker: `chunkerFactory.NewChunker` creates one with
    `chunker.NewBase` on every call, and `newFileSaver` starts the workers that call it (the
    disjoint per-worker state of `runPool` / `pool_worker_indep`) -/
theorem chunker_per_worker :
    Gen.chunkerFactory_NewChunker_calls = ["chunker.NewBase"] ∧
    Gen.newFileSaver_calls.contains "s.worker" = true ∧
    callIdx Gen.fileSaver_worker_calls "s.chunkerFactory.NewChunker" = 0 := by decide +kernel

/-- `baseChunker.Reset` re-initialises the library chunker (`c.bc.Reset(c.pol)`) -/
theorem reset_calls_library : Gen.baseChunker_Reset_calls = ["c.bc.Reset"] := by decide +kernel

/-- the constants the bounds theorem needs: non-empty read buffer, `MinSize ≤ MaxSize`, `MaxSize > 0`;
    and `windowSize ≤ MinSize`, without which `Rabin.reset`'s `minSize - windowSize` would truncate -/
theorem gen_consts_ok :
    0 < Gen.archiver_chunkReadBufSize ∧ Gen.chunker_MinSize ≤ Gen.chunker_MaxSize ∧ 0 < Gen.chunker_MaxSize ∧
    Rabin.windowSize ≤ Gen.chunker_MinSize := by decide

/-- For every polynomial (any table content), with the library's `MinSize`/`MaxSize`
    and restic's read-buffer size as regenerated from the source, every file is chunked successfully
    and the chunk list satisfies the executable statement `specOK` (lossless; all chunks but the last
    within `[MinSize, MaxSize]`; last chunk non-empty and at most `MaxSize`); it is the same for every
    other read-buffer size, and whatever the worker processed before. -/
theorem c17_restic (cfg : Rabin.RCfg) (hmin : cfg.minSize = Gen.chunker_MinSize) (hmax : cfg.maxSize = Gen.chunker_MaxSize)
    (file : Bytes) :
    (∃ cs, chunks (Rabin.splitter cfg) Gen.archiver_chunkReadBufSize file = .ok cs ∧
        specOK Gen.chunker_MinSize Gen.chunker_MaxSize file cs = true) ∧
    (∀ bufSize, 0 < bufSize →
        chunks (Rabin.splitter cfg) bufSize file = chunks (Rabin.splitter cfg) Gen.archiver_chunkReadBufSize file) ∧
    (∀ (cs0 : CState) (st0 : Rabin.RState) (before : List Reader),
        (worker (Rabin.splitter cfg) Gen.archiver_chunkReadBufSize cs0 st0 (before ++ [{ data := file, failAtEnd := false }])).getLast? =
          some (chunks (Rabin.splitter cfg) Gen.archiver_chunkReadBufSize file)) := by
  obtain ⟨hb, hmm, hmx, _⟩ := gen_consts_ok
  refine ⟨?_, ?_, ?_⟩
  · have := rabin_chunks_specOK cfg (by rw [hmin, hmax]; exact hmm) (by rw [hmax]; exact hmx) _ hb file
    rw [hmin, hmax] at this
    exact this
  · intro bufSize hpos
    exact rabin_buffer_indep cfg _ _ hpos hb file
  · intro cs0 st0 before
    rw [worker_file_indep]
    simp [chunks]

/-- a toy splitter: cut after every third byte it has seen since the last cut -/
def toy : Splitter Nat :=
  { init := 0
    next := fun seen buf => if seen + buf.length < 3 then (none, seen + buf.length) else (some (3 - seen), 0) }

/-- a rogue splitter that answers beyond the buffer it was given (violates L0) -/
def rogue : Splitter Unit := { init := (), next := fun _ buf => (some (buf.length + 1), ()) }

/-- the laws are satisfiable: the transcribed library satisfies all of them (for any tables) -/
example (cfg : Rabin.RCfg) (h : cfg.minSize ≤ cfg.maxSize) (h' : 0 < cfg.maxSize) :
    InRange (Rabin.splitter cfg) ∧ Streaming (Rabin.splitter cfg) ∧ ResetsAfterCut (Rabin.splitter cfg) ∧
    Bounded (Rabin.splitter cfg) cfg.minSize cfg.maxSize :=
  ⟨rabin_inRange cfg, rabin_streaming cfg, rabin_resets cfg, rabin_bounded cfg h h'⟩

/-- `chunks_concat` is not vacuous: a concrete run with a 2-byte read buffer over a 7-byte file
    (buffer boundaries inside chunks, a chunk spanning two refills, a final short chunk) -/
example : chunks toy 2 [1, 2, 3, 4, 5, 6, 7] = .ok [[1, 2, 3], [4, 5, 6], [7]] := by
  simp [chunks, saveFile, chunkLoop, readNextChunk, refill, readFull, toy, CState.reset]

example : chunks toy 5 [1, 2, 3, 4, 5, 6, 7] = .ok [[1, 2, 3], [4, 5, 6], [7]] := by
  simp [chunks, saveFile, chunkLoop, readNextChunk, refill, readFull, toy, CState.reset]

/-- a reader that ends with an I/O error yields `error` (no chunk list, no node) -/
example : (saveFile toy 2 { buf := [], bpos := 0, closed := false } 0 { data := [1, 2, 3, 4], failAtEnd := true }).1 = .error := by
  simp [saveFile, chunkLoop, readNextChunk, refill, readFull, toy, CState.reset]

/-- negation witness for dropping L0: a splitter answering beyond its buffer is detected as
    `badSplit` (in Go: stale read-buffer bytes or a slice panic) — never silently accepted -/
example : chunks rogue 4 [1, 2, 3] = .badSplit 4 3 := by
  simp [chunks, saveFile, chunkLoop, readNextChunk, refill, readFull, rogue, CState.reset]

/-- the executable statement is not trivially true -/
example : specOK 2 4 [1, 2, 3, 4, 5] [[1, 2, 3], [4, 5]] = true ∧ specOK 2 4 [1, 2, 3, 4, 5] [[1], [2, 3, 4, 5]] = false ∧
    specOK 2 4 [1, 2, 3, 4, 5] [[1, 2, 3], [4]] = false ∧ specOK 2 4 [1, 2, 3, 4, 5] [[1, 2, 3, 4, 5]] = false := by decide +kernel

end Restic.Props.C17
