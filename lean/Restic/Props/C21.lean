import Restic.Model.FileRestore
import Restic.Proofs.C19_Write
/-!
# C21 — restore --verify reports exactly the files that differ

Statement (properties.jsonl): verification after restore succeeds if and only if every restored
regular file has the snapshot's size and content; any difference in any byte or in the length is
reported.

Model: `verifyFile … failFast=true trustMtime=false`, `verifyTracked`, `verifyFilesOK`
(`Restic/Model/FileRestore.lean`), transcribed from `Restorer.verifyFile` / `VerifyFiles`.

The theorems hold for every hash function, every file content, every blob list (any number and
sizes of blobs, empty blobs included). Where SHA-256 would be needed as an injective function
the conclusion carries the explicit disjunct `Collision hash` instead.

Hypothesis `WF`: the node is consistent (`node.Size = Σ blob lengths`, every content id is the
hash of the blob's plaintext — the repository invariant C02). Without `Σ len = size` the
statement is false for the code as it is: `verifyFile` never looks at bytes beyond the last blob
(`size_gap_not_detected` below), so a snapshot written by a compromised host with
`Size > Σ len` verifies successfully against a file with arbitrary trailing bytes.
-/
namespace Restic.Props.C21
open Restic.Model.FileRestore

variable {ID : Type} [DecidableEq ID]

/-- `verifyFile` in the mode of `VerifyFiles` (`failFast`, no mtime shortcut); the one place where C21 unfolds it -/
theorem verifyFile_failFast_ok_iff (hash : Bytes → ID) (f : File) (w : Bool) (l : Nat) (m : Int) (node : FNode ID) :
    (∃ s, verifyFile hash (.regular f true w l m) node true false = .ok s) ↔
      node.size = f.len ∧ ∀ x ∈ blobWrites node.content 0 0, Matches hash f x := by
  have hb : (∃ r, verifyBlobs hash true f node.content 0 = .ok r) ↔
      ∀ x ∈ blobWrites node.content 0 0, Matches hash f x :=
    ⟨fun ⟨r, hr⟩ x hx => (verifyBlobs_sound hash true f node.content 0 0 r.1 r.2 hr).2 x hx (.inl rfl),
      verifyBlobs_failFast_of_matches hash f node.content 0 0⟩
  rw [← hb]
  simp only [verifyFile, Bool.not_true, Bool.false_eq_true, if_false, Bool.false_and, Bool.true_and]
  by_cases hs : node.size = f.len
  · simp only [hs, decide_true, Bool.not_true, Bool.false_eq_true, if_false, true_and]
    cases verifyBlobs hash true f node.content 0 <;> simp
  · simp [hs]

/-- no assumption on the hash function in this direction -/
theorem verify_ok_of_same (hash : Bytes → ID) (node : FNode ID) (hwf : WF hash node)
    (f : File) (w : Bool) (l : Nat) (m : Int) (hsame : f.toBytes = concat node.content) :
    ∃ s, verifyFile hash (.regular f true w l m) node true false = .ok s := by
  obtain ⟨hl, hp⟩ := (toBytes_eq_concat_iff f node.content).mp hsame
  exact (verifyFile_failFast_ok_iff ..).mpr ⟨hwf.size.trans hl.symm, fun x hx => (hp x hx).matches hwf.ids hx⟩

theorem verify_same_of_ok (hash : Bytes → ID) (node : FNode ID) (hwf : WF hash node)
    (t : Target) (s : FileState) (h : verifyFile hash t node true false = .ok s) :
    (∃ f w l m, t = .regular f true w l m ∧ f.toBytes = concat node.content) ∨ Collision hash := by
  obtain ⟨f, w, l, m, rfl⟩ := verifyFile_ok_regular hash t node true false s h
  obtain ⟨hsz, hm⟩ := (verifyFile_failFast_ok_iff hash f w l m node).mp ⟨s, h⟩
  by_cases hnc : NoCol hash node
  · exact .inl ⟨f, w, l, m, rfl, toBytes_eq_concat_of_matches hnc (hsz.symm.trans hwf.size) hm⟩
  · exact .inr (collision_of_not_noCol hash node hwf hnc)

/-- C21 for one file: verification succeeds iff the file is a readable regular file
    with exactly the snapshot content, up to an exhibited hash collision. -/
theorem verify_iff (hash : Bytes → ID) (node : FNode ID) (hwf : WF hash node) (t : Target) :
    ((∃ s, verifyFile hash t node true false = .ok s) ↔
      (∃ f w l m, t = .regular f true w l m ∧ f.toBytes = concat node.content)) ∨ Collision hash := by
  by_cases hc : Collision hash
  · exact Or.inr hc
  · left
    constructor
    · rintro ⟨s, h⟩
      exact (verify_same_of_ok hash node hwf t s h).resolve_right hc
    · rintro ⟨f, w, l, m, rfl, hsame⟩
      exact verify_ok_of_same hash node hwf f w l m hsame

/-- the form of the statement: any change of any byte or of the length is reported -/
theorem any_difference_reported (hash : Bytes → ID) (node : FNode ID) (hwf : WF hash node)
    (f : File) (w : Bool) (l : Nat) (m : Int) (hdiff : f.toBytes ≠ concat node.content) :
    (∃ e, verifyFile hash (.regular f true w l m) node true false = .error e) ∨ Collision hash := by
  cases hv : verifyFile hash (.regular f true w l m) node true false with
  | error e => exact Or.inl ⟨e, rfl⟩
  | ok s =>
    rcases verify_same_of_ok hash node hwf _ s hv with ⟨f', w', l', m', heq, hs⟩ | hc
    · cases heq; exact absurd hs hdiff
    · exact Or.inr hc

theorem verifyFile_meets_spec (hash : Bytes → ID) (node : FNode ID) (hwf : WF hash node) (t : Target) :
    specVerify t node (match verifyFile hash t node true false with | .ok _ => true | .error _ => false) = true
      ∨ Collision hash := by
  by_cases hc : Collision hash
  · exact Or.inr hc
  left
  cases hv : verifyFile hash t node true false with
  | ok s =>
    rcases verify_same_of_ok hash node hwf t s hv with ⟨f, w, l, m, rfl, hs⟩ | hc'
    · simp [specVerify, hs]
    · exact absurd hc' hc
  | error e =>
    -- a failure is wrong only for a readable regular file with the snapshot's content
    cases t with
    | regular f r w l m =>
      cases r with
      | false => rfl
      | true =>
        by_cases hs : f.toBytes = concat node.content
        · obtain ⟨s, h⟩ := verify_ok_of_same hash node hwf f w l m hs
          rw [h] at hv; cases hv
        · simp [specVerify, hs]
    | missing | dir | symlink | special => rfl

theorem verifyTracked_ok_iff (hash : Bytes → ID) (tr mo : Bool) (t : Target) (n : FNode ID) :
    (∃ u, verifyTracked hash tr mo t n = .ok u) ↔
      (tr = true → mo = false → ∃ s, verifyFile hash t n true false = .ok s) := by
  unfold verifyTracked
  cases tr with
  | false => exact ⟨fun _ => nofun, fun _ => ⟨(), rfl⟩⟩
  | true =>
    cases mo with
    | true => exact ⟨fun _ _ => nofun, fun _ => ⟨(), rfl⟩⟩
    | false => cases verifyFile hash t n true false <;> simp

/-- `VerifyFiles`; a file is `(tracked, metadataOnly, target, node)` -/
theorem verifyFiles_ok_iff_all (hash : Bytes → ID) (fs : List (Bool × Bool × Target × FNode ID)) :
    verifyFilesOK hash fs = true ↔
      ∀ x ∈ fs, x.1 = true → x.2.1 = false → ∃ s, verifyFile hash x.2.2.1 x.2.2.2 true false = .ok s := by
  rw [verifyFilesOK, List.all_eq_true]
  refine forall₂_congr fun x _ => ?_
  obtain ⟨tr, mo, t, n⟩ := x
  rw [← verifyTracked_ok_iff]
  cases hv : verifyTracked hash tr mo t n <;> simp [hv]

/-- C21, whole run: for consistent nodes, `VerifyFiles` succeeds iff every file restored with
    content is a readable regular file carrying exactly the snapshot bytes (or a collision). -/
theorem verifyFiles_exact (hash : Bytes → ID) (fs : List (Bool × Bool × Target × FNode ID))
    (hwf : ∀ x ∈ fs, WF hash x.2.2.2) :
    (verifyFilesOK hash fs = true ↔
      ∀ x ∈ fs, x.1 = true → x.2.1 = false →
        ∃ f w l m, x.2.2.1 = .regular f true w l m ∧ f.toBytes = concat x.2.2.2.content) ∨ Collision hash := by
  by_cases hc : Collision hash
  · exact Or.inr hc
  left
  rw [verifyFiles_ok_iff_all]
  exact forall₂_congr fun x hx => imp_congr_right fun _ => imp_congr_right fun _ =>
    (verify_iff hash _ (hwf x hx) _).resolve_right hc

/-! ## The consistency hypothesis `WF` is needed -/

/-- a node claiming 3 bytes with a single 1-byte blob: a 3-byte file with arbitrary trailing
    bytes passes `verifyFile` (identity "hash", so no collision is involved) -/
theorem size_gap_not_detected :
    ∃ (node : FNode Bytes) (f : File),
      (∀ b ∈ node.content, b.id = b.data) ∧ node.size ≠ totalLen node.content ∧
      f.toBytes ≠ concat node.content ∧
      (match verifyFile (fun b => b) (.regular f true true 1 0) node true false with
        | .ok _ => true | .error _ => false) = true :=
  ⟨⟨3, [⟨[1], [1]⟩], 0⟩, File.ofBytes [1, 7, 7], by decide, by decide, by decide, by decide⟩

/-- `WF` is satisfiable by a non-trivial node (three blobs, one of them empty); below, both
    directions of `verify_iff` on it -/
example : WF (fun b : Bytes => b) ⟨3, [⟨[1, 2], [1, 2]⟩, ⟨[], []⟩, ⟨[3], [3]⟩], 0⟩ :=
  ⟨by decide, by decide⟩

example : (match verifyFile (fun b : Bytes => b) (.regular (File.ofBytes [1, 2, 3]) true true 1 0)
    ⟨3, [⟨[1, 2], [1, 2]⟩, ⟨[], []⟩, ⟨[3], [3]⟩], 0⟩ true false with | .ok _ => true | .error _ => false) = true := by
  decide

example : (match verifyFile (fun b : Bytes => b) (.regular (File.ofBytes [1, 2, 4]) true true 1 0)
    ⟨3, [⟨[1, 2], [1, 2]⟩, ⟨[], []⟩, ⟨[3], [3]⟩], 0⟩ true false with
    | .error (.content 2) => true | _ => false) = true := by
  decide

example : (match verifyFile (fun b : Bytes => b) (.regular (File.ofBytes [1, 2]) true true 1 0)
    ⟨3, [⟨[1, 2], [1, 2]⟩, ⟨[], []⟩, ⟨[3], [3]⟩], 0⟩ true false with
    | .error .size => true | _ => false) = true := by
  decide

end Restic.Props.C21
