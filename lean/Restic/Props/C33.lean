import Restic.Model.RepairIndex
import Restic.Proofs.C33_Rewrite
import Restic.Gen.Source
import Restic.Proofs.Basics
/-!
# C33 — repair index rebuilds an index that describes the stored packs exactly

Theorems about `Restic.Model.RepairIndex` (transcription of `RepairIndex`, `createIndexFromPacks`,
`pack.Size`, `MasterIndex.Rewrite`). The statements hold for every repository state in which the
index files, and the packs, have pairwise distinct IDs (their file names; hypotheses `hix`, `hpk`):
any number of packs / index files, any damage expressible in the model (undecodable, duplicated,
partial, split, wrong index files, missing / unreadable / unknown packs), every processing order.
-/
namespace Restic.Props.C33
open Restic.Model.RepairIndex Restic.Proofs.C33

/-- `MasterIndex.Rewrite` is exact: afterwards the kept and the newly written index files
    describe precisely the old entries of the packs that are not excluded — whatever the order in
    which the old files are processed, whatever duplicates they contain. -/
theorem rewrite_exact (ex : List ID) (old : List IdxFile) (extra : List ID) (hnd : old.Nodup)
    (x : ID × Entry) :
    x ∈ out (rewrite ex old extra) ↔ x.1 ∉ ex ∧ x ∈ loadedEntries old := by
  have inv := rewrite_inv ex old extra hnd
  constructor
  · intro hx
    obtain ⟨h1, f, hf, c, hc, hx'⟩ := inv.sound x hx
    exact ⟨h1, mem_loadedEntries.mpr ⟨f, hf, c, hc, hx'⟩⟩
  · rintro ⟨h1, h2⟩
    obtain ⟨f, hf, c, hc, hx'⟩ := mem_loadedEntries.mp h2
    exact inv.complete f hf c hc x hx' h1

theorem rewrite_removed (ex : List ID) (old : List IdxFile) (extra : List ID) (hnd : old.Nodup)
    (i : ID) :
    i ∈ (rewrite ex old extra).obsolete ↔
      i ∈ extra ∨ ∃ f ∈ old, f.content.isSome ∧ f ∉ (rewrite ex old extra).kept ∧ f.id = i :=
  (rewrite_inv ex old extra hnd).obsolete_eq i

theorem mem_fromPacks {tr : List PackFile} {q : ID} {e : Entry} :
    (q, e) ∈ flat (createIndexFromPacks tr) ↔
      ∃ pf ∈ tr, pf.id = q ∧ ∃ es, pf.hdr = some es ∧ e ∈ es := by
  rw [mem_flat]
  unfold createIndexFromPacks
  simp only [List.mem_filterMap, Option.map_eq_some_iff, Prod.mk.injEq]
  constructor
  · rintro ⟨es, ⟨pf, hpf, es', h1, h2, h3⟩, he⟩
    subst h3; exact ⟨pf, hpf, h2, es', h1, he⟩
  · rintro ⟨pf, hpf, h2, es, h1, he⟩
    exact ⟨es, ⟨pf, hpf, es, h1, h2, rfl⟩, he⟩

/-- a pack is read again iff it is unknown to the loaded index or its size does not match; the
    specification's `trustedPack` is the negation of this in default mode -/
def mustRead (r : Repo) (readAll : Bool) (pf : PackFile) : Bool :=
  sizeFromIndex (loadedEntries (plan r readAll).oldIdx) pf.id != some pf.size

theorem mustRead_default (r : Repo) (pf : PackFile) : mustRead r false pf = !trustedPack r pf := rfl

theorem sizeFromIndex_nil (q : ID) : sizeFromIndex [] q = none := by
  simp [sizeFromIndex]

theorem mustRead_readAll (r : Repo) (pf : PackFile) : mustRead r true pf = true := by
  -- no index file is loaded, so no pack is known
  show (sizeFromIndex [] pf.id != _) = true
  rw [sizeFromIndex_nil]; rfl

theorem mem_toRead {r : Repo} {ra : Bool} {pf : PackFile} :
    pf ∈ (plan r ra).toRead ↔ pf ∈ r.packs ∧ mustRead r ra pf = true :=
  List.mem_filter

theorem mem_notFound {r : Repo} {ra : Bool} {q : ID} :
    q ∈ (plan r ra).notFound ↔
      (∃ e, (q, e) ∈ loadedEntries (plan r ra).oldIdx) ∧ q ∉ r.packs.map (·.id) := by
  simp only [plan, List.mem_filter, List.mem_eraseDups, List.mem_map, Bool.not_eq_true',
    List.contains_eq_mem, decide_eq_false_iff_not, Prod.exists]
  constructor
  · rintro ⟨⟨q', e, h, rfl⟩, h2⟩; exact ⟨⟨e, h⟩, h2⟩
  · rintro ⟨⟨e, h⟩, h2⟩; exact ⟨⟨q, e, h, rfl⟩, h2⟩

theorem mem_removePacks {r : Repo} {ra : Bool} {q : ID} :
    q ∈ (plan r ra).removePacks ↔
      (∃ pf ∈ r.packs, mustRead r ra pf = true ∧ pf.id = q) ∨ q ∈ (plan r ra).notFound := by
  simp only [Plan.removePacks, List.mem_append, List.mem_map, mem_toRead, and_assoc]

theorem mem_oldIdx {r : Repo} {ra : Bool} {f : IdxFile} :
    f ∈ (plan r ra).oldIdx ↔ f ∈ r.idxs ∧ f.content.isSome ∧ ra = false := by
  cases ra
  · exact List.mem_filter.trans (and_congr_right fun _ => (and_iff_left rfl).symm)
  · exact ⟨nofun, fun h => nomatch h.2.2⟩

theorem mem_obsolete0 {r : Repo} {ra : Bool} {i : ID} :
    i ∈ (plan r ra).obsolete0 ↔ ∃ f ∈ r.idxs, (f.content = none ∨ ra = true) ∧ f.id = i := by
  cases ra
  · show i ∈ (r.idxs.filter _).map _ ↔ _
    simp only [List.mem_map, List.mem_filter, Option.isNone_iff_eq_none, Bool.false_eq_true, or_false, and_assoc]
  · show i ∈ r.idxs.map _ ↔ _
    simp only [List.mem_map, or_true, true_and]

theorem oldIdx_nodup {r : Repo} {ra : Bool} (h : (r.idxs.map (·.id)).Nodup) :
    (plan r ra).oldIdx.Nodup := by
  cases ra
  · exact (h.of_map _ fun _ _ => mt (congrArg _)).sublist List.filter_sublist
  · exact List.nodup_nil

theorem entries_iff (r : Repo) (ra : Bool) (hix : (r.idxs.map (·.id)).Nodup) (q : ID) (e : Entry) :
    (q, e) ∈ (repairIndex r ra).entries ↔
      (∃ pf ∈ r.packs, pf.id = q ∧ mustRead r ra pf = true ∧ ∃ es, pf.hdr = some es ∧ e ∈ es) ∨
      (q ∉ (plan r ra).removePacks ∧ (q, e) ∈ loadedEntries (plan r ra).oldIdx) := by
  have key := rewrite_exact (plan r ra).removePacks (plan r ra).oldIdx (plan r ra).obsolete0
    (oldIdx_nodup hix) (q, e)
  unfold out at key
  unfold Result.entries repairIndex
  simp only [List.mem_append] at key ⊢
  rw [mem_fromPacks]
  constructor
  · rintro ((h | ⟨pf, hpf, h1, h2⟩) | h)
    · exact Or.inr (key.mp (Or.inl h))
    · exact Or.inl ⟨pf, (mem_toRead.mp hpf).1, h1, (mem_toRead.mp hpf).2, h2⟩
    · exact Or.inr (key.mp (Or.inr h))
  · rintro (⟨pf, hpf, h1, h2, h3⟩ | h)
    · exact Or.inl (Or.inr ⟨pf, mem_toRead.mpr ⟨hpf, h2⟩, h1, h3⟩)
    · rcases key.mpr h with h | h
      · exact Or.inl (Or.inl h)
      · exact Or.inr h

theorem reread_pack_exact (r : Repo) (ra : Bool) (hix : (r.idxs.map (·.id)).Nodup)
    (hpk : (r.packs.map (·.id)).Nodup) (pf : PackFile) (hpf : pf ∈ r.packs)
    (hm : mustRead r ra pf = true) (e : Entry) :
    (pf.id, e) ∈ (repairIndex r ra).entries ↔ e ∈ pf.hdr.getD [] := by
  rw [entries_iff r ra hix]
  constructor
  · rintro (⟨pf', hpf', h1, _, es, h3, h4⟩ | ⟨h1, _⟩)
    · have : pf' = pf := Proofs.inj_of_nodup_map _ _ hpk _ hpf' _ hpf h1
      subst this; simp [h3, h4]
    · exact absurd (mem_removePacks.mpr (.inl ⟨pf, hpf, hm, rfl⟩)) h1
  · intro he
    cases hh : pf.hdr with
    | none => rw [hh] at he; cases he
    | some es => rw [hh] at he; exact Or.inl ⟨pf, hpf, rfl, hm, es, hh, he⟩

theorem trusted_pack_kept (r : Repo) (ra : Bool) (hix : (r.idxs.map (·.id)).Nodup)
    (hpk : (r.packs.map (·.id)).Nodup) (pf : PackFile) (hpf : pf ∈ r.packs)
    (hm : mustRead r ra pf = false) (e : Entry) :
    (pf.id, e) ∈ (repairIndex r ra).entries ↔ (pf.id, e) ∈ loadedEntries (plan r ra).oldIdx := by
  rw [entries_iff r ra hix]
  constructor
  · rintro (⟨pf', hpf', h1, h2, _⟩ | ⟨_, h2⟩)
    · have : pf' = pf := Proofs.inj_of_nodup_map _ _ hpk _ hpf' _ hpf h1
      subst this; rw [hm] at h2; cases h2
    · exact h2
  · intro h
    refine Or.inr ⟨fun hq => ?_, h⟩
    rcases mem_removePacks.mp hq with ⟨pf', hpf', hm', h1⟩ | hnf
    · have : pf' = pf := Proofs.inj_of_nodup_map _ _ hpk _ hpf' _ hpf h1
      subst this; rw [hm] at hm'; cases hm'
    · exact (mem_notFound.mp hnf).2 (List.mem_map.mpr ⟨pf, hpf, rfl⟩)

theorem missing_pack_none (r : Repo) (ra : Bool) (hix : (r.idxs.map (·.id)).Nodup)
    (q : ID) (hq : q ∉ r.packs.map (·.id)) (e : Entry) : (q, e) ∉ (repairIndex r ra).entries := by
  rw [entries_iff r ra hix]
  rintro (⟨pf, hpf, h1, _⟩ | ⟨h1, h2⟩)
  · exact hq (List.mem_map.mpr ⟨pf, hpf, h1⟩)
  · exact h1 (mem_removePacks.mpr (.inr (mem_notFound.mpr ⟨⟨e, h2⟩, hq⟩)))

theorem mem_entriesOf {ents : List (ID × Entry)} {p : ID} {e : Entry} :
    e ∈ entriesOf ents p ↔ (p, e) ∈ ents := by
  unfold entriesOf
  simp only [List.mem_map, List.mem_filter, beq_iff_eq]
  constructor
  · rintro ⟨⟨q, e'⟩, ⟨h1, h2⟩, h3⟩; simp only at h2 h3; subst h2 h3; exact h1
  · intro h; exact ⟨(p, e), ⟨h, rfl⟩, rfl⟩

theorem sameSet_iff {a b : List Entry} : sameSet a b = true ↔ ∀ e, e ∈ a ↔ e ∈ b := by
  unfold sameSet
  simp only [Bool.and_eq_true, List.all_eq_true, List.contains_eq_mem, decide_eq_true_eq]
  constructor
  · rintro ⟨h1, h2⟩ e; exact ⟨h1 e, h2 e⟩
  · intro h; exact ⟨fun e he => (h e).mp he, fun e he => (h e).mpr he⟩

theorem specExact_iff {r : Repo} {final : List (ID × Entry)} {after : List ID} :
    specExact r final after = true ↔
      (∀ p ∈ r.packs, p.id ∈ after) ∧ (∀ p ∈ r.packs, ∀ e, (p.id, e) ∈ final ↔ e ∈ p.hdr.getD []) ∧
      ∀ pe ∈ final, pe.1 ∈ r.packs.map (·.id) := by
  simp only [specExact, Bool.and_eq_true, List.all_eq_true, List.contains_eq_mem, decide_eq_true_eq,
    sameSet_iff, mem_entriesOf, and_assoc]

theorem specDefault_iff {r : Repo} {final : List (ID × Entry)} {after : List ID} :
    specDefault r final after = true ↔
      (∀ p ∈ r.packs, p.id ∈ after) ∧
      (∀ p ∈ r.packs, ∀ e, (p.id, e) ∈ final ↔
        if trustedPack r p then (p.id, e) ∈ loadedEntries (r.idxs.filter (·.content.isSome))
        else e ∈ p.hdr.getD []) ∧
      ∀ pe ∈ final, pe.1 ∈ r.packs.map (·.id) := by
  simp only [specDefault, Bool.and_eq_true, List.all_eq_true, List.contains_eq_mem, decide_eq_true_eq,
    and_assoc]
  refine and_congr_right fun _ => and_congr_left fun _ => forall₂_congr fun p _ => ?_
  cases trustedPack r p <;> simp only [sameSet_iff, mem_entriesOf, if_true, if_false, Bool.false_eq_true]

theorem entries_stored (r : Repo) (ra : Bool) (hix : (r.idxs.map (·.id)).Nodup) :
    ∀ pe ∈ (repairIndex r ra).entries, pe.1 ∈ r.packs.map (·.id) :=
  fun pe hx => Decidable.byContradiction fun hq => missing_pack_none r ra hix pe.1 hq pe.2 hx

theorem pack_described (r : Repo) (hix : (r.idxs.map (·.id)).Nodup) (hpk : (r.packs.map (·.id)).Nodup)
    (p : PackFile) (hp : p ∈ r.packs) (e : Entry) :
    (p.id, e) ∈ (repairIndex r false).entries ↔
      if trustedPack r p then (p.id, e) ∈ loadedEntries (r.idxs.filter (·.content.isSome))
      else e ∈ p.hdr.getD [] := by
  cases ht : trustedPack r p
  · exact reread_pack_exact r false hix hpk p hp (by rw [mustRead_default, ht]; rfl) e
  · exact trusted_pack_kept r false hix hpk p hp (by rw [mustRead_default, ht]; rfl) e

/-- **repaired_exact_readall** (`--read-all-packs`): whatever the previous index state was, afterwards the
    index lists for every stored pack with a readable header exactly the header entries (type,
    id, true offset, length), nothing for unreadable packs, nothing for packs that are not
    stored; and no pack file was removed. -/
theorem repaired_exact_readall (r : Repo) (hix : (r.idxs.map (·.id)).Nodup)
    (hpk : (r.packs.map (·.id)).Nodup) :
    specExact r (repairIndex r true).entries (r.packs.map (·.id)) = true :=
  specExact_iff.mpr ⟨fun _ => List.mem_map_of_mem,
    fun p hp e => reread_pack_exact r true hix hpk p hp (mustRead_readAll r p) e, entries_stored r true hix⟩

/-- **repaired_default** (default mode, relative form): packs the loaded index knows with a
    consistent size keep exactly their old entries; all other stored packs are described exactly
    by their headers; nothing for missing packs; no pack file removed. No hypothesis on the old
    index state. -/
theorem repaired_default (r : Repo) (hix : (r.idxs.map (·.id)).Nodup)
    (hpk : (r.packs.map (·.id)).Nodup) :
    specDefault r (repairIndex r false).entries (r.packs.map (·.id)) = true :=
  specDefault_iff.mpr ⟨fun _ => List.mem_map_of_mem, pack_described r hix hpk, entries_stored r false hix⟩

/-- **repaired_exact_default**: if the old entries of every trusted pack are correct
    (the class "decodable but wrong entry with consistent size" is excluded — that one needs
    --read-all-packs), the default mode is exact as well. -/
theorem repaired_exact_default (r : Repo) (hix : (r.idxs.map (·.id)).Nodup)
    (hpk : (r.packs.map (·.id)).Nodup) (htc : trustedCorrect r = true) :
    specExact r (repairIndex r false).entries (r.packs.map (·.id)) = true := by
  simp only [trustedCorrect, List.all_eq_true, Bool.or_eq_true, Bool.not_eq_true', sameSet_iff,
    mem_entriesOf] at htc
  refine specExact_iff.mpr ⟨fun _ => List.mem_map_of_mem, fun p hp e => ?_, entries_stored r false hix⟩
  rw [pack_described r hix hpk p hp e]
  rcases htc p hp with ht | ht
  · rw [ht]; rfl
  · split
    · exact ht e
    · rfl

/-- The transcription meets the executable reading of C33 (`specOK`, the predicate the driver
    evaluates on the implementation's output), in both modes. -/
theorem repairIndex_spec (r : Repo) (ra : Bool) (hix : (r.idxs.map (·.id)).Nodup)
    (hpk : (r.packs.map (·.id)).Nodup) :
    specOK r ra (repairIndex r ra).entries (r.packs.map (·.id)) = true := by
  unfold specOK
  cases ra
  · simp only [Bool.false_eq_true, if_false, Bool.and_eq_true, Bool.or_eq_true, Bool.not_eq_true']
    refine ⟨repaired_default r hix hpk, ?_⟩
    by_cases htc : trustedCorrect r = true
    · exact Or.inr (repaired_exact_default r hix hpk htc)
    · exact Or.inl (by simpa using htc)
  · simpa using repaired_exact_readall r hix hpk

/-- index store during the run: new files carry no ID (their IDs are SHA-256 values of fresh
    ciphertexts and are never in the removal list), old files are `some id`. -/
abbrev Store := List (Option ID × IdxContent)

def applyEv (s : Store) : Ev → Store
  | .saveIdx c => s ++ [(none, c)]
  | .removeIdx i => s.filter fun f => f.1 != some i
  | .removePack _ => s

def applyAll (s : Store) (t : List Ev) : Store := t.foldl applyEv s

def storeEntries (s : Store) : List (ID × Entry) := flatAll (s.map (·.2))

def isSave : Ev → Bool | .saveIdx _ => true | _ => false
def isRemoveIdx : Ev → Bool | .removeIdx _ => true | _ => false

theorem applyAll_saves (s : Store) (t : List Ev) (h : ∀ e ∈ t, isSave e = true) :
    ∀ f ∈ s, f ∈ applyAll s t :=
  List.foldlRecOn t applyEv (motive := fun s' => ∀ f ∈ s, f ∈ s') (fun _ => id) fun _ hI e he f hf => by
    cases e with
    | saveIdx c => exact List.mem_append_left _ (hI f hf)
    | removeIdx | removePack => cases h _ he

theorem applyAll_removes_sub (s : Store) (t : List Ev) (h : ∀ e ∈ t, isRemoveIdx e = true) :
    ∀ f ∈ applyAll s t, f ∈ s :=
  List.foldlRecOn t applyEv (motive := fun s' => ∀ f ∈ s', f ∈ s) (fun _ => id) fun _ hI e he f hf => by
    cases e with
    | removeIdx i => exact hI f (List.mem_filter.mp hf).1
    | saveIdx | removePack => cases h _ he

theorem applyAll_append (s : Store) (a b : List Ev) : applyAll s (a ++ b) = applyAll (applyAll s a) b :=
  List.foldl_append

theorem mem_storeEntries {s : Store} {x : ID × Entry} :
    x ∈ storeEntries s ↔ ∃ f ∈ s, x ∈ flat f.2 := by
  simp only [storeEntries, flatAll, List.flatMap_map, List.mem_flatMap]

theorem storeEntries_mono {a b : Store} (h : ∀ f ∈ a, f ∈ b) : ∀ x ∈ storeEntries a, x ∈ storeEntries b := by
  intro x hx
  obtain ⟨f, hf, hx⟩ := mem_storeEntries.mp hx
  exact mem_storeEntries.mpr ⟨f, h f hf, hx⟩

/-- **prefix_safe**: for every trace of the shape "index saves, then index removals" and every
    crash point `k`, the index files present after the first `k` operations describe everything
    the initial files described, or everything the final files describe. So an entry that is
    valid before and after the repair is never missing in between. -/
theorem prefix_safe (s0 : Store) (saves removes : List Ev)
    (hs : ∀ e ∈ saves, isSave e = true) (hr : ∀ e ∈ removes, isRemoveIdx e = true) (k : Nat) :
    (∀ x ∈ storeEntries s0, x ∈ storeEntries (applyAll s0 ((saves ++ removes).take k))) ∨
    (∀ x ∈ storeEntries (applyAll s0 (saves ++ removes)),
        x ∈ storeEntries (applyAll s0 ((saves ++ removes).take k))) := by
  by_cases hk : k ≤ saves.length
  · left
    rw [List.take_append_of_le_length hk]
    exact storeEntries_mono (applyAll_saves s0 (saves.take k) fun e he => hs e (List.mem_of_mem_take he))
  · right
    have hk' : saves.length ≤ k := by omega
    have h1 : (saves ++ removes).take k = saves ++ removes.take (k - saves.length) := by
      rw [List.take_append]
      rw [List.take_of_length_le hk']
    have h2 : saves ++ removes = (saves ++ removes.take (k - saves.length)) ++ removes.drop (k - saves.length) := by
      rw [List.append_assoc, List.take_append_drop]
    rw [h1]
    apply storeEntries_mono
    intro f hf
    rw [h2, applyAll_append] at hf
    exact applyAll_removes_sub _ _ (fun e he => hr e (List.mem_of_mem_drop he)) f hf

theorem model_trace_shape (r : Repo) (ra : Bool) :
    ∃ saves removes, (repairIndex r ra).trace = saves ++ removes ∧
      (∀ e ∈ saves, isSave e = true) ∧ (∀ e ∈ removes, isRemoveIdx e = true) := by
  have hsave : ∀ c : IdxContent, ∀ e ∈ (if c.isEmpty then [] else [Ev.saveIdx c]), isSave e = true := by
    intro c e he
    split at he
    · cases he
    · cases List.mem_singleton.mp he; rfl
  refine ⟨_, _, rfl, fun e he => ?_, fun e he => ?_⟩
  · exact (List.mem_append.mp he).elim (hsave _ e) (hsave _ e)
  · obtain ⟨i, _, rfl⟩ := List.mem_map.mp he; rfl

/-- **no_pack_removed**: the command's trace contains no pack removal (and no other pack
    mutation: the model has no such event). -/
theorem no_pack_removed (r : Repo) (ra : Bool) :
    ∀ ev ∈ (repairIndex r ra).trace, ∀ id, ev ≠ Ev.removePack id := by
  obtain ⟨saves, removes, h, hs, hr⟩ := model_trace_shape r ra
  rintro _ hev id rfl
  rw [h] at hev
  exact (List.mem_append.mp hev).elim (fun h' => nomatch hs _ h') (fun h' => nomatch hr _ h')

/-- **repair_prefix_safe** for the transcription: at every crash point of `repair index` the
    stored index files describe everything they described before the command, or everything
    they describe after it. -/
theorem repair_prefix_safe (r : Repo) (ra : Bool) (s0 : Store) (k : Nat) :
    (∀ x ∈ storeEntries s0, x ∈ storeEntries (applyAll s0 ((repairIndex r ra).trace.take k))) ∨
    (∀ x ∈ storeEntries (applyAll s0 (repairIndex r ra).trace),
        x ∈ storeEntries (applyAll s0 ((repairIndex r ra).trace.take k))) := by
  obtain ⟨saves, removes, h, hs, hr⟩ := model_trace_shape r ra
  rw [h]; exact prefix_safe s0 saves removes hs hr k

/-- the acceptor used on *recorded* traces of the real command (events `TEv`, not the model's `Ev`;
    no theorem carries `prefix_safe` over to them) characterises the analogous shape: an accepted
    trace is index saves followed by index removals and nothing else. -/
theorem accept_shape (t : List TEv) (h : acceptTrace t = true) :
    ∃ saves removes, t = saves ++ removes ∧
      (∀ e ∈ saves, ∃ i, e = TEv.saveIndex i) ∧ (∀ e ∈ removes, ∃ i, e = TEv.removeIndex i) := by
  induction t with
  | nil => exact ⟨[], [], rfl, fun _ h => (nomatch h), fun _ h => (nomatch h)⟩
  | cons e t ih =>
    cases e with
    | saveIndex i =>
      obtain ⟨s, rm, rfl, h2, h3⟩ := ih h
      exact ⟨.saveIndex i :: s, rm, rfl, List.forall_mem_cons.mpr ⟨⟨i, rfl⟩, h2⟩, h3⟩
    | removeIndex i =>
      refine ⟨[], .removeIndex i :: t, rfl, fun _ h => (nomatch h),
        List.forall_mem_cons.mpr ⟨⟨i, rfl⟩, fun e he => ?_⟩⟩
      have := List.all_eq_true.mp h e he
      cases e with
      | removeIndex j => exact ⟨j, rfl⟩
      | saveIndex j => cases this
      | other w => cases this
    | other w => exact absurd h Bool.false_ne_true

/-- the stored index files as a store: undecodable files describe nothing -/
def storeOf (r : Repo) : Store := r.idxs.map fun f => (some f.id, f.content.getD [])

theorem applyAll_removeIds (ids : List ID) : ∀ (s : Store),
    applyAll s (ids.map Ev.removeIdx) = s.filter (fun f => ids.all fun i => f.1 != some i) := by
  induction ids with
  | nil => exact fun s => (List.filter_eq_self.mpr fun _ _ => rfl).symm
  | cons i ids ih =>
    intro s
    simp only [List.map_cons, applyAll, List.foldl_cons, applyEv]
    have := ih (s.filter fun f => f.1 != some i)
    simp only [applyAll] at this
    rw [this, List.filter_filter]
    congr 1
    funext f
    simp [Bool.and_comm]

/-- a new index is saved only if it is not empty; an empty one describes nothing anyway. `keep`: the removal
    filter of `applyAll_removeIds`; a new file has no id and passes it (`hk`). -/
theorem mem_storeEntries_saveIf (s : Store) (keep : Option ID × IdxContent → Bool) (hk : ∀ c, keep (none, c) = true)
    (c : IdxContent) (x : ID × Entry) :
    x ∈ storeEntries ((applyAll s (if c.isEmpty then [] else [Ev.saveIdx c])).filter keep) ↔
      x ∈ storeEntries (s.filter keep) ∨ x ∈ flat c := by
  by_cases hc : c.isEmpty = true
  · have : c = [] := by simpa using hc
    subst this
    simp [applyAll, flat]
  · simp only [hc, Bool.false_eq_true, if_false, applyAll, List.foldl_cons, List.foldl_nil, applyEv,
      List.filter_append, mem_storeEntries, List.mem_append, List.mem_filter, List.mem_singleton, or_and_right,
      exists_or]
    refine or_congr_right ⟨fun ⟨f, ⟨hf, _⟩, hx⟩ => by subst hf; exact hx, fun hx => ⟨_, ⟨rfl, hk c⟩, hx⟩⟩

/-- of the stored index files exactly those that `Rewrite` kept survive the removals: a loadable
    file that is not processed (`--read-all-packs`) is obsolete from the start, an unloadable one
    describes nothing -/
theorem survivors (r : Repo) (ra : Bool) (hix : (r.idxs.map (·.id)).Nodup) (x : ID × Entry) :
    x ∈ storeEntries ((storeOf r).filter fun f =>
        (rewrite (plan r ra).removePacks (plan r ra).oldIdx (plan r ra).obsolete0).obsolete.all fun i => f.1 != some i) ↔
      x ∈ flatAll ((rewrite (plan r ra).removePacks (plan r ra).oldIdx (plan r ra).obsolete0).kept.filterMap (·.content)) := by
  generalize hst : rewrite (plan r ra).removePacks (plan r ra).oldIdx (plan r ra).obsolete0 = st
  have inv : Inv _ _ _ st := hst ▸ rewrite_inv _ _ _ (oldIdx_nodup (ra := ra) hix)
  have hinj := Proofs.inj_of_nodup_map _ _ hix
  have key : ∀ f ∈ r.idxs, ∀ c, f.content = some c → (f.id ∉ st.obsolete ↔ f ∈ st.kept) := by
    intro f hf c hc
    have hsome : f.content.isSome := by simp [hc]
    rw [inv.obsolete_eq, mem_obsolete0]
    constructor
    · intro hno
      apply Classical.byContradiction
      intro hnk
      cases ra
      · exact hno (Or.inr ⟨f, mem_oldIdx.mpr ⟨hf, hsome, rfl⟩, hsome, hnk, rfl⟩)
      · exact hno (Or.inl ⟨f, hf, Or.inr rfl, rfl⟩)
    · rintro hk (⟨g, hg, hg', hid⟩ | ⟨g, hg, _, hnk, hid⟩)
      · cases hinj g hg f hf hid
        have := mem_oldIdx.mp (inv.kept_sub f hk)
        rcases hg' with h | h
        · simp [h] at hsome
        · simp [h] at this
      · cases hinj g (mem_oldIdx.mp hg).1 f hf hid
        exact hnk hk
  simp only [mem_storeEntries, mem_flatAll, List.mem_filterMap, List.mem_filter, storeOf, List.mem_map,
    List.all_eq_true, bne_iff_ne, ne_eq]
  constructor
  · rintro ⟨_, ⟨⟨g, hg, rfl⟩, hkeep⟩, hx⟩
    cases hc : g.content with
    | none => simp [hc, flat] at hx
    | some c =>
      rw [hc] at hx
      exact ⟨c, ⟨g, (key g hg c hc).mp (fun h => hkeep g.id h rfl), hc⟩, hx⟩
  · rintro ⟨c, ⟨g, hgk, hc⟩, hx⟩
    have hg := (mem_oldIdx.mp (inv.kept_sub g hgk)).1
    refine ⟨_, ⟨⟨g, hg, rfl⟩, fun i hi e => ?_⟩, by simpa [hc] using hx⟩
    cases Option.some.inj e
    exact (key g hg c hc).mpr hgk hi

/-- **trace_realises_result**: applying the command's trace (saves, then removals) to the
    stored index files leaves index files that describe exactly `Result.entries`. Together with
    `repairIndex_spec` and `repair_prefix_safe`: the final state is the specified one and every
    crash prefix describes the initial or that final content. -/
theorem trace_realises_result (r : Repo) (ra : Bool) (hix : (r.idxs.map (·.id)).Nodup) (x : ID × Entry) :
    x ∈ storeEntries (applyAll (storeOf r) (repairIndex r ra).trace) ↔ x ∈ (repairIndex r ra).entries := by
  -- all removals together are one filter on ids, applied after the two saves (`applyAll_removeIds`); a new file
  -- carries no id and passes it (`hk`), and of the old files it leaves what `Rewrite` kept (`survivors`)
  simp only [repairIndex, Result.entries, applyAll_append, applyAll_removeIds, List.mem_append]
  rw [mem_storeEntries_saveIf _ _ (fun _ => by simp), mem_storeEntries_saveIf _ _ (fun _ => by simp),
    survivors r ra hix x]

/-- `RepairIndex`: packs are listed and the new index is created from pack headers before the old
    index files are rewritten/removed; `RepairIndex` itself removes nothing. -/
theorem repairIndex_call_order :
    Restic.Gen.RepairIndex_calls.idxOf "repo.createIndexFromPacks" <
      Restic.Gen.RepairIndex_calls.idxOf "rewriteIndexFiles"
    ∧ "rewriteIndexFiles" ∈ Restic.Gen.RepairIndex_calls
    ∧ Restic.Gen.RepairIndex_calls.all (fun c => !(c == "restic.ParallelRemove") && !(c == "repo.RemoveUnpacked")
        && !(c == "repo.removeUnpacked") && !(c == "repo.be.Remove")) = true := by decide +kernel

/-- `createIndexFromPacks` flushes (saves) the new index before returning. -/
theorem createIndexFromPacks_flushes : "r.flush" ∈ Restic.Gen.createIndexFromPacks_calls := by decide +kernel

/-- `MasterIndex.Rewrite`: every `SaveIndex` is joined (`wg.Wait`) before `ParallelRemove`, and
    `ParallelRemove` is the only removal. -/
theorem rewrite_call_order :
    Restic.Gen.Rewrite_calls.idxOf "idx.SaveIndex" < Restic.Gen.Rewrite_calls.idxOf "wg.Wait"
    ∧ Restic.Gen.Rewrite_calls.idxOf "wg.Wait" < Restic.Gen.Rewrite_calls.idxOf "restic.ParallelRemove"
    ∧ "restic.ParallelRemove" ∈ Restic.Gen.Rewrite_calls
    ∧ (Restic.Gen.Rewrite_calls.filter (· == "restic.ParallelRemove")).length = 1 := by decide +kernel

def e1 : Entry := ⟨0, "b1", 0, 100, 0⟩
def e2 : Entry := ⟨0, "b2", 100, 50, 0⟩
def e3 : Entry := ⟨1, "t1", 0, 70, 200⟩
/-- p1: healthy but only partially indexed (size mismatch); p2: trusted; p3: unindexed and
    unreadable; index i2 undecodable; index entries for the missing pack "gone". -/
def exRepo : Repo :=
  { packs := [⟨"p1", 36 + 100 + 37 + 50 + 37, some [e1, e2]⟩, ⟨"p2", 36 + 70 + 41, some [e3]⟩, ⟨"p3", 10, none⟩],
    idxs := [⟨"i1", some [("p1", [e1]), ("p2", [e3]), ("gone", [e2])], false⟩, ⟨"i2", none, false⟩] }

example : (repairIndex exRepo false).entries = [("p1", e1), ("p1", e2), ("p2", e3)] := by decide +kernel
example : (repairIndex exRepo false).removed = ["i2", "i1"] := by decide +kernel
example : (repairIndex exRepo true).entries = [("p1", e1), ("p1", e2), ("p2", e3)] := by decide +kernel
example : specOK exRepo false (repairIndex exRepo false).entries ["p1", "p2", "p3"] = true := by decide +kernel
example : trustedCorrect exRepo = true := by decide +kernel
/-- the hypotheses of the theorems are satisfiable by this damaged state -/
example : (exRepo.idxs.map (·.id)).Nodup ∧ (exRepo.packs.map (·.id)).Nodup := by decide +kernel
/-- twin packs: two distinct, readable packs with an identical blob layout (two clients backing up
    the same small file), described by two old index files. The de-duplication key of `Rewrite`
    (`PackBlobsHash`) includes the pack ID, so both packs stay described — in the model by
    `rewrite_exact` / `trusted_pack_kept` for every state; here the concrete instance. -/
def twinRepo : Repo :=
  { packs := [⟨"pA", 36 + 100 + 37, some [e1]⟩, ⟨"pB", 36 + 100 + 37, some [e1]⟩],
    idxs := [⟨"i1", some [("pA", [e1])], false⟩, ⟨"i2", some [("pB", [e1])], false⟩] }
example : (repairIndex twinRepo false).entries = [("pA", e1), ("pB", e1)] := by decide +kernel
example : specOK twinRepo false (repairIndex twinRepo false).entries ["pA", "pB"] = true := by decide +kernel
example : specOK twinRepo false [("pA", e1)] ["pA", "pB"] = false := by decide +kernel

/-- the spec is not trivially true: leaving the old index untouched violates it -/
example : specOK exRepo false [("p1", e1), ("p2", e3), ("gone", e2)] ["p1", "p2", "p3"] = false := by decide +kernel

end Restic.Props.C33
