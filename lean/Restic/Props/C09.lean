import Restic.Proofs.C09_Exec
import Restic.Proofs.C09_Plan
import Restic.Gen.Source
/-!
# C09 — Prune never loses data still referenced by a remaining snapshot

Over `Restic.Model.Prune` (transcription of `packInfoFromIndex`, `decidePackAction`, the `keepBlobs` loop of
`PlanPrune`, and the language of backend operation sequences of `PrunePlan.Execute` / `MasterIndex.Rewrite`)
and `Restic.Model.Repo`.
-/
namespace Restic.Props.C09
open Restic.Model.Repo Restic.Model.Prune
open Restic.Proofs.C09Select Restic.Proofs.C09Plan Restic.Proofs.C09Exec Restic.Proofs.C10Account

/-- After `packInfoFromIndex`, every used blob has an index entry in a pack whose `usedBlobs` counter is
    positive (such a pack is never deleted), for every index order and any number of duplicates (the
    `uint8` counter saturates at 255). -/
theorem select_one (used : List BlobH) (idx : List PB) (st : Stats) (pi : PackInfoResult)
    (h : packInfoFromIndex used idx st = .ok pi) :
    ∀ b ∈ used, ∃ pb ∈ idx, pb.e.blob = b ∧ 1 ≤ ((pi.ip pb.pack).getD {}).usedBlobs :=
  (packInfo_spec h).1

/-- the sanity check `panic("internal error during blob selection")` is unreachable -/
theorem no_selection_panic (used : List BlobH) (idx : List PB) (st : Stats) :
    packInfoFromIndex used idx st ≠ .error .panicSelection := packInfo_no_panic used idx st

/-- a blob missing from the index makes planning fail (nothing is deleted) -/
theorem missing_blob_aborts (used : List BlobH) (idx : List PB) (st : Stats) (b : BlobH) (hb : b ∈ used)
    (hmiss : ∀ pb ∈ idx, pb.e.blob ≠ b) : packInfoFromIndex used idx st = .error .indexIncomplete := by
  rcases packInfo_cases used idx st with ⟨h, -⟩ | ⟨hocc, -⟩
  · exact h
  · obtain ⟨pb, hpb, hpbb⟩ := occ_pos_iff.mp (hocc b hb)
    exact absurd hpbb (hmiss pb hpb)

/-- Whatever the options, the choice oracle, the order of index entries and of the pack listing, a plan
    returned by the planner satisfies `planOK`: packs deleted first are unindexed, every used blob has a
    copy in a present pack that stays or, if it is to be repacked, in one that is repacked.
    (Hypothesis: the backend lists every pack file once.) -/
theorem plan_ok (o : Opts) (choice : ID → Bool) (used : List BlobH) (idx : List PB) (packs : List (ID × Nat))
    (pl : Plan) (hN : (packs.map (·.1)).Nodup) (h : planPrune o choice used idx packs = .ok pl) :
    planOK used idx packs pl = true := by
  have P := planPrune_planned h
  refine planOK_iff.mpr ⟨P.first hN, P.absent, fun b hb => ?_⟩
  by_cases hk : b ∈ pl.keep.getD []
  · -- `b` is to be repacked: no entry in a pack that stays, so the selected one is in a repacked pack
    rw [if_pos hk]
    obtain ⟨pb, hpb, hpbb, h1, h3⟩ := P.sel b hb
    have h2 : pb.pack ∈ pl.repack := Classical.byContradiction fun h2 =>
      Bool.false_ne_true (((P.keep b).mp hk).2 pb hpb hpbb ▸ keptB_eq_true.mpr ⟨h1, h2, h3⟩)
    exact hasCopyIn_iff.mpr ⟨pb, hpb, hpbb, h2, (P.listed pb hpb).resolve_right h3⟩
  · -- `b` has an entry in a pack that stays
    rw [if_neg hk]
    have : ∃ pb ∈ idx, pb.e.blob = b ∧ keptB pl pb.pack = true := Classical.byContradiction fun hn =>
      hk ((P.keep b).mpr ⟨hb, fun pb hpb hpbb => Bool.eq_false_iff.mpr fun hc => hn ⟨pb, hpb, hpbb, hc⟩⟩)
    obtain ⟨pb, hpb, hpbb, hkp⟩ := this
    obtain ⟨h1, h2, h3⟩ := keptB_eq_true.mp hkp
    exact hasCopyOutside_iff.mpr ⟨pb, hpb, hpbb, by simp [h1, h2], (P.listed pb hpb).resolve_right h3⟩

/-- `planOK` at repository level: every used blob has a witness outside the unindexed packs, and — unless
    it is going to be repacked — outside every pack scheduled for deletion -/
def planOKRepo (pl : XPlan) (used : List BlobH) (r : Repo) : Bool :=
  used.all fun b =>
    (pl.keep.contains b || hasWitness (pl.removeFirst ++ pl.exclude) r b) && hasWitness pl.removeFirst r b

theorem planOKRepo_iff {pl : XPlan} {used : List BlobH} {r : Repo} :
    planOKRepo pl used r = true ↔ ∀ b ∈ used,
      (b ∈ pl.keep ∨ hasWitness (pl.removeFirst ++ pl.exclude) r b = true) ∧ hasWitness pl.removeFirst r b = true := by
  simp only [planOKRepo, List.all_eq_true, Bool.and_eq_true, Bool.or_eq_true, List.contains_eq_mem, decide_eq_true_eq]

/-- If the sequence of completed backend operations of a prune run is in the language `accept` and the plan
    is OK for the initial state, then after EVERY prefix of the sequence (= every crash point, every failure
    point, completion) every used blob is listed by a present index file for a present pack that holds it. -/
theorem prune_prefix_safe (pl : XPlan) (used : List BlobH) (r0 : Repo) (tr : List Ev)
    (hacc : accept pl r0 tr = true) (hplan : planOKRepo pl used r0 = true) :
    ∀ k, ∀ b ∈ used, Indexed (applyAll r0 (tr.take k)) b = true := by
  have hinit : Inv pl used 0 r0 := by
    intro b hb
    obtain ⟨h1, h2⟩ := planOKRepo_iff.mp hplan b hb
    refine ⟨fun hc => ?_, h2⟩
    rcases hc with hc | hc
    · omega
    · rcases h1 with h1 | h1
      · exact absurd h1 hc
      · exact h1
  intro k
  obtain ⟨ph', hI⟩ := acceptFrom_prefix step_inv tr 0 r0 hinit hacc k
  exact fun b hb => hasWitness_indexed (hI b hb).2

theorem prune_prefix_restorable (pl : XPlan) (used : List BlobH) (r0 : Repo) (tr : List Ev) (s : Snap)
    (hs : ∀ b ∈ s.reach, b ∈ used)
    (hacc : accept pl r0 tr = true) (hplan : planOKRepo pl used r0 = true) :
    ∀ k, Restorable (applyAll r0 (tr.take k)) s = true := by
  intro k
  unfold Restorable
  rw [List.all_eq_true]
  intro b hb
  exact prune_prefix_safe pl used r0 tr hacc hplan k b (hs b hb)

/-- No prefix leaves an index entry pointing to a missing pack or to a blob its pack does not hold (if
    that was so before the run). -/
theorem prune_prefix_sound (pl : XPlan) (r0 : Repo) (tr : List Ev)
    (hacc : accept pl r0 tr = true) (h0 : IdxSound r0 = true) :
    ∀ k, IdxSound (applyAll r0 (tr.take k)) = true := fun k =>
  (acceptFrom_prefix (P := fun _ r => IdxSound r = true) step_sound tr 0 r0 h0 hacc k).elim fun _ h => h

theorem accept_snaps {pl : XPlan} {r0 : Repo} {tr : List Ev} (hacc : accept pl r0 tr = true) (k : Nat) :
    (applyAll r0 (tr.take k)).snaps = r0.snaps :=
  (acceptFrom_prefix (P := fun _ r => r.snaps = r0.snaps) (fun h hs => (step_snaps hs).trans h)
    tr 0 r0 rfl hacc k).elim fun _ h => h

/-- C09 at model level: `check` stays clean and every snapshot stays restorable at every prefix, when
    all snapshots' blobs are among the used blobs (prune computes `used` from all snapshots). -/
theorem prune_check_ok (pl : XPlan) (used : List BlobH) (r0 : Repo) (tr : List Ev)
    (hs : ∀ s ∈ r0.snaps, ∀ b ∈ s.2.reach, b ∈ used)
    (hacc : accept pl r0 tr = true) (hplan : planOKRepo pl used r0 = true) (h0 : IdxSound r0 = true) :
    ∀ k, CheckOK (applyAll r0 (tr.take k)) = true := by
  intro k
  unfold CheckOK
  rw [Bool.and_eq_true]
  refine ⟨prune_prefix_sound pl r0 tr hacc h0 k, ?_⟩
  rw [accept_snaps hacc k, List.all_eq_true]
  intro s hs'
  exact prune_prefix_restorable pl used r0 tr s.2 (hs s hs') hacc hplan k

/-- ties the planner's inputs `idx`, `packs` to a repository state; `truthful` is trusted, not checked -/
structure Reflects (r : Repo) (idx : List PB) (packs : List (ID × Nat)) : Prop where
  fromIndex : ∀ pb ∈ idx, ∃ i ∈ r.indexes, ∃ x ∈ i.2, x.1 = pb.pack ∧ pb.e ∈ x.2
  listed : ∀ x ∈ packs, packPresent r x.1 = true
  truthful : ∀ i ∈ r.indexes, ∀ x ∈ i.2, ∀ e ∈ x.2, ∀ pk ∈ r.packs, pk.1 = x.1 → ∃ e' ∈ pk.2, e'.blob = e.blob

theorem planOK_repo (r : Repo) (used : List BlobH) (idx : List PB) (packs : List (ID × Nat)) (pl : Plan)
    (hr : Reflects r idx packs) (h : planOK used idx packs pl = true) : planOKRepo pl.toX used r = true := by
  obtain ⟨hfirst, hign, hblobs⟩ := planOK_iff.mp h
  -- an index entry in a listed pack gives a witness avoiding any set the pack is not in
  have wit : ∀ (avoid : List ID) (pb : PB), pb ∈ idx → pb.pack ∉ avoid → pb.pack ∈ packs.map (·.1) →
      hasWitness avoid r pb.e.blob = true := by
    intro avoid pb hpb hav hl
    obtain ⟨x, hx, hxp⟩ := List.mem_map.mp hl
    rw [hasWitness_iff]
    obtain ⟨i, hi, y, hy, hyp, hye⟩ := hr.fromIndex pb hpb
    refine ⟨i, hi, y, hy, by rw [hyp]; exact hav, ⟨pb.e, hye, rfl⟩, ?_⟩
    rw [packHas_iff]
    obtain ⟨pk, hpk, hpk1⟩ := packPresent_iff.mp (hr.listed x hx)
    obtain ⟨e', he', hb'⟩ := hr.truthful i hi y hy pb.e hye pk hpk (by rw [hpk1, hxp, hyp])
    exact ⟨pk, hpk, by rw [hpk1, hxp, hyp], e', he', hb'⟩
  have notFirst : ∀ pb ∈ idx, pb.pack ∉ pl.removeFirst := fun pb hpb hc => hfirst _ hc pb hpb rfl
  refine planOKRepo_iff.mpr fun b hb => ?_
  have hbl := hblobs b hb
  by_cases hk : b ∈ pl.keep.getD []
  · rw [if_pos hk] at hbl
    obtain ⟨pb, hpb, rfl, -, hl⟩ := hasCopyIn_iff.mp hbl
    exact ⟨.inl hk, wit _ pb hpb (notFirst pb hpb) hl⟩
  · rw [if_neg hk] at hbl
    obtain ⟨pb, hpb, rfl, hav, hl⟩ := hasCopyOutside_iff.mp hbl
    have hw : hasWitness (pl.toX.removeFirst ++ pl.toX.exclude) r pb.e.blob = true :=
      wit _ pb hpb (by
        simp only [Plan.toX, List.mem_append, not_or] at hav ⊢
        exact ⟨notFirst pb hpb, hav, fun hc => hign _ hc hl⟩) hl
    exact ⟨.inr hw, hasWitness_weaken hw⟩

/-- Composition: for a repository state `r0`, any order of its index entries and of its pack listing, any
    options and any choice oracle: if planning succeeds and the executed operation sequence is in the
    language of `Execute`, every used blob stays indexed at every prefix. Re-running prune after any prefix
    is covered too, since `r0` is arbitrary. -/
theorem prune_safe (r0 : Repo) (o : Opts) (choice : ID → Bool) (used : List BlobH) (idx : List PB)
    (packs : List (ID × Nat)) (pl : Plan) (tr : List Ev)
    (hr : Reflects r0 idx packs) (hN : (packs.map (·.1)).Nodup)
    (hplan : planPrune o choice used idx packs = .ok pl) (hacc : accept pl.toX r0 tr = true) :
    ∀ k, ∀ b ∈ used, Indexed (applyAll r0 (tr.take k)) b = true :=
  prune_prefix_safe pl.toX used r0 tr hacc
    (planOK_repo r0 used idx packs pl hr (plan_ok o choice used idx packs pl hN hplan))

/-- `PrunePlan.Execute` (regenerated from internal/repository/prune.go on every run): delete unindexed
    packs, repack (`CopyBlobs`), check that everything was repacked, [unsafe-recovery index deletion],
    rewrite the index, and only then delete packs. -/
theorem execute_order :
    Restic.Gen.pruneExecute_calls.filter (fun c => c ∈ ["deleteFiles", "CopyBlobs", "plan.keepBlobs.Len", "rewriteIndexFiles"])
      = ["deleteFiles", "CopyBlobs", "plan.keepBlobs.Len", "deleteFiles", "rewriteIndexFiles", "deleteFiles"] := by
  decide +kernel

/-- `MasterIndex.Rewrite`: all index saves are joined (`wg.Wait`) before obsolete index files are removed. -/
theorem rewrite_order :
    Restic.Gen.indexRewrite_calls.filter (fun c => c ∈ ["idx.SaveIndex", "wg.Wait", "restic.ParallelRemove"])
      = ["idx.SaveIndex", "wg.Wait", "restic.ParallelRemove"] := by
  decide +kernel

/-- `repack`: a blob is taken off `keepBlobs` only by the worker that goes on to save it -/
theorem repack_order :
    Restic.Gen.repack_calls.filter (fun c => c ∈ ["keepBlobs.Delete", "uploader.SaveBlob"])
      = ["keepBlobs.Delete", "uploader.SaveBlob"] := by
  decide +kernel

section Examples

private def bD (s : String) : BlobH := { tpe := .data, id := s }
private def en (p : ID) (b : String) (len : Nat) : PB := { pack := p, e := { blob := bD b, off := 0, len := len, unc := true } }

/-- pack P (indexed, missing from the repository) lists b and an unused blob; pack Q (present) lists b, an
    unused blob and c. Used: b, c. -/
private def exIdx : List PB := [en "P" "b" 100, en "P" "u1" 50, en "Q" "b" 100, en "Q" "u2" 70, en "Q" "c" 30]
private def exPacks : List (ID × Nat) := [("Q", 36 + 3 * 37 + 200)]
private def exOpts : Opts := { maxUnusedZero := true, smallPackBytes := 1 }

/-- F17: the planner as found in restic (`skipIgnored = false`) drops the used blob b from `keepBlobs`
    because of its index entry in the *missing* pack P, while the only real copy lies in Q, which is
    repacked and deleted: `planOK` is false for the plan it returns. -/
theorem f17_negation_witness :
    (match planPruneG false exOpts (fun _ => true) [bD "b", bD "c"] exIdx exPacks with
     | .ok pl => planOK [bD "b", bD "c"] exIdx exPacks pl
     | .error _ => true) = false := by decide

/-- the corrected planner keeps b -/
example :
    (match planPrune exOpts (fun _ => true) [bD "b", bD "c"] exIdx exPacks with
     | .ok pl => pl.keep == some [bD "b", bD "c"] && pl.repack == ["Q"] && pl.ignore == ["P"] &&
                 planOK [bD "b", bD "c"] exIdx exPacks pl
     | .error _ => false) = true := by decide +kernel

private def e1 (b : String) (n : Nat) : Entry := { blob := bD b, off := 0, len := n, unc := true }

/-- non-vacuity of `prune_prefix_safe` / `prune_check_ok`: a plan with a repack and a complete accepted
    operation sequence -/
private def exRepo : Repo :=
  { packs := [("Q", [e1 "b" 100, e1 "u2" 70, e1 "c" 30]), ("R", [e1 "x" 10]), ("Z", [e1 "z" 5])]
    indexes := [("i1", [("Q", [e1 "b" 100, e1 "u2" 70, e1 "c" 30]), ("R", [e1 "x" 10])])]
    snaps := [("s1", { tree := "t", reach := [bD "b", bD "c"] })] }
private def exX : XPlan := { removeFirst := ["Z"], exclude := ["R", "Q"], keep := [bD "b", bD "c"] }
private def exTrace : List Ev :=
  [.remove .pack "Z", .save .pack "N" (.pack [e1 "b" 100, e1 "c" 30]),
   .save .index "i2" (.index [("N", [e1 "b" 100, e1 "c" 30])]), .remove .index "i1",
   .remove .pack "R", .remove .pack "Q"]

example : accept exX exRepo exTrace = true ∧ planOKRepo exX [bD "b", bD "c"] exRepo = true ∧
    IdxSound exRepo = true ∧ CheckOK (applyAll exRepo exTrace) = true := by decide +kernel

/-- deleting the pack before the index is rewritten is not in the language -/
example : accept exX exRepo [.remove .pack "Z", .save .pack "N" (.pack [e1 "b" 100, e1 "c" 30]),
    .save .index "i2" (.index [("N", [e1 "b" 100, e1 "c" 30])]), .remove .pack "Q"] = false := by decide +kernel

/-- removing the old index before the repacked blobs are indexed is not in the language -/
example : accept exX exRepo [.remove .pack "Z", .save .pack "N" (.pack [e1 "b" 100, e1 "c" 30]),
    .remove .index "i1"] = false := by decide +kernel

end Examples

end Restic.Props.C09
