import Restic.Model.CheckHist
import Restic.Proofs.Fold
import Restic.Gen.Source
/-!
# C15 — check reports no errors on any repository restic itself produced

Over `Restic.Model.CheckHist`: the command languages keep the repository invariant `Inv`, and in a
state satisfying `Inv` everything `check` can report is a hint.

Not proved here (docs/C15.md): that the real commands only emit traces of these languages — that is
the correspondence run (recorded backend traces of the real CLI replayed through `accept`) and,
command by command, the subject of C09, C11, C26, C29, C31–C34.
-/
namespace Restic.Props.C15
open Restic.Model.CheckHist

/-- holds after every backend operation of every command -/
structure Inv (r : Repo) : Prop where
  entries_stored : ∀ ie ∈ r.idx, ∀ e ∈ ie.2, e ∈ r.packs
  snaps_indexed : ∀ sn ∈ r.snaps, ∀ b ∈ sn.2, indexed r b = true
  packs_unique : ∀ q ∈ r.packs, ∀ q' ∈ r.packs, q.1 = q'.1 → q.2 = q'.2

theorem inv_empty : Inv Repo.empty :=
  ⟨by simp [Repo.empty], by simp [Repo.empty], by simp [Repo.empty]⟩

theorem indexed_iff (r : Repo) (b : Id) :
    indexed r b = true ↔ ∃ ie ∈ r.idx, ∃ e ∈ ie.2, b ∈ e.2 := by
  simp only [indexed, List.any_eq_true, List.contains_iff_mem]

theorem indexedWithout_iff (i : Id) (r : Repo) (b : Id) :
    indexedWithout i r b = true ↔ ∃ ie ∈ r.idx, ie.1 ≠ i ∧ ∃ e ∈ ie.2, b ∈ e.2 := by
  simp only [indexedWithout, List.any_eq_true, Bool.and_eq_true, bne_iff_ne, List.contains_iff_mem]

theorem indexed_mono {r r' : Repo} (h : ∀ ie ∈ r.idx, ie ∈ r'.idx) {b : Id}
    (hb : indexed r b = true) : indexed r' b = true := by
  rw [indexed_iff] at hb ⊢
  obtain ⟨ie, hie, e, he, hbe⟩ := hb
  exact ⟨ie, h ie hie, e, he, hbe⟩

theorem step_inv (r : Repo) (e : Ev) (hI : Inv r) (hg : evGuard r e = true) : Inv (apply r e) := by
  -- `indexed` only reads the index files, so `snaps_indexed` carries over unless those change
  cases e with
  | savePack p bs =>
    simp only [apply]
    split
    · exact hI
    · refine ⟨fun ie hie e he => List.mem_cons_of_mem _ (hI.entries_stored ie hie e he), hI.snaps_indexed, ?_⟩
      -- the guard: a stored pack of the same name has the same content
      simp only [evGuard, List.all_eq_true, Bool.or_eq_true, bne_iff_ne, ne_eq, beq_iff_eq] at hg
      intro q hq q' hq' hqq
      rcases List.mem_cons.mp hq with rfl | hq <;> rcases List.mem_cons.mp hq' with rfl | hq'
      · rfl
      · exact ((hg q' hq').resolve_left fun h => h hqq.symm).symm
      · exact (hg q hq).resolve_left fun h => h hqq
      · exact hI.packs_unique q hq q' hq' hqq
  | saveIndex i es =>
    simp only [evGuard, List.all_eq_true, List.contains_iff_mem] at hg
    simp only [apply]
    split
    · exact hI
    · refine ⟨fun ie hie e he => ?_, fun sn hsn b hb => ?_, hI.packs_unique⟩
      · rcases List.mem_cons.mp hie with rfl | hie
        · exact hg e he
        · exact hI.entries_stored ie hie e he
      · exact indexed_mono (r := r) (fun _ h => List.mem_cons_of_mem _ h) (hI.snaps_indexed sn hsn b hb)
  | saveSnap s ns =>
    simp only [evGuard, List.all_eq_true] at hg
    simp only [apply]
    split
    · exact hI
    · refine ⟨hI.entries_stored, fun sn hsn b hb => ?_, hI.packs_unique⟩
      rcases List.mem_cons.mp hsn with rfl | hsn
      · exact hg b hb
      · exact hI.snaps_indexed sn hsn b hb
  | removePack p =>
    simp only [evGuard, List.all_eq_true] at hg
    exact ⟨fun ie hie e he => List.mem_filter.mpr ⟨hI.entries_stored ie hie e he, hg ie hie e he⟩,
      hI.snaps_indexed,
      fun q hq q' hq' => hI.packs_unique q (List.mem_filter.mp hq).1 q' (List.mem_filter.mp hq').1⟩
  | removeIndex i =>
    simp only [evGuard, List.all_eq_true] at hg
    refine ⟨fun ie hie => hI.entries_stored ie (List.mem_filter.mp hie).1, fun sn hsn b hb => ?_, hI.packs_unique⟩
    -- the guard: `b` is listed by an index file other than `i`, which stays
    obtain ⟨ie, hie, hne, e, he, hbe⟩ := (indexedWithout_iff i r b).mp (hg sn hsn b hb)
    exact (indexed_iff _ b).mpr ⟨ie, List.mem_filter.mpr ⟨hie, bne_iff_ne.mpr hne⟩, e, he, hbe⟩
  | removeSnap s =>
    exact ⟨hI.entries_stored, fun sn hsn => hI.snaps_indexed sn (List.mem_filter.mp hsn).1, hI.packs_unique⟩
  | other => exact hI

theorem accept_guarded (c : Cmd) :
    Restic.Proofs.Trace.Guarded apply (fun r e => allowed c e && evGuard r e) (accept c) :=
  ⟨fun _ => rfl, fun _ _ _ => rfl⟩

theorem run_inv (c : Cmd) (tr : List Ev) (r : Repo) (hI : Inv r) (ha : accept c r tr = true) :
    Inv (run r tr) :=
  (accept_guarded c).inv (fun s e hI hg => step_inv s e hI (Bool.and_eq_true_iff.mp hg).2) hI ha

theorem accept_prefix_closed (c : Cmd) (tr : List Ev) (r : Repo) (k : Nat)
    (ha : accept c r tr = true) : accept c r (tr.take k) = true :=
  (accept_guarded c).take ha k

theorem run_inv_every_prefix (c : Cmd) (tr : List Ev) (r : Repo) (hI : Inv r)
    (ha : accept c r tr = true) (k : Nat) : Inv (run r (tr.take k)) :=
  run_inv c _ r hI (accept_prefix_closed c tr r k ha)

theorem mem_entries (r : Repo) (x : Id × Id × Blobs) :
    x ∈ entries r ↔ ∃ ie ∈ r.idx, ie.1 = x.1 ∧ (x.2.1, x.2.2) ∈ ie.2 := by
  simp only [entries, List.mem_flatMap, List.mem_map]
  constructor
  · rintro ⟨ie, hie, e, he, rfl⟩
    exact ⟨ie, hie, rfl, he⟩
  · rintro ⟨ie, hie, h1, h2⟩
    exact ⟨ie, hie, (x.2.1, x.2.2), h2, by rw [h1]⟩

theorem packContent_of_mem (r : Repo) (hI : Inv r) (p : Id) (bs : Blobs) (h : (p, bs) ∈ r.packs) :
    packContent r p = some bs := by
  unfold packContent
  cases hf : r.packs.find? (fun q => q.1 == p) with
  | none =>
    have := List.find?_eq_none.mp hf (p, bs) h
    simp at this
  | some q =>
    have hq : q ∈ r.packs := List.mem_of_find?_eq_some hf
    have hp : (q.1 == p) = true := List.find?_some (p := fun (q : Id × Blobs) => q.1 == p) hf
    have : q.2 = bs := hI.packs_unique q hq (p, bs) h (by simpa using hp)
    simp [this]

/-- Under `Inv` an index entry is the content of its stored pack, and no other entry of that pack differs:
    `duplicate` is all `check` can say of it. -/
theorem entryFindings_of_inv {r : Repo} (hI : Inv r) {x : Id × Id × Blobs} (hx : x ∈ entries r) :
    ∀ f ∈ entryFindings r x, f = .duplicate x.2.1 := by
  intro f hfx
  obtain ⟨ie, hie, _, hxe⟩ := (mem_entries r x).mp hx
  have hstored : (x.2.1, x.2.2) ∈ r.packs := hI.entries_stored ie hie _ hxe
  have hpc := packContent_of_mem r hI _ _ hstored
  have hno : (entries r).any (fun y => y.2.1 == x.2.1 && y.2.2 != x.2.2) = false := by
    apply Bool.eq_false_iff.mpr
    intro hany
    obtain ⟨y, hy, hyp⟩ := List.any_eq_true.mp hany
    simp only [Bool.and_eq_true, beq_iff_eq, bne_iff_ne, ne_eq] at hyp
    obtain ⟨ie', hie', _, hye⟩ := (mem_entries r y).mp hy
    have hy' : (y.2.1, y.2.2) ∈ r.packs := hI.entries_stored ie' hie' _ hye
    exact hyp.2 (hI.packs_unique _ hy' _ hstored hyp.1)
  simp only [entryFindings, hpc, beq_self_eq_true, if_true, hno, Bool.false_eq_true, if_false,
    List.nil_append] at hfx
  split at hfx
  · exact List.mem_singleton.mp hfx
  · cases hfx

theorem inv_findings_clean (r : Repo) (hI : Inv r) : ∀ f ∈ findings r, isError f = false := by
  intro f hf
  simp only [findings, orphanFindings, snapFindings, List.mem_append] at hf
  rcases hf with (hf | hf) | hf
  · obtain ⟨x, hx, hfx⟩ := List.mem_flatMap.mp hf
    exact entryFindings_of_inv hI hx f hfx ▸ rfl
  · obtain ⟨q, _, hfq⟩ := List.mem_flatMap.mp hf
    split at hfq
    · cases hfq
    · exact List.mem_singleton.mp hfq ▸ rfl
  · obtain ⟨sn, hsn, hfs⟩ := List.mem_flatMap.mp hf
    obtain ⟨b, hb, _⟩ := List.mem_map.mp hfs
    simp only [List.mem_filter, Bool.not_eq_true'] at hb
    exact absurd (hI.snaps_indexed sn hsn b hb.1) (hb.2 ▸ Bool.false_ne_true)

theorem accountStep_errorsFound (s : Summary) (f : Finding) :
    (accountStep s f).errorsFound = (s.errorsFound || isError f) := by
  cases f <;> simp only [accountStep, isError, Bool.or_true, Bool.or_false]

theorem accountStep_numErrors (s : Summary) {f : Finding} (hf : isError f = false) :
    (accountStep s f).numErrors = s.numErrors := by
  cases f <;> first | rfl | cases hf

theorem foldl_accountStep_errorsFound (fs : List Finding) (s : Summary) :
    (fs.foldl accountStep s).errorsFound = (s.errorsFound || fs.any isError) := by
  induction fs generalizing s with
  | nil => simp only [List.foldl_nil, List.any_nil, Bool.or_false]
  | cons f t ih => simp only [List.foldl_cons, ih, accountStep_errorsFound, List.any_cons, Bool.or_assoc]

theorem foldl_accountStep_numErrors_zero (fs : List Finding) (s : Summary)
    (h : ∀ f ∈ fs, isError f = false) : (fs.foldl accountStep s).numErrors = s.numErrors :=
  List.foldlRecOn fs accountStep (motive := fun s' => s'.numErrors = s.numErrors) rfl
    fun s' hs f hf => (accountStep_numErrors s' (h f hf)).trans hs

/-- Stopping after the index phase changes nothing: what stops the run is itself an error of that phase. -/
theorem account_errorsFound (fs : List Finding) : (account fs).errorsFound = fs.any isError := by
  unfold account
  by_cases hidx : fs.any isIndexLoadError = true
  · obtain ⟨f, hf, hfe⟩ := List.any_eq_true.mp hidx
    have hf' : f = .indexLoadError := by cases f <;> first | rfl | cases hfe
    subst hf'
    rw [if_pos hidx, foldl_accountStep_errorsFound, List.any_eq_true.mpr ⟨_, List.mem_filter.mpr ⟨hf, rfl⟩, rfl⟩,
      List.any_eq_true.mpr ⟨_, hf, rfl⟩]
    rfl
  · rw [if_neg hidx, foldl_accountStep_errorsFound]; rfl

/-- `runCheck`'s accounting: `errorsFound` (exit status 1) iff some finding is classified as an error. -/
theorem account_clean_iff (fs : List Finding) :
    (account fs).errorsFound = false ↔ ∀ f ∈ fs, isError f = false := by
  simp only [account_errorsFound, List.any_eq_false, Bool.not_eq_true]

theorem account_clean_summary (fs : List Finding) (h : ∀ f ∈ fs, isError f = false) :
    (account fs).numErrors = 0 ∧ exitCode (account fs) = 0 := by
  have hclean := (account_clean_iff fs).mpr h
  refine ⟨?_, by simp [exitCode, hclean]⟩
  unfold account
  split
  · exact foldl_accountStep_numErrors_zero _ _ (fun f hf => h f (List.mem_filter.mp hf).1)
  · exact foldl_accountStep_numErrors_zero _ _ h

/-- Orphaned packs, packs listed by several index files with identical
    entries and mixed packs never make check fail, whatever their number. -/
theorem hints_not_errors (fs : List Finding)
    (h : ∀ f ∈ fs, (∃ p, f = .orphan p) ∨ (∃ p, f = .duplicate p) ∨ (∃ p, f = .mixed p)) :
    exitCode (account fs) = 0 ∧ (account fs).numErrors = 0 := by
  have hc : ∀ f ∈ fs, isError f = false := by
    intro f hf
    rcases h f hf with ⟨p, rfl⟩ | ⟨p, rfl⟩ | ⟨p, rfl⟩ <;> rfl
  exact (account_clean_summary fs hc).symm

theorem inv_checkok (r : Repo) (hI : Inv r) : CheckOK' r = true := by
  unfold CheckOK'
  rw [(account_clean_iff _).mpr (inv_findings_clean r hI)]
  rfl

theorem runCut_inv (h : CutHistory) (r : Repo) (hI : Inv r) (ha : acceptCut r h = true) :
    Inv (runCut r h) := by
  induction h generalizing r with
  | nil => exact hI
  | cons x t ih =>
    obtain ⟨c, tr, k⟩ := x
    simp only [acceptCut, Bool.and_eq_true] at ha
    exact ih _ (run_inv_every_prefix c tr r hI ha.1 k) ha.2

/-- C15 with crash points: after any history of command runs from the empty repository, each within its command's
    language and cut after an arbitrary number of backend operations, `check --read-data` reports no error (at
    most hints). -/
theorem produced_checkok_cut (h : CutHistory) (ha : acceptCut Repo.empty h = true) :
    CheckOK' (runCut Repo.empty h) = true :=
  inv_checkok _ (runCut_inv h _ inv_empty ha)

theorem cut_whole (h : History) (r : Repo) :
    acceptCut r (h.map fun x => (x.1, x.2, x.2.length)) = acceptH r h ∧
      runCut r (h.map fun x => (x.1, x.2, x.2.length)) = runH r h := by
  induction h generalizing r with
  | nil => exact ⟨rfl, rfl⟩
  | cons x t ih => simp only [List.map_cons, acceptCut, acceptH, runCut, runH, List.take_length, ih, and_self]

/-- C15: the same for runs that are not cut. -/
theorem produced_checkok (h : History) (ha : acceptH Repo.empty h = true) :
    CheckOK' (runH Repo.empty h) = true :=
  (cut_whole h _).2 ▸ produced_checkok_cut _ ((cut_whole h _).1.trans ha)

/-- in such a state the model of check exits 0 with `num_errors = 0` — what `specOK` demands of the
    real command's output. -/
theorem produced_spec (h : CutHistory) (ha : acceptCut Repo.empty h = true) :
    let s := account (findings (runCut Repo.empty h))
    specOK (exitCode s) s.numErrors 0 = true := by
  have hI := runCut_inv h _ inv_empty ha
  have := account_clean_summary _ (inv_findings_clean _ hI)
  simp [specOK, this.1, this.2]

def between (l : List String) (a b : String) : List String :=
  ((l.dropWhile (· != a)).drop 1).takeWhile (· != b)

/-- the type switch over the index hints in `runCheck` (between creating `salvagePacks` and the
    `len(errs)` test): incomplete pack entry prints with the error printer `E` and records the pack
    for salvage; duplicate and mixed print with the hint printer `S`; the default case is an error
    again; then the two hint explanations. -/
theorem runCheck_hint_switch :
    between Restic.Gen.runCheck_calls "restic.NewIDSet" "len" =
      ["hint.Error", "printer.E", "salvagePacks.Insert", "hint.Error", "printer.S", "hint.Error", "printer.S",
       "printer.E", "printer.S", "printer.S"] := by
  decide +kernel

/-- the phases of `runCheck` in order: index, pack metadata, structure, pack data -/
theorem runCheck_phase_order :
    (Restic.Gen.runCheck_calls.filter fun c => c ∈ ["chkr.LoadIndex", "chkr.Packs", "chkr.Structure", "chkr.ReadPacks"]) =
      ["chkr.LoadIndex", "chkr.Packs", "chkr.Structure", "chkr.ReadPacks"] := by
  decide +kernel

/-- a backup (pack, index, snapshot), an interrupted second backup that leaves an orphaned pack,
    a repair index interrupted before the old index is removed (duplicate), then forget + prune -/
def exHistory : CutHistory :=
  [ (.backup, [.other, .savePack "p1" ["d1", "t1"], .saveIndex "i1" [("p1", ["d1", "t1"])], .saveSnap "s1" ["d1", "t1"], .other], 5),
    (.backup, [.other, .savePack "p2" ["d2"], .saveIndex "i2" [("p2", ["d2"])], .saveSnap "s2" ["d1", "d2", "t1"]], 2),
    (.repairIndex, [.saveIndex "i3" [("p1", ["d1", "t1"])], .removeIndex "i1"], 1),
    (.forgetPrune, [.removeSnap "s1", .removePack "p2"], 2) ]

example : acceptCut Repo.empty exHistory = true := by decide +kernel
example : CheckOK' (runCut Repo.empty exHistory) = true := by decide +kernel
/-- the state reached is not trivial: it has hints -/
example : (account (findings (runCut Repo.empty (exHistory.take 3)))).hintRepairIndex = true ∧
          (account (findings (runCut Repo.empty (exHistory.take 3)))).hintPrune = true := by decide +kernel
/-- the languages exclude the orders that would break the repository: removing a pack that is
    still indexed, saving a snapshot before its index -/
example : accept .prune ⟨[("p1", ["d1"])], [("i1", [("p1", ["d1"])])], []⟩ [.removePack "p1"] = false := by decide +kernel
example : accept .backup Repo.empty [.savePack "p1" ["d1"], .saveSnap "s1" ["d1"]] = false := by decide +kernel
/-- … and the classification does flag such states -/
example : CheckOK' ⟨[], [("i1", [("p1", ["d1"])])], [("s1", ["d1"])]⟩ = false := by decide +kernel
example : CheckOK' ⟨[("p1", ["d1"])], [], [("s1", ["d1"])]⟩ = false := by decide +kernel

end Restic.Props.C15
