import Restic.Model.AssocSet
import Restic.Proofs.C56_FirstPos
import Restic.Gen.Source
import Restic.Proofs.Basics
/-!
# C48 — Blob sets report each member once

Statement (properties.jsonl): the blob sets used by prune, check, copy and diff report a length
equal to the number of distinct members and enumerate each member exactly once, also when the
index holds the same blob in several packs.

Theorems about `Restic.Model.AssocSet` (transcription of `associated_data.go` **with** the fix
`fix/C48-associated-set-once`), for every master index (any number of entries per blob, merged and
unmerged indexes), every set state reachable by `Set/Insert/Delete/Intersect/Sub`, also when the
master index grows while the set is in use.
-/
namespace Restic.Props.C48
open Restic.Model.IndexMap (ID Val firstPos)
open Restic.Model.Index Restic.Model.AssocSet

/-- T1 (regenerated from associated_data.go): `All` iterates `firstValues` of the main index
    (transcribed as `ASet.all`), not every entry of every index (`Values`), and `Len` counts what
    `All` yields -/
theorem all_iterates_firstValues :
    "a.idx.firstValues" ∈ Restic.Gen.AssociatedSet_All_calls
    ∧ "a.idx.Values" ∉ Restic.Gen.AssociatedSet_All_calls
    ∧ Restic.Gen.AssociatedSet_Len_calls = ["a.All"] := by decide +kernel

theorem firstValuesFrom_eq (t : BlobType) (m : IMap) (pos : Nat) (vs : List Val) :
    firstValuesFrom t m pos vs =
      ((vs.zipIdx (pos + 1)).filter fun x => firstPos m x.1.id == (x.2 : Int)).map fun x => (x.2, ⟨t, x.1.id⟩) := by
  fun_induction firstValuesFrom t m pos vs with
  | case1 => rfl
  -- `by exact hc`: the filter's predicate at `(v, pos + 1)` is `hc` up to beta
  | case2 pos v vs hc ih => rw [List.zipIdx_cons, List.filter_cons_of_pos (by exact hc), List.map_cons, ih]
  | case3 pos v vs hc ih => rw [List.zipIdx_cons, List.filter_cons_of_neg (by exact hc), ih]

theorem mem_firstValuesOf (t : BlobType) (m : IMap) (i : Nat) (h : Handle) :
    (i, h) ∈ firstValuesOf t m ↔ h.type = t ∧ firstPos m h.id = (i : Int) := by
  rw [firstValuesOf, firstValuesFrom_eq, List.mem_map]
  constructor
  · rintro ⟨x, hx, e⟩
    cases e
    exact ⟨rfl, beq_iff_eq.mp (List.mem_filter.mp hx).2⟩
  · rintro ⟨rfl, hf⟩
    rcases Restic.Proofs.C56.firstPos_cases m h.id with ⟨h1, _⟩ | ⟨k, hk, hl, hid, _⟩
    · cases h1.symm.trans hf
    · obtain rfl : i = k + 1 := Int.ofNat_inj.mp (hf.symm.trans hk)
      refine ⟨(m[k], k + 1), List.mem_filter.mpr ⟨?_, by rw [hid]; exact beq_iff_eq.mpr hf⟩, by rw [hid]⟩
      rw [List.mem_zipIdx_iff_le_and_getElem?_sub]
      exact ⟨Nat.le_add_left .., by simp [hl]⟩

theorem firstValuesOf_nodup (t : BlobType) (m : IMap) : ((firstValuesOf t m).map (·.2)).Nodup := by
  rw [firstValuesOf, firstValuesFrom_eq, List.map_map]
  -- positions increase along the list, and a handle determines its position
  have hp : ((m.zipIdx (0 + 1)).filter fun x => firstPos m x.1.id == (x.2 : Int)).Pairwise (fun x y => x.2 < y.2) :=
    (List.pairwise_map.mp (List.zipIdx_map_snd _ m ▸ List.pairwise_lt_range')).filter _
  refine List.pairwise_map.mpr (hp.imp_of_mem fun {x y} hx hy hlt e => ?_)
  have hx := beq_iff_eq.mp (List.mem_filter.mp hx).2
  have hy := beq_iff_eq.mp (List.mem_filter.mp hy).2
  rw [show x.1.id = y.1.id from congrArg Handle.id e, hy] at hx
  exact Nat.lt_irrefl _ (Int.ofNat_inj.mp hx ▸ hlt)

theorem mem_firstValues (mi : MasterIndex) (i : Nat) (h : Handle) :
    (i, h) ∈ firstValues mi ↔ blobIndex mi h = (i : Int) := by
  unfold firstValues blobIndex
  rw [List.mem_append, mem_firstValuesOf, mem_firstValuesOf]
  obtain ⟨t, id⟩ := h
  cases t <;> simp [Index.byType]

theorem firstValues_nodup (mi : MasterIndex) : ((firstValues mi).map (·.2)).Nodup := by
  unfold firstValues
  rw [List.map_append, List.nodup_append]
  refine ⟨firstValuesOf_nodup _ _, firstValuesOf_nodup _ _, fun a ha b hb hab => ?_⟩
  obtain ⟨x, hx, rfl⟩ := List.mem_map.mp ha
  obtain ⟨y, hy, rfl⟩ := List.mem_map.mp hb
  have h1 := ((mem_firstValuesOf _ _ _ _).mp hx).1
  rw [hab, ((mem_firstValuesOf _ _ _ _).mp hy).1] at h1
  cases h1

theorem blobIndex_cases (mi : MasterIndex) (h : Handle) : blobIndex mi h = -1 ∨ ∃ i : Nat, blobIndex mi h = i :=
  Restic.Proofs.C56.firstPos_nat _ _

theorem ovGet_cons (p : Handle × Nat) (o : List (Handle × Nat)) (h : Handle) :
    ovGet (p :: o) h = if p.1 = h then some p.2 else ovGet o h := by
  by_cases hp : p.1 = h <;> simp [ovGet, hp]

theorem ovGet_isSome_iff (o : List (Handle × Nat)) (h : Handle) : (ovGet o h).isSome ↔ h ∈ o.map (·.1) := by
  simp [ovGet, List.find?_isSome]

theorem ovGet_eq_some_iff (o : List (Handle × Nat)) (nd : (o.map (·.1)).Nodup) (h : Handle) (v : Nat) :
    ovGet o h = some v ↔ (h, v) ∈ o := by
  induction o with
  | nil => simp [ovGet]
  | cons p o ih =>
    obtain ⟨hp, nd⟩ := List.nodup_cons.mp nd
    rw [ovGet_cons, List.mem_cons, ← ih nd]
    by_cases e : p.1 = h
    · -- the key of `p` occurs nowhere else
      have : ovGet o h = none := by
        rw [← Option.not_isSome_iff_eq_none, ovGet_isSome_iff]; exact e ▸ hp
      simp [e, this, Prod.ext_iff, eq_comm]
    · simp [e, Prod.ext_iff, Ne.symm e]

theorem ovGet_nil (h : Handle) : ovGet [] h = none := rfl

theorem ovGet_append (o o' : List (Handle × Nat)) (h : Handle) :
    ovGet (o ++ o') h = (ovGet o h).or (ovGet o' h) := by
  simp [ovGet, List.find?_append, Option.map_or]

theorem ovGet_map_set (o : List (Handle × Nat)) (h h' : Handle) (v : Nat) :
    ovGet (o.map fun p => if p.1 == h then (h, v) else p) h' =
      if h' = h then (ovGet o h).map (fun _ => v) else ovGet o h' := by
  induction o with
  | nil => simp [ovGet]
  | cons p o ih =>
    rw [List.map_cons, ovGet_cons, ih, ovGet_cons, ovGet_cons]
    by_cases hh : h' = h
    · subst hh; by_cases hp : p.1 = h' <;> simp [hp]
    · have hh' : ¬ h = h' := fun e => hh e.symm
      by_cases hp : p.1 = h <;> simp [hp, hh, hh']

theorem any_key_iff (o : List (Handle × Nat)) (h : Handle) :
    (o.any fun p => p.1 == h) = true ↔ (ovGet o h).isSome := by
  simp [ovGet_isSome_iff]

theorem ovGet_ovSet (o : List (Handle × Nat)) (h h' : Handle) (v : Nat) :
    ovGet (ovSet o h v) h' = if h' = h then some v else ovGet o h' := by
  unfold ovSet
  split
  · rename_i hany
    obtain ⟨x, hx⟩ := Option.isSome_iff_exists.mp ((any_key_iff o h).mp hany)
    rw [ovGet_map_set, hx, Option.map_some]
  · rename_i hany
    have hn : ovGet o h = none := Option.not_isSome_iff_eq_none.mp fun hs => hany ((any_key_iff o h).mpr hs)
    rw [ovGet_append, ovGet_cons, ovGet_nil]
    by_cases hh : h' = h
    · subst hh; simp [hn]
    · have hh' : ¬ h = h' := fun e => hh e.symm
      simp [hh, hh']

theorem filter_keys_nodup (o : List (Handle × Nat)) (q : Handle × Nat → Bool) (nd : (o.map (·.1)).Nodup) :
    ((o.filter q).map (·.1)).Nodup := nd.sublist ((List.filter_sublist).map _)

theorem ovSet_nodup (o : List (Handle × Nat)) (h : Handle) (v : Nat) (nd : (o.map (·.1)).Nodup) :
    ((ovSet o h v).map (·.1)).Nodup := by
  unfold ovSet
  split
  · have : (o.map fun p => if p.1 == h then (h, v) else p).map (·.1) = o.map (·.1) := by
      rw [List.map_map]
      refine List.map_congr_left fun p _ => ?_
      by_cases hp : p.1 = h <;> simp [hp]
    rw [this]; exact nd
  · rename_i hany
    rw [any_key_iff, ovGet_isSome_iff] at hany
    rw [List.map_append, List.nodup_append]
    refine ⟨nd, by simp, fun a ha b hb e => hany ?_⟩
    obtain rfl : b = h := List.mem_singleton.mp hb
    exact e ▸ ha

theorem ovGet_filter (o : List (Handle × Nat)) (q : Handle → Bool) (h : Handle) :
    ovGet (o.filter fun p => q p.1) h = if q h then ovGet o h else none := by
  induction o with
  | nil => simp [ovGet_nil]
  | cons p o ih =>
    rw [List.filter_cons]
    by_cases hp : p.1 = h
    · subst hp
      by_cases hq : q p.1 = true <;> simp [hq, ovGet_cons, ih]
    · by_cases hq : q p.1 = true <;> simp [hq, ovGet_cons, ih, hp]

theorem ovGet_ovDel (o : List (Handle × Nat)) (h h' : Handle) :
    ovGet (ovDel o h) h' = if h' = h then none else ovGet o h' := by
  unfold ovDel
  rw [ovGet_filter o (fun k => !(k == h))]
  by_cases hh : h' = h <;> simp [hh]

structure WF (a : ASet) : Prop where
  lenD : a.data.value.length = a.data.isSet.length
  lenT : a.tree.value.length = a.tree.isSet.length
  ovNodup : (a.overflow.map (·.1)).Nodup

theorem WF.len {a : ASet} (wf : WF a) (t : BlobType) : (a.sub t).value.length = (a.sub t).isSet.length := by
  cases t
  · exact wf.lenD
  · exact wf.lenT

/-- what `Get` answers for a handle that is not in the overflow map -/
def slotGet (mi : MasterIndex) (a : ASet) (h : Handle) : Option Nat :=
  let idx := blobIndex mi h
  let bt := a.sub h.type
  if idx ≥ bt.value.length ∨ idx = -1 then none
  else if bt.isSet.getD idx.toNat false then some (bt.value.getD idx.toNat 0) else none

theorem get_eq (mi : MasterIndex) (a : ASet) (h : Handle) :
    a.get mi h = (ovGet a.overflow h).or (slotGet mi a h) := by
  unfold ASet.get slotGet
  cases ovGet a.overflow h <;> rfl

/-- literally the negation of the `if` condition of `Get` and `Set`; the usable form is `validSlot_iff` -/
def validSlot (mi : MasterIndex) (a : ASet) (h : Handle) : Prop :=
  ¬ (blobIndex mi h ≥ ((a.sub h.type).value.length : Int) ∨ blobIndex mi h = -1)

instance (mi : MasterIndex) (a : ASet) (h : Handle) : Decidable (validSlot mi a h) := by
  unfold validSlot; infer_instance

theorem slotGet_invalid (mi : MasterIndex) (a : ASet) (h : Handle) (hv : ¬ validSlot mi a h) : slotGet mi a h = none :=
  if_pos (Classical.not_not.mp hv)

theorem validSlot_iff {mi : MasterIndex} {a : ASet} {h : Handle} :
    validSlot mi a h ↔ ∃ i : Nat, blobIndex mi h = i ∧ i < (a.sub h.type).value.length := by
  unfold validSlot
  rcases blobIndex_cases mi h with hb | ⟨i, hb⟩
  · exact ⟨fun hc => (hc (.inr hb)).elim, fun ⟨i, hi, _⟩ => by cases hb.symm.trans hi⟩
  · rw [hb]
    refine ⟨fun hc => ⟨i, rfl, Int.ofNat_lt.mp (Int.not_le.mp fun hle => hc (.inl hle))⟩, ?_⟩
    rintro ⟨j, hj, hlt⟩ (hc | hc)
    · cases Int.ofNat_inj.mp hj
      exact Nat.not_le.mpr hlt (Int.ofNat_le.mp hc)
    · cases hc

theorem slotGet_nat {mi : MasterIndex} (a : ASet) {h : Handle} {i : Nat} (hb : blobIndex mi h = i) :
    slotGet mi a h = if i < (a.sub h.type).value.length ∧ (a.sub h.type).isSet.getD i false = true
      then some ((a.sub h.type).value.getD i 0) else none := by
  simp only [slotGet, hb, Int.toNat_natCast]
  by_cases hi : i < (a.sub h.type).value.length
  · have hc : ¬ ((i : Int) ≥ ((a.sub h.type).value.length : Int) ∨ (i : Int) = -1) :=
      (validSlot_iff.mpr ⟨i, hb, hi⟩ <| hb ▸ ·)
    simp only [hc, hi, if_false, true_and]
  · rw [if_pos (.inl (Int.ofNat_le.mpr (Nat.le_of_not_lt hi))), if_neg fun hc => hi hc.1]

theorem all_eq (mi : MasterIndex) (a : ASet) (wf : WF a) :
    a.all mi = a.overflow ++ (firstValues mi).filterMap fun x =>
      if (ovGet a.overflow x.2).isSome then none else (slotGet mi a x.2).map (x.2, ·) := by
  refine congrArg (a.overflow ++ ·) (Proofs.filterMap_congr fun ⟨i, h⟩ hm => ?_)
  rw [slotGet_nat a ((mem_firstValues mi i h).mp hm), wf.len h.type, apply_ite (Option.map _)]
  rfl

theorem map_filterMap_sublist {α β γ} (f : α → Option β) (g : β → γ) (k : α → γ)
    (hf : ∀ x y, f x = some y → g y = k x) (l : List α) : ((l.filterMap f).map g).Sublist (l.map k) := by
  induction l with
  | nil => exact .slnil
  | cons x l ih =>
    cases hx : f x with
    | none => rw [List.filterMap_cons_none hx]; exact ih.cons _
    | some y => rw [List.filterMap_cons_some hx, List.map_cons, List.map_cons, hf x y hx]; exact ih.cons_cons _

/-- **each member is enumerated with its value, and nothing else is** -/
theorem mem_all_iff (mi : MasterIndex) (a : ASet) (wf : WF a) (h : Handle) (v : Nat) :
    (h, v) ∈ a.all mi ↔ a.get mi h = some v := by
  rw [get_eq, Option.or_eq_some_iff, all_eq mi a wf, List.mem_append, ← ovGet_eq_some_iff _ wf.ovNodup,
    List.mem_filterMap]
  refine or_congr Iff.rfl ⟨?_, ?_⟩
  · rintro ⟨x, _, hf⟩
    split at hf
    · cases hf
    · rename_i hn
      obtain ⟨v', hv', e⟩ := Option.map_eq_some_iff.mp hf
      cases e
      exact ⟨by simpa using hn, hv'⟩
  · rintro ⟨hn, hs⟩
    -- a handle with a set slot is in the main index, so `firstValues` yields it
    obtain ⟨i, hi⟩ : ∃ i : Nat, blobIndex mi h = i := by
      refine (blobIndex_cases mi h).resolve_left fun hb => ?_
      rw [slotGet_invalid mi a h (fun hv => hv (.inr hb))] at hs
      cases hs
    exact ⟨(i, h), (mem_firstValues mi i h).mpr hi, by simp [hn, hs]⟩

/-- **Keys / All enumerate no handle twice** -/
theorem keys_nodup (mi : MasterIndex) (a : ASet) (wf : WF a) : (a.keys mi).Nodup := by
  unfold ASet.keys
  rw [all_eq mi a wf, List.map_append, List.nodup_append]
  have hf : ∀ (x : Nat × Handle) (y : Handle × Nat),
      (if (ovGet a.overflow x.2).isSome then none else (slotGet mi a x.2).map (x.2, ·)) = some y →
        y.1 = x.2 ∧ ¬ (ovGet a.overflow x.2).isSome := by
    intro x y hy
    split at hy
    · cases hy
    · obtain ⟨v, _, rfl⟩ := Option.map_eq_some_iff.mp hy
      exact ⟨rfl, ‹_›⟩
  refine ⟨wf.ovNodup, (firstValues_nodup mi).sublist (map_filterMap_sublist _ _ _ (fun x y hy => (hf x y hy).1) _), ?_⟩
  -- a handle of the overflow map is skipped in the array part
  rintro k hk _ hk' rfl
  obtain ⟨y, hm, rfl⟩ := List.mem_map.mp hk'
  obtain ⟨x, _, hx⟩ := List.mem_filterMap.mp hm
  obtain ⟨e, hn⟩ := hf x y hx
  exact hn (e ▸ (ovGet_isSome_iff _ _).mpr hk)

theorem all_nodup (mi : MasterIndex) (a : ASet) (wf : WF a) : (a.all mi).Nodup :=
  List.Pairwise.of_map (fun x : Handle × Nat => x.1) (fun _ _ h e => h (by rw [e])) (keys_nodup mi a wf)

theorem mem_keys_iff (mi : MasterIndex) (a : ASet) (wf : WF a) (h : Handle) :
    h ∈ a.keys mi ↔ a.has mi h = true := by
  unfold ASet.keys ASet.has
  rw [List.mem_map, Option.isSome_iff_exists]
  constructor
  · rintro ⟨⟨h', v⟩, hm, rfl⟩; exact ⟨v, (mem_all_iff mi a wf h' v).mp hm⟩
  · rintro ⟨v, hv⟩; exact ⟨(h, v), (mem_all_iff mi a wf h v).mpr hv, rfl⟩

/-- **Len is the number of distinct members**: `Keys` is a duplicate-free list of exactly the
    members and `Len` is its length -/
theorem len_eq_card (mi : MasterIndex) (a : ASet) (wf : WF a) :
    a.len mi = (a.keys mi).length ∧ (a.keys mi).Nodup ∧ ∀ h, h ∈ a.keys mi ↔ a.has mi h = true :=
  ⟨(List.length_map _).symm, keys_nodup mi a wf, mem_keys_iff mi a wf⟩

theorem sub_setSub (a : ASet) (t t' : BlobType) (s : Sub) :
    (a.setSub t s).sub t' = if t' = t then s else a.sub t' := by
  cases t <;> cases t' <;> rfl

theorem setSub_overflow (a : ASet) (t : BlobType) (s : Sub) : (a.setSub t s).overflow = a.overflow := by
  cases t <;> rfl

theorem setSub_wf {a : ASet} (wf : WF a) (t : BlobType) (s : Sub) (hs : s.value.length = s.isSet.length) :
    WF (a.setSub t s) := by
  cases t
  · exact ⟨hs, wf.lenT, wf.ovNodup⟩
  · exact ⟨wf.lenD, hs, wf.ovNodup⟩

theorem sub_with_overflow (a : ASet) (o : List (Handle × Nat)) (t : BlobType) :
    ASet.sub { a with overflow := o } t = a.sub t := by cases t <;> rfl

theorem slotGet_with_overflow (mi : MasterIndex) (a : ASet) (o : List (Handle × Nat)) (h : Handle) :
    slotGet mi { a with overflow := o } h = slotGet mi a h := by
  simp only [slotGet, sub_with_overflow]

theorem validSlot_with_overflow (mi : MasterIndex) (a : ASet) (o : List (Handle × Nat)) (h : Handle) :
    validSlot mi { a with overflow := o } h ↔ validSlot mi a h := by
  simp only [validSlot, sub_with_overflow]

theorem validSlot_setSub (mi : MasterIndex) (a : ASet) (t : BlobType) (vals : List Nat) (bs : List Bool) (h : Handle)
    (hl : vals.length = (a.sub t).value.length) : validSlot mi (a.setSub t ⟨vals, bs⟩) h ↔ validSlot mi a h := by
  unfold validSlot
  rw [sub_setSub]
  split
  · rename_i ht; rw [hl, ht]
  · rfl

theorem getD_replicate_self {α} (n k : Nat) (d : α) : (List.replicate n d).getD k d = d := by
  rw [List.getD_eq_getElem?_getD, List.getElem?_replicate]
  split <;> rfl

theorem get_new (mi : MasterIndex) (h : Handle) : (ASet.new mi).get mi h = none := by
  have hs : ((ASet.new mi).sub h.type).isSet.getD (blobIndex mi h).toNat false = false := by
    cases h.type <;> exact getD_replicate_self _ _ _
  rw [get_eq, slotGet, hs]
  simp [ASet.new, ovGet_nil]

theorem slot_inj (mi : MasterIndex) (h h' : Handle) (ht : h'.type = h.type) (hi : blobIndex mi h' = blobIndex mi h)
    (hv : blobIndex mi h ≠ -1) : h' = h := by
  obtain ⟨t, id⟩ := h
  obtain ⟨t', id'⟩ := h'
  obtain rfl : t' = t := ht
  rw [Restic.Proofs.C56.firstPos_inj (mi.first.byType t') id' id hi (fun e => hv (hi.symm.trans e))]

theorem validSlot.toNat_lt {mi : MasterIndex} {a : ASet} {h : Handle} (hv : validSlot mi a h) :
    (blobIndex mi h).toNat < (a.sub h.type).value.length := by
  obtain ⟨i, hb, hi⟩ := validSlot_iff.mp hv
  rw [hb]; exact hi

theorem getD_set_eq {α} (l : List α) (i : Nat) (x d : α) (h : i < l.length) : (l.set i x).getD i d = x := by
  simp [List.getD_eq_getElem?_getD, h]

theorem getD_set_ne {α} (l : List α) (i j : Nat) (x d : α) (h : i ≠ j) : (l.set i x).getD j d = l.getD j d := by
  simp [List.getD_eq_getElem?_getD, List.getElem?_set_ne h]

/-- writing the slot of `h` (flag `nb`, values `vals` that differ from the old ones at most there)
    changes what `Get` answers for `h` only: no other handle of the main index shares the slot -/
theorem slotGet_write (mi : MasterIndex) (a : ASet) (wf : WF a) (h h' : Handle) (hv : validSlot mi a h)
    (vals : List Nat) (nb : Bool) (hlen : vals.length = (a.sub h.type).value.length)
    (hval : ∀ j, j ≠ (blobIndex mi h).toNat → vals.getD j 0 = (a.sub h.type).value.getD j 0) :
    slotGet mi (a.setSub h.type ⟨vals, (a.sub h.type).isSet.set (blobIndex mi h).toNat nb⟩) h' =
      if h' = h then (if nb then some (vals.getD (blobIndex mi h).toNat 0) else none) else slotGet mi a h' := by
  obtain ⟨i, hb, hi⟩ := validSlot_iff.mp hv
  rw [hb, Int.toNat_natCast] at hval ⊢
  by_cases hh : h' = h
  · subst hh
    rw [if_pos rfl, slotGet_nat _ hb, sub_setSub, if_pos rfl]
    simp only [hlen, hi, true_and, getD_set_eq _ _ _ _ (wf.len h'.type ▸ hi)]
  · rw [if_neg hh]
    rcases blobIndex_cases mi h' with hb' | ⟨j, hb'⟩
    · rw [slotGet_invalid _ _ _ fun hv => hv (.inr hb'), slotGet_invalid _ _ _ fun hv => hv (.inr hb')]
    · rw [slotGet_nat _ hb', slotGet_nat _ hb', sub_setSub]
      by_cases ht : h'.type = h.type
      · have hij : i ≠ j := fun e => hh (slot_inj mi h h' ht (by rw [hb, hb', e]) fun e => hv (.inr e))
        rw [if_pos ht, ht]
        simp only [hlen, getD_set_ne _ _ _ _ _ hij, hval j hij.symm]
      · rw [if_neg ht]

theorem set_eq (mi : MasterIndex) (a : ASet) (h : Handle) (v : Nat) :
    a.set mi h v =
      if (ovGet a.overflow h).isSome ∨ ¬ validSlot mi a h then { a with overflow := ovSet a.overflow h v }
      else a.setSub h.type ⟨(a.sub h.type).value.set (blobIndex mi h).toNat v,
        (a.sub h.type).isSet.set (blobIndex mi h).toNat true⟩ := by
  unfold ASet.set
  by_cases hs : (ovGet a.overflow h).isSome
  · rw [if_pos hs, if_pos (.inl hs)]
  · rw [if_neg hs]
    by_cases hv : validSlot mi a h
    · exact (if_neg hv).trans (if_neg (not_or.mpr ⟨hs, fun h => h hv⟩)).symm
    · exact (if_pos (Classical.not_not.mp hv)).trans (if_pos (.inr hv)).symm

theorem delete_eq (mi : MasterIndex) (a : ASet) (h : Handle) :
    a.delete mi h =
      if (ovGet a.overflow h).isSome then { a with overflow := ovDel a.overflow h }
      else if validSlot mi a h then
        a.setSub h.type ⟨(a.sub h.type).value, (a.sub h.type).isSet.set (blobIndex mi h).toNat false⟩
      else a := by
  unfold ASet.delete validSlot
  have : (blobIndex mi h < ((a.sub h.type).value.length : Int) ∧ blobIndex mi h ≠ -1) ↔
      ¬ (blobIndex mi h ≥ ((a.sub h.type).value.length : Int) ∨ blobIndex mi h = -1) :=
    ⟨fun ⟨h1, h2⟩ hc => hc.elim (Int.not_le.mpr h1) h2, fun hc => ⟨Int.not_le.mp fun h => hc (.inl h), fun h => hc (.inr h)⟩⟩
  simp only [this]

/-- `ovInvalid`: the handles of the overflow map were not part of `idx[0]` when the set was created -/
structure Inv (mi : MasterIndex) (a : ASet) : Prop extends WF a where
  ovInvalid : ∀ h, (ovGet a.overflow h).isSome → ¬ validSlot mi a h

theorem new_inv (mi : MasterIndex) : Inv mi (ASet.new mi) :=
  ⟨⟨by simp [ASet.new], by simp [ASet.new], List.nodup_nil⟩, fun h hs => by cases hs⟩

theorem Inv.overflow {mi : MasterIndex} {a : ASet} (inv : Inv mi a) {o : List (Handle × Nat)} (nd : (o.map (·.1)).Nodup)
    (ho : ∀ h, (ovGet o h).isSome → (ovGet a.overflow h).isSome ∨ ¬ validSlot mi a h) :
    Inv mi { a with overflow := o } :=
  ⟨⟨inv.lenD, inv.lenT, nd⟩, fun h hs hv =>
    (ho h hs).elim (inv.ovInvalid h) id ((validSlot_with_overflow mi a o h).mp hv)⟩

theorem Inv.setSub {mi : MasterIndex} {a : ASet} (inv : Inv mi a) (t : BlobType) (vals : List Nat) (bs : List Bool)
    (hv : vals.length = (a.sub t).value.length) (hb : bs.length = (a.sub t).isSet.length) :
    Inv mi (a.setSub t ⟨vals, bs⟩) :=
  ⟨setSub_wf inv.toWF _ _ (by rw [hv, hb, inv.len t]), fun h hs hv' =>
    inv.ovInvalid h (setSub_overflow a _ _ ▸ hs) ((validSlot_setSub mi a t vals bs h hv).mp hv')⟩

theorem get_with_overflow (mi : MasterIndex) (a : ASet) (o : List (Handle × Nat)) (h : Handle) :
    ASet.get mi { a with overflow := o } h = (ovGet o h).or (slotGet mi a h) := by
  rw [get_eq, slotGet_with_overflow]

theorem get_set (mi : MasterIndex) (a : ASet) (inv : Inv mi a) (h h' : Handle) (v : Nat) :
    (a.set mi h v).get mi h' = if h' = h then some v else a.get mi h' := by
  rw [set_eq, get_eq]
  by_cases hc : (ovGet a.overflow h).isSome ∨ ¬ validSlot mi a h
  · rw [if_pos hc, get_with_overflow, ovGet_ovSet]
    exact apply_ite (Option.or · _) ..
  · obtain ⟨hn, hv⟩ := not_or.mp hc
    have hv := Classical.not_not.mp hv
    rw [if_neg hc]
    rw [get_eq, setSub_overflow, slotGet_write mi a inv.toWF h h' hv _ true (List.length_set ..)
      (fun j hj => getD_set_ne _ _ _ _ _ hj.symm), getD_set_eq _ _ _ _ hv.toNat_lt]
    by_cases hh : h' = h
    · rw [if_pos hh, if_pos hh, hh, Option.not_isSome_iff_eq_none.mp hn]; rfl
    · rw [if_neg hh, if_neg hh]

theorem set_inv (mi : MasterIndex) (a : ASet) (inv : Inv mi a) (h : Handle) (v : Nat) : Inv mi (a.set mi h v) := by
  rw [set_eq]
  by_cases hc : (ovGet a.overflow h).isSome ∨ ¬ validSlot mi a h
  · rw [if_pos hc]
    refine inv.overflow (ovSet_nodup _ _ _ inv.ovNodup) fun h' hs => ?_
    rw [ovGet_ovSet] at hs
    by_cases hh : h' = h
    · exact hh ▸ hc
    · exact .inl (by rwa [if_neg hh] at hs)
  · rw [if_neg hc]
    exact inv.setSub _ _ _ (List.length_set ..) (List.length_set ..)

theorem get_delete (mi : MasterIndex) (a : ASet) (inv : Inv mi a) (h h' : Handle) :
    (a.delete mi h).get mi h' = if h' = h then none else a.get mi h' := by
  rw [delete_eq]
  by_cases hs : (ovGet a.overflow h).isSome
  · rw [if_pos hs, get_with_overflow, get_eq, ovGet_ovDel]
    by_cases hh : h' = h
    · rw [if_pos hh, if_pos hh, hh, slotGet_invalid mi a _ (inv.ovInvalid _ hs)]; rfl
    · rw [if_neg hh, if_neg hh]
  · have hn := Option.not_isSome_iff_eq_none.mp hs
    rw [if_neg hs]
    by_cases hv : validSlot mi a h
    · rw [if_pos hv, get_eq, get_eq, setSub_overflow, slotGet_write mi a inv.toWF h h' hv _ false rfl (fun _ _ => rfl)]
      by_cases hh : h' = h
      · rw [if_pos hh, if_pos hh, hh, hn]; rfl
      · rw [if_neg hh, if_neg hh]
    · rw [if_neg hv]
      by_cases hh : h' = h
      · rw [if_pos hh, hh, get_eq, hn, slotGet_invalid mi a _ hv]; rfl
      · rw [if_neg hh]

theorem delete_inv (mi : MasterIndex) (a : ASet) (inv : Inv mi a) (h : Handle) : Inv mi (a.delete mi h) := by
  rw [delete_eq]
  by_cases hs : (ovGet a.overflow h).isSome
  · rw [if_pos hs]
    refine inv.overflow (filter_keys_nodup _ _ inv.ovNodup) fun h' hs => .inl ?_
    rw [ovGet_ovDel] at hs
    by_cases hh : h' = h
    · rw [if_pos hh] at hs; cases hs
    · rwa [if_neg hh] at hs
  · rw [if_neg hs]
    by_cases hv : validSlot mi a h
    · rw [if_pos hv]; exact inv.setSub _ _ _ rfl (List.length_set ..)
    · rw [if_neg hv]; exact inv

/-- `loop` stands for `intersectLoop` and `subLoop`, which differ in `keep` only -/
theorem loop_spec (mi : MasterIndex) (a : ASet) (keep : Handle → Bool) (loop : List Handle → ASet → ASet)
    (hnil : ∀ r, loop [] r = r)
    (hcons : ∀ h hs r, loop (h :: hs) r =
      if keep h then loop hs (r.set mi h ((a.get mi h).getD 0)) else loop hs r)
    (hs : List Handle) (r : ASet) (inv : Inv mi r) :
    Inv mi (loop hs r) ∧ ∀ h, (loop hs r).get mi h =
      if h ∈ hs ∧ keep h = true then some ((a.get mi h).getD 0) else r.get mi h := by
  induction hs generalizing r with
  | nil => rw [hnil]; exact ⟨inv, fun h => (if_neg fun c => nomatch c.1).symm⟩
  | cons x hs ih =>
    rw [hcons]
    by_cases hk : keep x = true
    · obtain ⟨i1, g1⟩ := ih _ (set_inv mi r inv x ((a.get mi x).getD 0))
      rw [if_pos hk]
      refine ⟨i1, fun h => ?_⟩
      rw [g1 h, get_set mi r inv]
      by_cases hx : h = x
      · rw [hx, if_pos rfl, ite_self, if_pos ⟨List.mem_cons_self, hk⟩]
      · simp only [List.mem_cons, hx, false_or, if_false]
    · obtain ⟨i1, g1⟩ := ih r inv
      rw [if_neg hk]
      refine ⟨i1, fun h => ?_⟩
      rw [g1 h]
      by_cases hx : h = x
      · rw [hx, if_neg fun c => hk c.2, if_neg fun c => hk c.2]
      · simp only [List.mem_cons, hx, false_or]

theorem loop_keys (mi : MasterIndex) (a : ASet) (keep : Handle → Bool) (loop : List Handle → ASet → ASet)
    (hnil : ∀ r, loop [] r = r)
    (hcons : ∀ h hs r, loop (h :: hs) r =
      if keep h then loop hs (r.set mi h ((a.get mi h).getD 0)) else loop hs r)
    (inv : Inv mi a) :
    Inv mi (loop (a.keys mi) (ASet.new mi)) ∧
      ∀ h, (loop (a.keys mi) (ASet.new mi)).get mi h = if keep h then a.get mi h else none := by
  obtain ⟨i1, g1⟩ := loop_spec mi a keep loop hnil hcons (a.keys mi) _ (new_inv mi)
  refine ⟨i1, fun h => ?_⟩
  rw [g1 h, get_new]
  simp only [mem_keys_iff mi a inv.toWF, ASet.has]
  cases a.get mi h <;> cases keep h <;> rfl

theorem intersectLoop_cons (mi : MasterIndex) (a other : ASet) (h : Handle) (hs : List Handle) (r : ASet) :
    intersectLoop mi a other (h :: hs) r =
      if other.has mi h then intersectLoop mi a other hs (r.set mi h ((a.get mi h).getD 0))
      else intersectLoop mi a other hs r := by
  simp only [intersectLoop]
  split
  · cases a.get mi h <;> rfl
  · rfl

theorem subLoop_cons (mi : MasterIndex) (a other : ASet) (h : Handle) (hs : List Handle) (r : ASet) :
    subLoop mi a other (h :: hs) r =
      if !other.has mi h then subLoop mi a other hs (r.set mi h ((a.get mi h).getD 0))
      else subLoop mi a other hs r := by
  simp only [subLoop]
  split
  · cases a.get mi h <;> rfl
  · rfl

/-- **Intersect**: the members of `a` that `other` has, with `a`'s values -/
theorem get_intersect (mi : MasterIndex) (a other : ASet) (inv : Inv mi a) :
    Inv mi (a.intersect mi other) ∧
    ∀ h, (a.intersect mi other).get mi h = if other.has mi h then a.get mi h else none :=
  loop_keys mi a (fun h => other.has mi h) (intersectLoop mi a other) (fun _ => rfl) (intersectLoop_cons mi a other) inv

/-- **Sub**: the members of `a` that `other` does not have, with `a`'s values -/
theorem get_subtract (mi : MasterIndex) (a other : ASet) (inv : Inv mi a) :
    Inv mi (a.subtract mi other) ∧
    ∀ h, (a.subtract mi other).get mi h = if other.has mi h then none else a.get mi h := by
  have := loop_keys mi a (fun h => !other.has mi h) (subLoop mi a other) (fun _ => rfl) (subLoop_cons mi a other) inv
  refine ⟨this.1, fun h => (this.2 h).trans ?_⟩
  cases other.has mi h <;> rfl

/-- `Ref` reuses the overflow map's `ovSet/ovDel/ovGet`: on that part the set is compared with itself, the content is
    `get_set`, `get_delete`, `ovGet_ovSet`, `ovGet_ovDel` -/
structure Rep (mi : MasterIndex) (a : ASet) (ref : Ref) : Prop where
  inv : Inv mi a
  nodup : (ref.map (·.1)).Nodup
  get : ∀ h, a.get mi h = ref.get h

theorem rep_new (mi : MasterIndex) : Rep mi (ASet.new mi) [] :=
  ⟨new_inv mi, List.nodup_nil, get_new mi⟩

theorem rep_set {mi : MasterIndex} {a : ASet} {ref : Ref} (r : Rep mi a ref) (h : Handle) (v : Nat) :
    Rep mi (a.set mi h v) (ref.set h v) :=
  ⟨set_inv mi a r.inv h v, ovSet_nodup _ _ _ r.nodup, fun h' => by
    rw [get_set mi a r.inv, Ref.set, Ref.get, ovGet_ovSet, r.get h']; rfl⟩

theorem rep_insert {mi : MasterIndex} {a : ASet} {ref : Ref} (r : Rep mi a ref) (h : Handle) :
    Rep mi (a.insert mi h) (ref.set h 0) := rep_set r h 0

theorem rep_delete {mi : MasterIndex} {a : ASet} {ref : Ref} (r : Rep mi a ref) (h : Handle) :
    Rep mi (a.delete mi h) (ref.delete h) :=
  ⟨delete_inv mi a r.inv h, filter_keys_nodup _ _ r.nodup, fun h' => by
    rw [get_delete mi a r.inv, Ref.delete, Ref.get, ovGet_ovDel, r.get h']; rfl⟩

theorem rep_intersect {mi : MasterIndex} {a b : ASet} {ra rb : Ref} (r : Rep mi a ra) (r' : Rep mi b rb) :
    Rep mi (a.intersect mi b) (ra.intersect rb) := by
  refine ⟨(get_intersect mi a b r.inv).1, filter_keys_nodup _ _ r.nodup, fun h => ?_⟩
  rw [(get_intersect mi a b r.inv).2 h]
  unfold Ref.intersect Ref.get ASet.has
  rw [ovGet_filter ra (fun k => (ovGet rb k).isSome), r.get h, r'.get h]
  rfl

theorem rep_subtract {mi : MasterIndex} {a b : ASet} {ra rb : Ref} (r : Rep mi a ra) (r' : Rep mi b rb) :
    Rep mi (a.subtract mi b) (ra.subtract rb) := by
  refine ⟨(get_subtract mi a b r.inv).1, filter_keys_nodup _ _ r.nodup, fun h => ?_⟩
  rw [(get_subtract mi a b r.inv).2 h]
  unfold Ref.subtract Ref.get ASet.has
  rw [ovGet_filter ra (fun k => (ovGet rb k).isNone), r.get h, r'.get h]
  unfold Ref.get
  cases ovGet rb h <;> rfl

/-- A set that represents the reference map `ref` answers every observation as the executable
    statement of C48 demands: `All`/`Keys` enumerate each member exactly once, `Len` is the number
    of members, `Get` is the map -/
theorem rep_spec {mi : MasterIndex} {a : ASet} {ref : Ref} (r : Rep mi a ref) :
    specAll ref (a.all mi) = true ∧ specKeys ref (a.keys mi) = true ∧ specLen ref (a.len mi) = true ∧
    ∀ h, specGet ref h (a.get mi h) = true := by
  -- both lists are duplicate free and have the same members
  have hperm : (a.all mi).Perm ref := by
    have nd2 : ref.Nodup := List.Pairwise.of_map (fun x : Handle × Nat => x.1) (fun _ _ h e => h (by rw [e])) r.nodup
    rw [List.perm_ext_iff_of_nodup (all_nodup mi a r.inv.toWF) nd2]
    rintro ⟨h, v⟩
    rw [mem_all_iff mi a r.inv.toWF, r.get h, Ref.get, ovGet_eq_some_iff _ r.nodup]
  exact ⟨List.isPerm_iff.mpr hperm, List.isPerm_iff.mpr (hperm.map _), by simp [specLen, ASet.len, hperm.length_eq],
    fun h => by simp [specGet, r.get h]⟩

inductive Op where
  | set (h : Handle) (v : Nat)
  | insert (h : Handle)
  | delete (h : Handle)

def applyOp (mi : MasterIndex) (a : ASet) : Op → ASet
  | .set h v => a.set mi h v
  | .insert h => a.insert mi h
  | .delete h => a.delete mi h

def applyRef (r : Ref) : Op → Ref
  | .set h v => r.set h v
  | .insert h => r.set h 0
  | .delete h => r.delete h

theorem rep_applyOp {mi : MasterIndex} {a : ASet} {ref : Ref} (r : Rep mi a ref) :
    ∀ op, Rep mi (applyOp mi a op) (applyRef ref op)
  | .set h v => rep_set r h v
  | .insert h => rep_insert r h
  | .delete h => rep_delete r h

/-- every history of Set/Insert/Delete on a fresh set over any master index is represented by the
    same history on the reference map -/
theorem history_refines (mi : MasterIndex) (ops : List Op) :
    Rep mi (ops.foldl (applyOp mi) (ASet.new mi)) (ops.foldl applyRef []) :=
  List.foldl_rel (r := Rep mi) (rep_new mi) fun op _ _ _ r => rep_applyOp r op

theorem history_meets_spec (mi : MasterIndex) (ops : List Op) :
    let a := ops.foldl (applyOp mi) (ASet.new mi)
    let ref := ops.foldl applyRef []
    specAll ref (a.all mi) = true ∧ specKeys ref (a.keys mi) = true ∧ specLen ref (a.len mi) = true ∧
      ∀ h, specGet ref h (a.get mi h) = true :=
  rep_spec (history_refines mi ops)

/-! ### the master index may grow while a set is in use

`MergeFinalIndexes` only appends entries to the maps of `idx[0]` (C08: `Index.merge`), other
indexes come and go. A set created earlier keeps answering as before. -/

def Ext (mi mi' : MasterIndex) : Prop := ∀ t, ∃ s, mi'.first.byType t = mi.first.byType t ++ s

/-- the arrays of the set are not longer than the main index they were created for (+1) -/
def LenOK (mi : MasterIndex) (a : ASet) : Prop := ∀ t, (a.sub t).value.length ≤ stableLen mi t + 1

theorem lenOK_new (mi : MasterIndex) : LenOK mi (ASet.new mi) := by
  intro t; cases t <;> simp [ASet.new, ASet.sub]

theorem lenOK_setSub {mi : MasterIndex} {a : ASet} (hl : LenOK mi a) (t : BlobType) (vals : List Nat) (bs : List Bool)
    (hv : vals.length = (a.sub t).value.length) : LenOK mi (a.setSub t ⟨vals, bs⟩) := by
  intro t'
  rw [sub_setSub]
  split
  · rename_i ht; rw [hv, ← ht]; exact hl t'
  · exact hl t'

theorem lenOK_set {mi : MasterIndex} {a : ASet} (hl : LenOK mi a) (h : Handle) (v : Nat) : LenOK mi (a.set mi h v) := by
  rw [set_eq]
  split
  · exact fun t => sub_with_overflow a _ t ▸ hl t
  · exact lenOK_setSub hl _ _ _ (List.length_set ..)

theorem lenOK_delete {mi : MasterIndex} {a : ASet} (hl : LenOK mi a) (h : Handle) : LenOK mi (a.delete mi h) := by
  rw [delete_eq]
  split
  · exact fun t => sub_with_overflow a _ t ▸ hl t
  · split
    · exact lenOK_setSub hl _ _ _ rfl
    · exact hl

theorem slot_ext {mi mi' : MasterIndex} (ext : Ext mi mi') {a : ASet} (hl : LenOK mi a) (h : Handle) :
    (validSlot mi' a h ↔ validSlot mi a h) ∧ (validSlot mi a h → blobIndex mi' h = blobIndex mi h) := by
  obtain ⟨s, hs⟩ := ext h.type
  have hlen := hl h.type
  unfold validSlot blobIndex
  unfold stableLen at hlen
  rw [hs]
  by_cases hv : firstPos (mi.first.byType h.type) h.id = -1
  · rcases Restic.Proofs.C56.firstPos_append_of_eq _ s _ hv with h1 | h1
    · rw [hv, h1]; exact ⟨Iff.rfl, fun _ => rfl⟩
    · -- the blob entered the index behind the end of the arrays
      exact ⟨⟨fun hc => (hc (.inl (Int.le_trans (Int.ofNat_le.mpr hlen) (Int.add_one_le_of_lt h1)))).elim, fun hc => (hc (.inr hv)).elim⟩, fun hc => (hc (.inr hv)).elim⟩
  · rw [Restic.Proofs.C56.firstPos_append_of_ne _ s _ hv]; exact ⟨Iff.rfl, fun _ => rfl⟩

/-- **a set survives index growth**: same answers, same invariants -/
theorem grow_preserves {mi mi' : MasterIndex} (ext : Ext mi mi') {a : ASet} {ref : Ref} (r : Rep mi a ref)
    (hl : LenOK mi a) : Rep mi' a ref ∧ LenOK mi' a := by
  have hget : ∀ h, a.get mi' h = a.get mi h := by
    intro h
    obtain ⟨hiff, heq⟩ := slot_ext ext hl h
    rw [get_eq, get_eq]
    by_cases hv : validSlot mi a h
    · simp only [slotGet, heq hv]
    · rw [slotGet_invalid mi a h hv, slotGet_invalid mi' a h (fun hv' => hv (hiff.mp hv'))]
  refine ⟨⟨⟨r.inv.toWF, fun h hs hv' => r.inv.ovInvalid h hs ((slot_ext ext hl h).1.mp hv')⟩, r.nodup,
    fun h => (hget h).trans (r.get h)⟩, fun t => ?_⟩
  obtain ⟨s, hs⟩ := ext t
  unfold stableLen
  rw [hs, List.length_append]
  exact Nat.le_trans (hl t) (Nat.succ_le_succ (Nat.le_add_right _ _))

/-! ### negation witness: the original iteration violates the property (finding F4)

One blob stored in two packs, inserted into a fresh set: the original `All` (transcribed as
`ASet.allOld`) reports it twice, so `Len = 2` for one member. The fixed iteration reports it once. -/

def exIdx : Index :=
  { data := [⟨[1], 0, 0, 40, 0⟩, ⟨[1], 1, 0, 40, 0⟩, ⟨[2], 1, 40, 40, 0⟩], tree := [],
    packs := [[0xaa], [0xab]], final := true, ids := [[0xee]] }

def exMI : MasterIndex := ⟨exIdx, [], []⟩

def exH : Handle := ⟨.data, [1]⟩

def exSet : ASet := (ASet.new exMI).insert exMI exH

theorem old_all_reports_twice :
    (exSet.allOld exMI).map (·.1) = [exH, exH] ∧ specKeys [(exH, 0)] ((exSet.allOld exMI).map (·.1)) = false := by
  decide

/-- non-vacuity: the fixed code on the same input; a member stored twice is reported once -/
example : exSet.keys exMI = [exH] ∧ exSet.len exMI = 1 := by decide +kernel

example : Rep exMI exSet [(exH, 0)] := rep_insert (rep_new exMI) exH

end Restic.Props.C48
