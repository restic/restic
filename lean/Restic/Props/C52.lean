import Restic.Model.CheckSubset
import Restic.Gen.Consts
/-!
# C52 — check --read-data-subset n/t buckets partition all packs

Theorems about `Restic.Model.CheckSubset` (transcription of `selectPacksByBucket`, the n/t branch of
`checkFlags`, `selectRandomPacksByPercentage`, the size branch of `buildPacksFilter`).
-/
namespace Restic.Props.C52
open Restic.Model.CheckSubset Restic.Model.Strconv

theorem bucket_eq_filter (packs : List Pack) (n t : Nat) (hn : 1 ≤ n) (hnt : n ≤ t) (ht : t < two64) :
    selectPacksByBucket packs n t = .ok (packs.filter fun p => firstByte p % t == n - 1) := by
  have hw : (n + two64 - 1) % two64 = n - 1 := by
    rw [Nat.sub_add_comm hn, Nat.add_mod_right, Nat.mod_eq_of_lt (by omega)]
  rw [selectPacksByBucket, if_neg (by omega), hw]

/-- the packs read for `n/t` (total function: `[]` on panic; `t` first: `sel packs t` is what `specBuckets` takes) -/
def sel (packs : List Pack) (t n : Nat) : List Pack :=
  match selectPacksByBucket packs n t with | .ok l => l | .panic => []

theorem mem_sel (packs : List Pack) (t n : Nat) (hn : 1 ≤ n) (hnt : n ≤ t) (ht : t < two64) (p : Pack) :
    p ∈ sel packs t n ↔ p ∈ packs ∧ firstByte p % t + 1 = n := by
  rw [sel, bucket_eq_filter packs n t hn hnt ht, List.mem_filter, beq_iff_eq]
  exact and_congr_right' (by omega)

/-- **buckets_disjoint**: no pack is read for two different `n` -/
theorem buckets_disjoint (packs : List Pack) (t n n' : Nat) (ht : t < two64)
    (hn : 1 ≤ n) (hnt : n ≤ t) (hn' : 1 ≤ n') (hnt' : n' ≤ t) (hne : n ≠ n') (p : Pack)
    (h : p ∈ sel packs t n) : p ∉ sel packs t n' := by
  intro h'
  have := (mem_sel packs t n hn hnt ht p).mp h
  have := (mem_sel packs t n' hn' hnt' ht p).mp h'
  omega

theorem buckets_exactly_one (packs : List Pack) (t : Nat) (ht1 : 1 ≤ t) (ht : t < two64) (p : Pack) (hp : p ∈ packs) :
    ∃ n, (1 ≤ n ∧ n ≤ t ∧ p ∈ sel packs t n) ∧ ∀ m, 1 ≤ m → m ≤ t → p ∈ sel packs t m → m = n :=
  have hlt : firstByte p % t + 1 ≤ t := Nat.mod_lt _ ht1
  ⟨_, ⟨Nat.le_add_left .., hlt, (mem_sel packs t _ (Nat.le_add_left ..) hlt ht p).mpr ⟨hp, rfl⟩⟩,
    fun m hm1 hm2 hm => ((mem_sel packs t m hm1 hm2 ht p).mp hm).2.symm⟩

/-- **buckets_cover**: every pack is read for some `n ∈ 1..t` -/
theorem buckets_cover (packs : List Pack) (t : Nat) (ht1 : 1 ≤ t) (ht : t < two64) (p : Pack) (hp : p ∈ packs) :
    ∃ n, 1 ≤ n ∧ n ≤ t ∧ p ∈ sel packs t n :=
  (buckets_exactly_one packs t ht1 ht p hp).imp fun _ => And.left

theorem sel_sublist (packs : List Pack) (t n : Nat) : (sel packs t n).Sublist packs := by
  rw [sel, selectPacksByBucket]
  by_cases h : t = 0 ∧ packs ≠ []
  · rw [if_pos h]; exact List.nil_sublist _
  · rw [if_neg h]; exact List.filter_sublist

theorem sum_map_add_nat (f g : Nat → Nat) (l : List Nat) :
    (l.map fun i => f i + g i).sum = (l.map f).sum + (l.map g).sum := by
  induction l with
  | nil => rfl
  | cons a as ih => simp only [List.map_cons, List.sum_cons, ih]; omega

theorem sum_indicator (b : Nat) (l : List Nat) : (l.map fun i => if b == i then 1 else 0).sum = l.count b := by
  induction l with
  | nil => rfl
  | cons a as ih => rw [List.map_cons, List.sum_cons, ih, List.count_cons, Nat.add_comm, BEq.comm]

/-- each element is counted in the one fibre `i = f x` -/
theorem sum_fibres {α : Type} (f : α → Nat) (t : Nat) (l : List α) (h : ∀ x ∈ l, f x < t) :
    ((List.range t).map fun i => l.countP (f · == i)).sum = l.length := by
  induction l with
  | nil => simp only [List.countP_nil, List.map_const', List.sum_replicate_nat, Nat.mul_zero, List.length_nil]
  | cons x xs ih =>
    simp only [List.countP_cons]
    rw [sum_map_add_nat, ih fun y hy => h y (List.mem_cons_of_mem _ hy), sum_indicator, List.count_range,
      if_pos (h x (List.mem_cons_self ..)), List.length_cons]

/-- counting version of the partition -/
theorem buckets_count (packs : List Pack) (t : Nat) (ht1 : 1 ≤ t) (ht : t < two64) :
    ((List.range t).map fun i => (sel packs t (i + 1)).length).sum = packs.length := by
  rw [← sum_fibres (firstByte · % t) t packs fun p _ => Nat.mod_lt _ ht1]
  refine congrArg List.sum (List.map_congr_left fun i hi => ?_)
  rw [sel, bucket_eq_filter packs (i + 1) t (Nat.le_add_left ..) (List.mem_range.mp hi) ht,
    List.countP_eq_length_filter, Nat.add_sub_cancel]

theorem accepted_range (M : Nat) (s : Str) (n t : Nat) (h : checkFlagsNT M s = .accept n t) :
    1 ≤ n ∧ n ≤ t ∧ t ≤ M := by
  unfold checkFlagsNT at h
  cases hs : stringToIntSlice s with
  | error e => rw [hs] at h; cases h
  | ok ds =>
    rw [hs] at h
    match ds with
    | [] | [_] | _ :: _ :: _ :: _ => cases h
    | [n', t'] =>
      dsimp only at h
      by_cases hr : n' = 0 ∨ t' = 0 ∨ n' > t'
      · rw [if_pos hr] at h; cases h
      by_cases hM : t' > M
      · rw [if_neg hr, if_pos hM] at h; cases h
      rw [if_neg hr, if_neg hM] at h; cases h
      omega

/-- T1 (from the source): with the current `totalBucketsMax`, every
    accepted `t` fits the one byte `selectPacksByBucket` looks at, so every bucket `n ∈ 1..t` can
    actually receive packs (first byte `n-1`). -/
theorem every_accepted_bucket_reachable (n t : Nat) (hn : 1 ≤ n) (hnt : n ≤ t)
    (ht : t ≤ Restic.Gen.check_totalBucketsMax) : ∃ b, b < 256 ∧ b % t = n - 1 := by
  have hM : Restic.Gen.check_totalBucketsMax ≤ 256 := by decide
  exact ⟨n - 1, by omega, Nat.mod_eq_of_lt (by omega)⟩

/-- conversely, a bucket number above 256 could never receive a pack (why the bound exists) -/
theorem bucket_above_256_empty (packs : List Pack) (n t : Nat) (hn : 256 < n) (hnt : n ≤ t) (ht : t < two64) :
    sel packs t n = [] := by
  apply List.eq_nil_iff_forall_not_mem.mpr
  intro p hp
  have := (mem_sel packs t n (by omega) hnt ht p).mp hp
  have hb : firstByte p < 256 := UInt8.toNat_lt _
  have : firstByte p % t ≤ firstByte p := Nat.mod_le _ _
  omega

/-- the whole bucket statement for any string `checkFlags` accepts, with the regenerated constant:
    no panic, pairwise disjoint, covering -/
theorem accepted_buckets_partition (s : Str) (n t : Nat)
    (h : checkFlagsNT Restic.Gen.check_totalBucketsMax s = .accept n t) (packs : List Pack) :
    (∃ l, selectPacksByBucket packs n t = .ok l) ∧
    ∀ p ∈ packs, ∃ m, (1 ≤ m ∧ m ≤ t ∧ p ∈ sel packs t m) ∧ ∀ m', 1 ≤ m' → m' ≤ t → p ∈ sel packs t m' → m' = m := by
  obtain ⟨h1, h2, h3⟩ := accepted_range _ s n t h
  have hM : Restic.Gen.check_totalBucketsMax < two64 := by decide
  have ht : t < two64 := by omega
  exact ⟨⟨_, bucket_eq_filter packs n t h1 h2 ht⟩, buckets_exactly_one packs t (by omega) ht⟩

/-- the transcription meets the executable bucket specification the driver evaluates -/
theorem buckets_specOK (packs : List Pack) (t : Nat) (ht1 : 1 ≤ t) (ht : t < two64) :
    specBuckets packs t (sel packs t) = true := by
  unfold specBuckets
  simp only [Bool.and_eq_true, List.all_eq_true, beq_iff_eq, List.contains_iff_mem]
  refine ⟨fun p hp => ?_, fun i _ p hp => (sel_sublist packs t (i + 1)).subset hp⟩
  -- the `i` with `p ∈ sel packs t (i + 1)` are the occurrences of `firstByte p % t` in `0..t-1`
  have hfil : (List.range t).filter (fun i => (sel packs t (i + 1)).contains p) =
      (List.range t).filter (· == firstByte p % t) :=
    List.filter_congr fun i hi => by
      rw [Bool.eq_iff_iff, List.contains_iff_mem, beq_iff_eq,
        mem_sel packs t (i + 1) (Nat.le_add_left ..) (List.mem_range.mp hi) ht p]
      simp only [hp, true_and]; omega
  rw [hfil, List.filter_beq, List.length_replicate, List.count_range, if_pos (Nat.mod_lt _ ht1)]

theorem pickAll_spec (keys : List Pack) (js : List Nat) (hb : ∀ j ∈ js, j < keys.length) :
    ∃ l, pickAll keys js = some l ∧ l.length = js.length ∧
      (∀ p ∈ l, ∃ j ∈ js, keys[j]? = some p) ∧ (keys.Nodup → js.Nodup → l.Nodup) := by
  induction js with
  | nil => exact ⟨[], rfl, rfl, nofun, fun _ _ => .nil⟩
  | cons j js ih =>
    have hj : j < keys.length := hb j (List.mem_cons_self ..)
    obtain ⟨l, hl, hlen, hmem, hnd⟩ := ih fun x hx => hb x (List.mem_cons_of_mem _ hx)
    refine ⟨keys[j] :: l, ?_, congrArg (· + 1) hlen, fun p hp => ?_, fun hk hjs => ?_⟩
    · simp only [pickAll, List.getElem?_eq_getElem hj, hl]
    · rcases List.mem_cons.mp hp with rfl | hp
      · exact ⟨j, List.mem_cons_self .., List.getElem?_eq_getElem hj⟩
      · obtain ⟨j', hj', hk⟩ := hmem p hp
        exact ⟨j', List.mem_cons_of_mem _ hj', hk⟩
    · -- distinct indices of a duplicate-free list hold distinct packs
      obtain ⟨hjn, hjs⟩ := List.nodup_cons.mp hjs
      refine List.nodup_cons.mpr ⟨fun hin => ?_, hnd hk hjs⟩
      obtain ⟨j', hj', hk'⟩ := hmem _ hin
      exact hjn ((List.getElem?_inj hj hk).mp ((List.getElem?_eq_getElem hj).trans hk'.symm) ▸ hj')

theorem packsToCheck_le {n : Nat} {k : Int} (h : k ≤ n) : (packsToCheck n k).toNat ≤ n := by
  unfold packsToCheck; split <;> omega

theorem lt_packsToCheck {n : Nat} {k : Int} (h : (n : Int) < k) : n < (packsToCheck n k).toNat := by
  unfold packsToCheck; split <;> omega

theorem packsToCheck_pos {n : Nat} (k : Int) (h : 0 < n) : 1 ≤ (packsToCheck n k).toNat := by
  unfold packsToCheck; split <;> omega

theorem subset_of_count_le (keys : List Pack) (perm : List Nat) (k : Int)
    (hperm : perm.Perm (List.range keys.length)) (hc : (packsToCheck keys.length k).toNat ≤ keys.length) :
    ∃ l, selectRandomByK keys perm k = .ok l ∧ l.length = (packsToCheck keys.length k).toNat ∧
      (∀ p ∈ l, p ∈ keys) ∧ (keys.Nodup → l.Nodup) := by
  have hlen : perm.length = keys.length := by rw [hperm.length_eq, List.length_range]
  obtain ⟨l, hl, hll, hmem, hnd⟩ := pickAll_spec keys (perm.take (packsToCheck keys.length k).toNat)
    fun j hj => List.mem_range.mp (hperm.mem_iff.mp (List.mem_of_mem_take hj))
  refine ⟨l, ?_, ?_, fun p hp => ?_, fun hk => hnd hk ?_⟩
  · rw [selectRandomByK]; simp only [hlen, Nat.not_lt.mpr hc, if_false, hl]
  · rw [hll, List.length_take, hlen, Nat.min_eq_left hc]
  · obtain ⟨j, _, hj⟩ := hmem p hp
    exact List.mem_of_getElem? hj
  · exact (List.take_sublist _ _).nodup (hperm.nodup_iff.mpr List.nodup_range)

theorem subset_panics_of_count_gt (keys : List Pack) (perm : List Nat) (k : Int)
    (hperm : perm.Perm (List.range keys.length)) (hc : keys.length < (packsToCheck keys.length k).toNat) :
    selectRandomByK keys perm k = .panic := by
  rw [selectRandomByK]; simp only [hperm.length_eq, List.length_range, gt_iff_lt, hc, if_true]

theorem subset_length (keys : List Pack) (perm : List Nat) (k : Int) (l : List Pack)
    (hperm : perm.Perm (List.range keys.length))
    (h : selectRandomByK keys perm k = .ok l) : l.length = (packsToCheck keys.length k).toNat := by
  rcases Nat.lt_or_ge keys.length (packsToCheck keys.length k).toNat with hc | hc
  · rw [subset_panics_of_count_gt keys perm k hperm hc] at h; cases h
  · obtain ⟨l', hl', hlen, _⟩ := subset_of_count_le keys perm k hperm hc
    rw [h] at hl'; cases hl'; exact hlen

/-- **subset_nonempty**: a percentage / size subset of a repository with packs is never empty -/
theorem subset_nonempty (keys : List Pack) (perm : List Nat) (k : Int) (l : List Pack)
    (hperm : perm.Perm (List.range keys.length)) (hne : keys ≠ [])
    (h : selectRandomByK keys perm k = .ok l) : 1 ≤ l.length :=
  subset_length keys perm k l hperm h ▸ packsToCheck_pos k (List.length_pos_iff.mpr hne)

/-- **subset_in_bounds**: when the float expression stays within the pack count (true for percentages up to
    100 by monotonicity of float rounding — assumed, validated in the correspondence run) the
    selection does not panic, has the clamped size, reads only packs of the repository and none twice -/
theorem subset_in_bounds (keys : List Pack) (perm : List Nat) (k : Int)
    (hperm : perm.Perm (List.range keys.length)) (hk : k ≤ keys.length) :
    ∃ l, selectRandomByK keys perm k = .ok l ∧ l.length = (packsToCheck keys.length k).toNat ∧
      (∀ p ∈ l, p ∈ keys) ∧ (keys.Nodup → l.Nodup) :=
  subset_of_count_le keys perm k hperm (packsToCheck_le hk)

/-- without the bound the code panics (index out of range): why percentages above 100 are rejected -/
theorem subset_panics_above (keys : List Pack) (perm : List Nat) (k : Int)
    (hperm : perm.Perm (List.range keys.length)) (hk : (keys.length : Int) < k) :
    selectRandomByK keys perm k = .panic :=
  subset_panics_of_count_gt keys perm k hperm (lt_packsToCheck hk)

theorem nodupB_of_nodup (l : List Pack) (h : l.Nodup) : nodupB l = true := by
  induction l with
  | nil => rfl
  | cons x xs ih =>
    have := List.nodup_cons.mp h
    simp only [nodupB, Bool.and_eq_true, Bool.not_eq_true', ih this.2, and_true]
    simpa using this.1

/-- the transcription meets the executable subset specification the driver evaluates -/
theorem subset_specOK (keys : List Pack) (perm : List Nat) (k : Int)
    (hperm : perm.Perm (List.range keys.length)) (hk : k ≤ keys.length) (hnd : keys.Nodup)
    (l : List Pack) (h : selectRandomByK keys perm k = .ok l) : specSubset keys l = true := by
  obtain ⟨l', hl', _, hmem, hn⟩ := subset_in_bounds keys perm k hperm hk
  rw [h] at hl'; injection hl' with hl'; subst hl'
  unfold specSubset
  simp only [Bool.and_eq_true, Bool.or_eq_true, List.isEmpty_iff, Bool.not_eq_true', List.all_eq_true,
    List.contains_iff_mem]
  refine ⟨⟨?_, hmem⟩, nodupB_of_nodup _ (hn hnd)⟩
  by_cases he : keys = []
  · exact Or.inl he
  · right
    have := subset_nonempty keys perm k l hperm he h
    cases l with
    | nil => simp at this
    | cons a as => rfl

/-- size subsets: with the float law `kOf sub repo ≤ packCount` for `sub ≤ repo` the size branch
    never panics and reads at least one pack of a repository with packs -/
theorem size_subset (keys : List Pack) (perm : List Nat) (subsetSize : Int) (kOf : Int → Int → Int)
    (hperm : perm.Perm (List.range keys.length))
    (hlaw : ∀ sub repo : Int, 0 < repo → sub ≤ repo → kOf sub repo ≤ keys.length) (hne : keys ≠ []) :
    ∃ l, selectBySize keys perm subsetSize kOf = .ok l ∧ 1 ≤ l.length ∧ ∀ p ∈ l, p ∈ keys := by
  unfold selectBySize
  simp only
  generalize (keys.map (·.size)).foldl (· + ·) 0 = repo
  by_cases hpos : repo > 0
  · rw [if_pos hpos]
    have hk := hlaw (if subsetSize > repo then repo else subsetSize) repo hpos (by split <;> omega)
    obtain ⟨l, hl, _, hmem, _⟩ := subset_in_bounds keys perm _ hperm hk
    exact ⟨l, hl, subset_nonempty keys perm _ l hperm hne hl, hmem⟩
  · rw [if_neg hpos]
    exact ⟨keys, rfl, List.length_pos_iff.mpr hne, fun _ h => h⟩

def pk (b : UInt8) : Pack := { id := b :: List.replicate 31 7, size := 100 }
def demo : List Pack := [pk 0, pk 1, pk 2, pk 3, pk 255, pk 128]

example : selectPacksByBucket demo 1 3 = .ok [pk 0, pk 3, pk 255] := by decide +kernel
example : selectPacksByBucket demo 2 3 = .ok [pk 1] := by decide +kernel
example : selectPacksByBucket demo 3 3 = .ok [pk 2, pk 128] := by decide +kernel
example : selectPacksByBucket demo 1 0 = .panic := by decide +kernel
example : checkFlagsNT Restic.Gen.check_totalBucketsMax [51, 47, 55] = .accept 3 7 := by decide +kernel
example : checkFlagsNT Restic.Gen.check_totalBucketsMax [49, 47, 50, 53, 55] = .tTooLarge := by decide +kernel
example : checkFlagsNT Restic.Gen.check_totalBucketsMax [48, 47, 53] = .badRange := by decide +kernel
example : checkFlagsNT Restic.Gen.check_totalBucketsMax [53, 37] = .notIntSlice := by decide +kernel
example : selectRandomByK demo [3, 1, 0, 5, 4, 2] 0 = .ok [pk 3] := by decide +kernel
example : selectRandomByK demo [3, 1, 0, 5, 4, 2] 2 = .ok [pk 3, pk 1] := by decide +kernel
example : selectRandomByK demo [3, 1, 0, 5, 4, 2] 7 = .panic := by decide +kernel
example : [3, 1, 0, 5, 4, 2].Perm (List.range demo.length) := by decide +kernel

end Restic.Props.C52
