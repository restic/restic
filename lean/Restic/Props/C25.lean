import Restic.Model.Tags
import Restic.Gen.Source
/-!
# C25 — Tag edits leave snapshots with exactly the requested tags

About `Restic.Model.Tags` (AddTags / RemoveTags / Flatten / changeTags / runTag), for *all* tag lists,
including lists with duplicates.
-/
namespace Restic.Props.C25
open Restic.Model.Tags

theorem addOne_mem (acc : List Tag × Bool) (a t : Tag) : t ∈ (addOne acc a).1 ↔ t ∈ acc.1 ∨ t = a := by
  unfold addOne
  by_cases h : a ∈ acc.1
  · rw [if_pos h]
    exact ⟨Or.inl, fun h' => h'.elim id fun e => e ▸ h⟩
  · rw [if_neg h, List.mem_append, List.mem_singleton]

theorem removeOne_mem (acc : List Tag × Bool) (r t : Tag) : t ∈ (removeOne acc r).1 ↔ t ∈ acc.1 ∧ t ≠ r := by
  simp [removeOne]

theorem addTags_fst_mem (tags add : List Tag) (t : Tag) :
    t ∈ (addTags tags add).1 ↔ t ∈ tags ∨ t ∈ add := by
  suffices h : ∀ acc : List Tag × Bool, t ∈ (add.foldl addOne acc).1 ↔ t ∈ acc.1 ∨ t ∈ add from h _
  induction add with
  | nil => simp
  | cons a as ih => simp only [List.foldl_cons, ih, addOne_mem, List.mem_cons, or_assoc, implies_true]

theorem removeTags_fst_mem (tags rem : List Tag) (t : Tag) :
    t ∈ (removeTags tags rem).1 ↔ t ∈ tags ∧ t ∉ rem := by
  suffices h : ∀ acc : List Tag × Bool, t ∈ (rem.foldl removeOne acc).1 ↔ t ∈ acc.1 ∧ t ∉ rem from h _
  induction rem with
  | nil => simp
  | cons r rs ih =>
    simp only [List.foldl_cons, ih, removeOne_mem, List.mem_cons, not_or, and_assoc, ne_eq, implies_true]

theorem foldl_unchanged (step : List Tag × Bool → Tag → List Tag × Bool)
    (hstep : ∀ acc a, (step acc a).2 = false → (step acc a).1 = acc.1 ∧ acc.2 = false)
    (l : List Tag) (acc : List Tag × Bool) (h : (l.foldl step acc).2 = false) :
    (l.foldl step acc).1 = acc.1 ∧ acc.2 = false := by
  induction l generalizing acc with
  | nil => exact ⟨rfl, h⟩
  | cons a as ih =>
    obtain ⟨h1, h2⟩ := ih _ h
    obtain ⟨h3, h4⟩ := hstep acc a h2
    exact ⟨h1.trans h3, h4⟩

theorem addTags_unchanged (tags add : List Tag) :
    (addTags tags add).2 = false → (addTags tags add).1 = tags := fun h =>
  (foldl_unchanged addOne (fun acc a => by
    unfold addOne
    by_cases hm : a ∈ acc.1
    · rw [if_pos hm]; exact fun h => ⟨rfl, h⟩
    · rw [if_neg hm]; exact nofun) add _ h).1

theorem removeTags_unchanged (tags rem : List Tag) :
    (removeTags tags rem).2 = false → (removeTags tags rem).1 = tags := fun h =>
  (foldl_unchanged removeOne (fun acc r h => by
    simp only [removeOne, Bool.or_eq_false_iff, bne_eq_false_iff_eq] at h ⊢
    -- a filter that keeps the length keeps the list
    exact ⟨List.filter_eq_self.mpr (List.length_filter_eq_length_iff.mp h.2), h.1⟩) rem _ h).1

/-- After `--add A --remove R` (no `--set`): a tag is present iff it was there or was added, and
    it is not in `R`.  Holds for every old tag list, duplicates included. -/
theorem add_remove_mem (old add rem : List Tag) (t : Tag) :
    t ∈ (changeTags old [] add rem).1 ↔ (t ∈ old ∨ t ∈ add) ∧ t ∉ rem := by
  simp [changeTags, removeTags_fst_mem, addTags_fst_mem]

theorem no_removed_tag_left (old add rem : List Tag) :
    ∀ r ∈ rem, r ∉ (changeTags old [] add rem).1 := by
  intro r hr h; exact ((add_remove_mem old add rem r).mp h).2 hr

theorem added_tag_present (old add rem : List Tag) :
    ∀ a ∈ add, a ∉ rem → a ∈ (changeTags old [] add rem).1 := by
  intro a ha hr; exact (add_remove_mem old add rem a).mpr ⟨Or.inr ha, hr⟩

/-- `--set L` with `L` neither empty nor `[""]` (what `runTag` passes for `--set ''`): tags are exactly `L` -/
theorem set_exact (old set add rem : List Tag) (h : set ≠ []) (h' : set ≠ [""]) :
    (changeTags old set add rem) = (set, true) := by
  simp [changeTags, h, h']

/-- `changed = false` means the tag list is literally unchanged (the snapshot is not rewritten). -/
theorem unchanged_same (old add rem : List Tag) :
    (changeTags old [] add rem).2 = false → (changeTags old [] add rem).1 = old := by
  simp only [changeTags, ne_eq, not_true_eq_false, if_false, Bool.or_eq_false_iff]
  rintro ⟨h1, h2⟩
  rw [removeTags_unchanged _ _ h2, addTags_unchanged _ _ h1]

theorem flatten_no_empty (ls : List (List Tag)) : "" ∉ flatten ls :=
  fun h => of_decide_eq_true (List.mem_filter.mp h).2 rfl

/-- CLI level, the full statement: whenever `runTag` accepts the options, the resulting tags
    satisfy the executable specification `specOK` (which is the reading of C25). -/
theorem runTag_spec (old : List Tag) (setL addL remL : List (List Tag)) (new : List Tag) (c : Bool)
    (h : runTag old setL addL remL = .ok new c) : specOK old setL addL remL new = true := by
  unfold runTag at h
  by_cases g1 : setL = [] ∧ addL = [] ∧ remL = []
  · rw [if_pos g1] at h; cases h
  rw [if_neg g1] at h
  by_cases g2 : setL ≠ [] ∧ (addL ≠ [] ∨ remL ≠ [])
  · rw [if_pos g2] at h; cases h
  rw [if_neg g2] at h
  injection h with hn hc
  unfold specOK
  by_cases hs : setL = []
  · -- no `--set`: all four clauses are read off `add_remove_mem`
    subst hn
    simp only [hs, ne_eq, not_true_eq_false, false_and, if_false, show flatten [] = [] from rfl]
    have key := add_remove_mem old (flatten addL) (flatten remL)
    simp only [Bool.and_eq_true, List.all_eq_true, Bool.or_eq_true, decide_eq_true_eq,
      Bool.not_eq_true', decide_eq_false_iff_not]
    refine ⟨⟨⟨?_, ?_⟩, ?_⟩, ?_⟩
    · exact fun a ha => Decidable.or_iff_not_imp_left.mpr fun hr => (key a).mpr ⟨Or.inr ha, hr⟩
    · exact fun r hr hmem => ((key r).mp hmem).2 hr
    · exact fun t ht => ((key t).mp ht).1
    · exact fun t ht => Decidable.or_iff_not_imp_left.mpr fun hr => (key t).mpr ⟨Or.inl ht, hr⟩
  · simp only [ne_eq, hs, not_false_eq_true, true_and, if_true] at hn ⊢
    by_cases he : flatten setL = []
    · simp only [he, if_true] at hn
      simp [changeTags] at hn
      simp [he, hn]
    · simp only [he, if_false] at hn
      have hne : flatten setL ≠ [""] := by
        intro hc
        have := flatten_no_empty setL
        rw [hc] at this; simp at this
      rw [set_exact old _ _ _ he hne] at hn
      simp [← hn]

/-- T1 (regenerated from cmd/restic/cmd_tag.go on every run): in `changeTags` the new snapshot is
    saved before the old one is removed, and both calls are still there. -/
theorem save_before_remove :
    (Restic.Gen.changeTags_calls.idxOf "data.SaveSnapshot") < (Restic.Gen.changeTags_calls.idxOf "repo.RemoveUnpacked")
    ∧ "repo.RemoveUnpacked" ∈ Restic.Gen.changeTags_calls := by decide +kernel

example : (changeTags ["a", "a", "b"] [] ["c"] ["a"]).1 = ["b", "c"] := by decide +kernel
example : runTag ["a", "a"] [] [] [["a"]] = .ok [] true := by decide +kernel
example : runTag ["x"] [[""]] [] [] = .ok [] true := by decide +kernel
example : runTag ["x"] [["NL", "CH"]] [] [] = .ok ["NL", "CH"] true := by decide +kernel

end Restic.Props.C25
