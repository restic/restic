import Restic.Proofs.C27_Tree
import Restic.Proofs.Select_Link
import Restic.Gen.Source
/-!
# C27 — rewrite with exclude or include patterns removes exactly the matching paths

About `TreeRewriter.RewriteTree` (as configured by `NewSnapshotSizeRewriter`) with
`gatherExcludeFilters` / `gatherIncludeFilters` (`Restic.Model.Select`), for ALL trees and pattern
lists. The corollaries that make the pruned traversal exact use C28 (`list_upward`,
`list_child_sound`) and so carry its hypotheses on the glob oracle (`ValidLists`: validated
patterns, law G1).
-/
namespace Restic.Props.C27
open Restic.Model.Filter Restic.Model.Select Restic.Proofs.C27 Restic.Proofs.Select Restic.Props.C28

def excludeTree (glob : Glob) (lists : List PatList) (root : List Node) : List Node × Stats :=
  rwList (fun p _ => exSelect glob lists p) (fun _ => true) [] root ⟨0, 0⟩

/-- General form (negated patterns allowed): an entry survives iff it is an original entry — same
    kind and size — and neither it nor a directory above it is excluded. -/
theorem rewrite_exclude (glob : Glob) (lists : List PatList) (root : List Node) (e : Entry) :
    e ∈ entries [] (excludeTree glob lists root).1 ↔
      e ∈ entries [] root ∧ exSelect glob lists e.path = true ∧
        ∀ k, 0 < k → k < e.path.length → exSelect glob lists (e.path.take k) = true :=
  ⟨rw_list_sub _ _ [] root _ e, fun ⟨h1, h2⟩ => rw_list_sup _ _ [] root _ e (Or.inl fun _ => rfl) h1 h2⟩

/-- Without negated patterns: the result is the original minus EXACTLY the entries matching a
    pattern (a match on a directory covers its contents, so the pruned traversal loses nothing and
    keeps nothing it should not). -/
theorem rewrite_exclude_exact (glob : Glob) (lists : List PatList) (hv : ValidLists glob lists)
    (hn : NoNeg lists) (root : List Node) (e : Entry) :
    e ∈ entries [] (excludeTree glob lists root).1 ↔
      e ∈ entries [] root ∧ exSelect glob lists e.path = true := by
  rw [rewrite_exclude]
  exact and_congr_right fun _ => and_iff_left_of_imp (exSelect_ancestors glob lists hv hn)

/-- a rewrite whose exclude patterns match nothing returns the identical tree (the snapshot is
    then reported as unchanged when its summary already has the same counts) -/
theorem rewrite_exclude_nomatch (glob : Glob) (lists : List PatList) (root : List Node)
    (h : ∀ e ∈ entries [] root, exSelect glob lists e.path = true) :
    (excludeTree glob lists root).1 = root :=
  rw_list_id _ [] root _ h

def includeTree (glob : Glob) (lists : List PatList) (root : List Node) : List Node × Stats :=
  rwList (fun p d => inSelect glob lists p d) (fun p => inSelectDir glob lists p) [] root ⟨0, 0⟩

/-- every kept entry is an original entry that matches or, a directory, may have matching children:
    nothing is invented -/
theorem rewrite_include_sub (glob : Glob) (lists : List PatList) (root : List Node) (e : Entry)
    (h : e ∈ entries [] (includeTree glob lists root).1) :
    e ∈ entries [] root ∧ inSelect glob lists e.path e.isDir = true :=
  (rw_list_sub _ _ [] root _ e h).imp_right And.left

/-- Exactly the matching non-directories are kept: the `childMayMatch` pruning of directories
    never cuts off a matching item (C28 `list_child_sound`). -/
theorem rewrite_include_exact (glob : Glob) (lists : List PatList) (hv : ValidLists glob lists)
    (root : List Node) (e : Entry) (hd : e.isDir = false) :
    e ∈ entries [] (includeTree glob lists root).1 ↔
      e ∈ entries [] root ∧ inSelect glob lists e.path false = true := by
  refine ⟨fun h => hd ▸ rewrite_include_sub glob lists root e h, fun ⟨h1, h2⟩ => ?_⟩
  exact rw_list_sup _ _ [] root _ e (Or.inr hd) h1
    ⟨hd.symm ▸ h2, inSelect_ancestors glob lists hv h2⟩

/-- Directories under include patterns, exactly: a directory is kept iff it is an original
    directory that matches a pattern or leads to a kept entry ("the directories leading to them"). -/
theorem rewrite_include_dirs (glob : Glob) (lists : List PatList) (hv : ValidLists glob lists)
    (root : List Node) (e : Entry) (hd : e.isDir = true) :
    e ∈ entries [] (includeTree glob lists root).1 ↔
      e ∈ entries [] root ∧
        (inSelectDir glob lists e.path = true ∨ ∃ e' ∈ entries [] (includeTree glob lists root).1, Below e e') := by
  constructor
  · intro h
    exact ⟨(rw_list_sub _ _ [] root _ e h).1, rw_list_dir_reason _ _ [] root _ e h hd⟩
  · rintro ⟨h1, h2 | ⟨e', he', hlen, htake⟩⟩
    · -- matched: kept even if it ends up empty
      exact rw_list_sup' _ _ [] root _ e (Or.inr (Or.inr h2)) h1
        ⟨inSelect_of_dir glob lists _ _ h2,
          inSelect_ancestors glob lists hv (inSelect_of_dir glob lists _ false h2)⟩
    · -- an entry below it is kept, hence so is every directory above that entry
      obtain ⟨n, rest, hr⟩ := entries_prefix [] root e h1
      have := entries_ancestor [] _ e' he' e.path.length (by rw [hr]; exact Nat.succ_pos _) hlen
      rw [htake] at this
      rw [entries_dir_shape [] root e h1 hd]
      exact this

/-- include patterns that match nothing at the top level and not the root give the null tree, which
    `filterAndReplaceSnapshot` reports as "not modified" (`keepEmptySnapshot`) -/
theorem rewrite_include_nomatch (glob : Glob) (lists : List PatList) (root : List Node)
    (h : ∀ c ∈ root, inSelect glob lists [c.name] c.isDir = false)
    (hroot : inSelectDir glob lists [] = false) :
    (rewriteRoot (fun p d => inSelect glob lists p d) (fun p => inSelectDir glob lists p) root).1 = none := by
  rw [rewriteRoot_eq, rw_list_none _ _ [] root _ h, hroot]
  rfl

/-- FileCount / FileSize reported by the rewriter = regular files of the rewritten tree -/
theorem summary_exact (sel : List Str → Bool → Bool) (keep : List Str → Bool) (root t : List Node)
    (st : Stats) (h : rewriteRoot sel keep root = (some t, st)) :
    st.count = (files [] t).length ∧ st.size = fsum (files [] t) :=
  tree_summary (rwList_of_rewriteRoot h)

theorem runRewrite_fatal_both (glob : Glob) (nEx nIn : Nat) (v : Bool) (ex inc : List PatList)
    (root : List Node) (s : Option Stats) (h1 : nEx > 0) (h2 : nIn > 0) :
    runRewrite glob nEx nIn v ex inc root s = .fatal := by
  unfold runRewrite
  rw [if_neg (by omega), if_pos ⟨h1, h2⟩]

theorem runRewrite_changed {glob : Glob} {nEx nIn : Nat} {v : Bool} {ex inc : List PatList}
    {root t : List Node} {s : Option Stats} {st : Stats}
    (h : runRewrite glob nEx nIn v ex inc root s = .changed t st) :
    (if inc.length > 0 then includeTree glob inc root else excludeTree glob ex root) = (t, st) := by
  unfold runRewrite at h
  by_cases c1 : nEx = 0 ∧ nIn = 0
  · rw [if_pos c1] at h; cases h
  by_cases c2 : nEx > 0 ∧ nIn > 0
  · rw [if_neg c1, if_pos c2] at h; cases h
  by_cases c3 : (!v) = true
  · rw [if_neg c1, if_neg c2, if_pos c3] at h; cases h
  rw [if_neg c1, if_neg c2, if_neg c3] at h
  dsimp only at h
  generalize hr : ite (inc.length > 0) _ _ = r at h
  obtain ⟨_ | t', st'⟩ := r
  · cases h
  dsimp only at h
  by_cases c4 : (t' == root && s = some st') = true
  · rw [if_pos c4] at h; cases h
  rw [if_neg c4] at h; cases h
  by_cases hinc : inc.length > 0
  · rw [if_pos hinc] at hr ⊢; exact rwList_of_rewriteRoot hr
  · rw [if_neg hinc] at hr ⊢; exact rwList_of_rewriteRoot hr

theorem runRewrite_summary (glob : Glob) (nEx nIn : Nat) (v : Bool) (ex inc : List PatList)
    (root t : List Node) (s : Option Stats) (st : Stats)
    (h : runRewrite glob nEx nIn v ex inc root s = .changed t st) : specSummaryOK t st = true := by
  have hr := runRewrite_changed h
  have hs : st.count = (files [] t).length ∧ st.size = fsum (files [] t) := by
    by_cases hinc : inc.length > 0
    · rw [if_pos hinc] at hr; exact tree_summary hr
    · rw [if_neg hinc] at hr; exact tree_summary hr
  unfold specSummaryOK
  rw [Bool.and_eq_true, decide_eq_true_eq, decide_eq_true_eq]
  exact hs

theorem excludeTree_specOK (glob : Glob) (lists : List PatList) (root : List Node) :
    specExcludeOK (fun p => !exSelect glob lists p) root (excludeTree glob lists root).1 = true := by
  unfold specExcludeOK
  simp only [Bool.and_eq_true, List.all_eq_true, beq_iff_eq, List.contains_iff_mem]
  constructor
  · intro e he
    rw [Bool.eq_iff_iff]
    simp only [List.contains_iff_mem, Bool.and_eq_true, Bool.not_not, ancestors_all]
    rw [rewrite_exclude]
    constructor
    · rintro ⟨_, h2, h3⟩; exact ⟨h2, h3⟩
    · rintro ⟨h2, h3⟩; exact ⟨he, h2, h3⟩
  · intro e he
    exact ((rewrite_exclude glob lists root e).mp he).1

theorem below_iff (e f : Entry) :
    (decide (f.path.length > e.path.length) && f.path.take e.path.length == e.path) = true ↔ Below e f := by
  simp [Below]

theorem includeTree_specOK (glob : Glob) (lists : List PatList) (hv : ValidLists glob lists) (root : List Node) :
    specIncludeOK (inSelectDir glob lists) root (includeTree glob lists root).1 = true := by
  unfold specIncludeOK
  simp only [Bool.and_eq_true, List.all_eq_true, List.contains_iff_mem]
  constructor
  · intro e he
    by_cases hd : e.isDir = true
    · rw [if_pos hd, beq_iff_eq, Bool.eq_iff_iff]
      simp only [List.contains_iff_mem, Bool.or_eq_true, List.any_eq_true, below_iff]
      rw [rewrite_include_dirs glob lists hv root e hd]
      constructor
      · rintro ⟨_, h⟩; exact h
      · intro h; exact ⟨he, h⟩
    · have hd' : e.isDir = false := by simpa using hd
      rw [if_neg hd, beq_iff_eq, Bool.eq_iff_iff]
      simp only [List.contains_iff_mem]
      rw [rewrite_include_exact glob lists hv root e hd', inSelect_file_eq, inSelectDir_eq]
      constructor
      · rintro ⟨_, h⟩; exact h
      · intro h; exact ⟨he, h⟩
  · intro e he
    exact (rewrite_include_sub glob lists root e he).1

/-- whatever `runRewrite` saves as the new snapshot satisfies the executable statement
    of C27 (entries and summary), in exclude mode for every pattern list, in include mode for
    validated lists. -/
theorem runRewrite_specOK (glob : Glob) (nEx nIn : Nat) (v : Bool) (ex inc : List PatList)
    (root t : List Node) (s : Option Stats) (st : Stats)
    (h : runRewrite glob nEx nIn v ex inc root s = .changed t st) :
    (inc.length = 0 → specExcludeOK (fun p => !exSelect glob ex p) root t = true) ∧
    (inc.length > 0 → ValidLists glob inc → specIncludeOK (inSelectDir glob inc) root t = true) ∧
    specSummaryOK t st = true := by
  have hr := runRewrite_changed h
  refine ⟨fun hinc => ?_, fun hinc hv => ?_, runRewrite_summary glob nEx nIn v ex inc root t s st h⟩
  · rw [if_neg (Nat.not_lt.mpr (Nat.le_of_eq hinc))] at hr
    have := excludeTree_specOK glob ex root
    rwa [hr] at this
  · rw [if_pos hinc] at hr
    have := includeTree_specOK glob inc hv root
    rwa [hr] at this

theorem source_shape :
    "t.opts.RewriteNode" ∈ Restic.Gen.rewriter_RewriteTree_calls ∧
    "t.opts.KeepEmptyDirectory" ∈ Restic.Gen.rewriter_RewriteTree_calls ∧
    "t.RewriteTree" ∈ Restic.Gen.rewriter_RewriteTree_calls ∧
    "newID.IsNull" ∈ Restic.Gen.rewriter_RewriteTree_calls ∧
    "walker.NewSnapshotSizeRewriter" ∈ Restic.Gen.rewrite_rewriteSnapshot_calls ∧
    "gatherIncludeFilters" ∈ Restic.Gen.rewrite_rewriteSnapshot_calls ∧
    "gatherExcludeFilters" ∈ Restic.Gen.rewrite_rewriteSnapshot_calls := by
  decide +kernel

def exTree : List Node :=
  [.dir "a".toList [.file "x".toList 3, .file "y".toList 4, .dir "e".toList []], .file "x".toList 5]

def exLists (pats : List String) : List PatList :=
  [⟨false, pats.map fun s => match preparePattern id s.toList with | .ok p => p | _ => ⟨[], false⟩⟩]

example : entries [] (excludeTree exGlob (exLists ["x"]) exTree).1 =
    entries [] [.dir "a".toList [.file "y".toList 4, .dir "e".toList []]] := by decide +kernel
example : (excludeTree exGlob (exLists ["x"]) exTree).2 = ⟨1, 4⟩ := by decide +kernel
example : entries [] (includeTree exGlob (exLists ["/a/x"]) exTree).1 =
    entries [] [.dir "a".toList [.file "x".toList 3]] := by decide +kernel
example : entries [] (excludeTree exGlob (exLists ["nomatch"]) exTree).1 = entries [] exTree := by decide +kernel
example : (rewriteRoot (fun p d => inSelect exGlob (exLists ["nomatch"]) p d)
    (fun p => inSelectDir exGlob (exLists ["nomatch"]) p) exTree).1.isNone = true := by decide +kernel

end Restic.Props.C27
