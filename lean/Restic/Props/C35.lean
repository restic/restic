import Restic.Model.Retry
import Restic.Gen.Source
/-!
# C35 — Retried backend operations return correct results or fail

Theorems about `Restic.Model.Retry` (transcription of `retry.Backend`), for **all** fault scripts,
all backoff oracles `stop`, all configurations (feature flag on/off, flaky, atomic or not) and all
backend contents.
-/
namespace Restic.Props.C35
open Restic.Model.Retry

theorem verdictAfterErr_cases (cfg : Cfg) (stop : Nat → Bool) (w : Bool) (e : Err) (pl nt : Nat) (cd : Bool) :
    (∃ e', verdictAfterErr cfg stop w e pl nt cd = some (.err e')) ∨
    verdictAfterErr cfg stop w e pl nt cd = none ∧ w = false ∧ pl ≠ 0 := by
  -- said of the verdict, so that each guard is eliminated where it stands
  let Q (v : Option Res) : Prop := (∃ e', v = some (.err e')) ∨ v = none ∧ w = false ∧ pl ≠ 0
  show Q _
  unfold verdictAfterErr
  refine iteInduction (fun _ => .inl ⟨_, rfl⟩) fun hc => ?_
  refine iteInduction (fun _ => .inl ⟨_, rfl⟩) fun _ => ?_
  refine iteInduction (fun _ => .inl ⟨_, rfl⟩) fun _ => ?_
  exact iteInduction (fun _ => .inl ⟨_, rfl⟩) fun _ => .inr ⟨rfl, by simpa using hc⟩

theorem verdict_not_ok {cfg : Cfg} {stop : Nat → Bool} {w : Bool} {e : Err} {pl nt : Nat} {cd : Bool} {res : Res}
    (h : verdictAfterErr cfg stop w e pl nt cd = some res) : res ≠ .ok :=
  (verdictAfterErr_cases cfg stop w e pl nt cd).elim (fun ⟨_, he⟩ => by cases h.symm.trans he; nofun)
    fun hn => nomatch h.symm.trans hn.1

theorem verdict_none {cfg : Cfg} {stop : Nat → Bool} {w : Bool} {e : Err} {pl nt : Nat} {cd : Bool}
    (h : verdictAfterErr cfg stop w e pl nt cd = none) : w = false ∧ pl ≠ 0 :=
  (verdictAfterErr_cases cfg stop w e pl nt cd).elim (fun ⟨_, he⟩ => nomatch h.symm.trans he) (·.2)

/-- `P` only has to be kept by the failing attempts (a successful one ends the loop): on `ok` the final state is
    that of a successful attempt started in a `P`-state, otherwise it satisfies `P`. -/
theorem retryLoop_inv {σ φ : Type} (cfg : Cfg) (stop : Nat → Bool) (f : σ → φ → Att σ) (P : σ → Prop)
    (script : List φ)
    (hP : ∀ s, ∀ a ∈ script, P s → (f s a).err ≠ none → P (f s a).st) :
    ∀ (s : σ) (pl nt : Nat) (cd : Bool), P s →
      ((retryLoop cfg stop f script s pl nt cd).res = .ok →
          ∃ s' a, a ∈ script ∧ P s' ∧ (f s' a).err = none ∧ (retryLoop cfg stop f script s pl nt cd).st = (f s' a).st) ∧
      ((retryLoop cfg stop f script s pl nt cd).res ≠ .ok → P (retryLoop cfg stop f script s pl nt cd).st) := by
  intro s pl nt cd
  -- the cases of `retryLoop`: script at its end; attempt succeeded; attempt failed and the verdict `hv` ends
  -- the loop; attempt failed, next attempt
  fun_induction retryLoop cfg stop f script s pl nt cd with
  | case1 s pl nt cd => exact fun hs => ⟨nofun, fun _ => hs⟩
  | case2 a rest s pl nt cd r cd' he =>
    exact fun hs => ⟨fun _ => ⟨s, a, List.mem_cons_self, hs, he, rfl⟩, fun h => absurd rfl h⟩
  | case3 a rest s pl nt cd r cd' e he pl' res hv =>
    exact fun hs => ⟨fun h => absurd h (verdict_not_ok hv),
      fun _ => hP s a List.mem_cons_self hs fun h => Option.some_ne_none e (he.symm.trans h)⟩
  | case4 a rest s pl nt cd r cd' e he pl' hv o ih =>
    intro hs
    have := ih (fun s b hb => hP s b (List.mem_cons_of_mem _ hb))
      (hP s a List.mem_cons_self hs fun h => Option.some_ne_none e (he.symm.trans h))
    exact ⟨fun h => let ⟨s', b, hb, h'⟩ := this.1 h; ⟨s', b, List.mem_cons_of_mem _ hb, h'⟩, this.2⟩

section
variable {σ φ : Type} {cfg : Cfg} {stop : Nat → Bool} {ctx : Bool} {f : σ → φ → Att σ} {script : List φ} {s : σ}

theorem retry_inv (P : σ → Prop) (hP : ∀ s, ∀ a ∈ script, P s → (f s a).err ≠ none → P (f s a).st) (hs : P s) :
    ((retry cfg stop ctx f script s).res = .ok →
        ∃ s' a, a ∈ script ∧ P s' ∧ (f s' a).err = none ∧ (retry cfg stop ctx f script s).st = (f s' a).st) ∧
    ((retry cfg stop ctx f script s).res ≠ .ok → P (retry cfg stop ctx f script s).st) := by
  unfold retry
  split
  · exact ⟨nofun, fun _ => hs⟩
  · exact retryLoop_inv cfg stop f P script hP s _ _ _ hs

theorem retry_ok (hok : (retry cfg stop ctx f script s).res = .ok) :
    ∃ s' a, a ∈ script ∧ (f s' a).err = none ∧ (retry cfg stop ctx f script s).st = (f s' a).st :=
  let ⟨s', a, ha, _, h⟩ := (retry_inv (fun _ => True) (fun _ _ _ _ _ => trivial) trivial).1 hok
  ⟨s', a, ha, h⟩

/-- `retry_inv` for a `P` that every attempt keeps, failing or not: nothing to distinguish at the end -/
theorem retry_inv_all (P : σ → Prop) (hP : ∀ s, ∀ a ∈ script, P s → P (f s a).st) (hs : P s) :
    P (retry cfg stop ctx f script s).st := by
  have h := retry_inv (cfg := cfg) (stop := stop) (ctx := ctx) P (fun s a ha hs _ => hP s a ha hs) hs
  by_cases hr : (retry cfg stop ctx f script s).res = .ok
  · obtain ⟨s', a, ha, h1, -, h3⟩ := h.1 hr
    rw [h3]; exact hP s' a ha h1
  · exact h.2 hr

end

theorem noRetry_cons (e : Err) (t : List (Option Err)) (he : e.isPerm = false)
    (ht : noRetryAfterPermanent t = true) : noRetryAfterPermanent (some e :: t) = true := by
  cases t with
  | nil => rfl
  | cons x xs => simp [noRetryAfterPermanent, he, ht]

/-- With the default error handling (`redesign`) and at most one permitted permanent error
    (`permanentErrorAttempts = 1`, i.e. the backend is not flaky), no attempt ever follows an
    attempt that returned a permanent error. -/
theorem retryLoop_no_retry_after_permanent {σ φ : Type} (cfg : Cfg) (stop : Nat → Bool) (f : σ → φ → Att σ)
    (hr : cfg.redesign = true) (script : List φ) :
    ∀ (s : σ) (pl nt : Nat) (cd : Bool), pl ≤ 1 →
      noRetryAfterPermanent (retryLoop cfg stop f script s pl nt cd).trace = true := by
  intro s pl nt cd
  fun_induction retryLoop cfg stop f script s pl nt cd with
  | case1 | case2 | case3 => exact fun _ => rfl
  | case4 a rest s pl nt cd r cd' e he pl' hv o ih =>
    intro hpl
    obtain ⟨hw, hpl'⟩ := verdict_none hv
    -- a permanent error would have used up the one permitted (`pl ≤ 1`)
    have hperm : e.isPerm = false := by
      rw [Bool.eq_false_iff]
      intro hp
      apply hpl'
      simp only [pl', nextPl, hr, hw, hp, Bool.not_false, Bool.and_self, if_true]
      omega
    refine noRetry_cons e _ hperm (ih ?_)
    simp only [pl', nextPl, hperm, Bool.and_false, Bool.false_eq_true, if_false]
    exact hpl

theorem retry_no_retry_after_permanent {σ φ : Type} (cfg : Cfg) (stop : Nat → Bool) (ctx : Bool) (f : σ → φ → Att σ)
    (hr : cfg.redesign = true) (hf : cfg.flaky = false) (script : List φ) (s : σ) :
    noRetryAfterPermanent (retry cfg stop ctx f script s).trace = true := by
  unfold retry
  split
  · rfl
  · apply retryLoop_no_retry_after_permanent cfg stop f hr; simp [hf]

/-- **permanent_not_retried**, the simplest case: a first attempt that returns a permanent error
    is the only attempt, and its error is the result. -/
theorem permanent_not_retried {σ φ : Type} (cfg : Cfg) (stop : Nat → Bool) (f : σ → φ → Att σ)
    (hr : cfg.redesign = true) (hf : cfg.flaky = false) (a : φ) (rest : List φ) (s : σ) (e : Err)
    (he : (f s a).err = some e) (hp : e.isPerm = true) :
    (retry cfg stop false f (a :: rest) s).trace = [some e] ∧
    (retry cfg stop false f (a :: rest) s).res = .err e := by
  simp [retry, retryLoop, he, hr, hf, hp, nextPl, verdictAfterErr]

theorem set_same (c : Cells) (h : Name) (v : Option Bytes) : (c.set h v) h = v := by simp [Cells.set]
theorem set_other (c : Cells) (h : Name) (v : Option Bytes) (n : Name) (hn : n ≠ h) : (c.set h v) n = c n := by
  simp [Cells.set, hn]

section
variable {cfg : Cfg} {atomic : Bool} {c : Cells} {h n : Name} {data : Bytes} {k : SaveKind} {a : SaveAtt}

theorem innerSave_other (hn : n ≠ h) : (innerSave atomic c h data k).1 n = c n := by
  cases k <;> cases atomic <;> simp [innerSave, set_other _ _ _ _ hn]

theorem innerSave_ok (hok : (innerSave atomic c h data k).2.1 = none) :
    (innerSave atomic c h data k).1 h = some data := by
  cases k with
  | ok => exact set_same ..
  | _ => cases hok

theorem innerSave_atomic : (innerSave true c h data k).1 h = c h ∨ (innerSave true c h data k).1 h = some data := by
  cases k with
  | ok | writeThenFail => exact .inr (set_same ..)
  | _ => exact .inl rfl

theorem innerSave_cancel (hk : ∀ n, k ≠ .cancelFail n) : (innerSave atomic c h data k).2.2 = false := by
  cases k with
  | cancelFail n => exact absurd rfl (hk n)
  | _ => rfl

theorem innerRemove_other {fails : Bool} (hn : n ≠ h) : (innerRemove c h fails).1 n = c n := by
  unfold innerRemove
  split
  · rfl
  · split
    · rfl
    · exact set_other _ _ _ _ hn

theorem innerRemove_works : (innerRemove c h false).1 h = none := by
  simp only [innerRemove, Bool.false_eq_true, if_false]
  split
  · next hc => exact Option.isNone_iff_eq_none.mp hc
  · exact set_same ..

/-- What an attempt of Save leaves behind: nothing changed (the rewind failed), what the wrapped
    backend's `Save` left (it succeeded, or the backend replaces atomically), or what the cleanup
    `Remove` left of that. -/
theorem saveF_cases (cfg : Cfg) (c : Cells) (h : Name) (data : Bytes) (a : SaveAtt) :
    let o := saveF cfg h data c a
    let r := innerSave cfg.atomic c h data a.kind
    (o.st = c ∧ o.err = some .rewind) ∨
    (o.st = r.1 ∧ o.err = r.2.1 ∧ (r.2.1 = none ∨ cfg.atomic = true)) ∨
    (o.st = (innerRemove r.1 h (a.removeFails || r.2.2)).1 ∧ o.err = r.2.1 ∧ r.2.1 ≠ none ∧ cfg.atomic = false) := by
  simp only [saveF]
  split
  · exact .inl ⟨rfl, rfl⟩
  · split
    · next hr => exact .inr (.inl ⟨rfl, hr.symm, .inl hr⟩)
    · next e hr =>
      split
      · next hat => exact .inr (.inl ⟨rfl, hr.symm, .inr hat⟩)
      · next hat => exact .inr (.inr ⟨rfl, hr.symm, by simp [hr], by simpa using hat⟩)

theorem saveF_other (hn : n ≠ h) : (saveF cfg h data c a).st n = c n := by
  rcases saveF_cases cfg c h data a with ⟨hs, -⟩ | ⟨hs, -⟩ | ⟨hs, -⟩ <;> rw [hs]
  · exact innerSave_other hn
  · rw [innerRemove_other hn]; exact innerSave_other hn

theorem saveF_ok (hok : (saveF cfg h data c a).err = none) : (saveF cfg h data c a).st h = some data := by
  rcases saveF_cases cfg c h data a with ⟨-, he⟩ | ⟨hs, he, -⟩ | ⟨-, he, hn, -⟩
  · rw [he] at hok; cases hok
  · rw [hs]; exact innerSave_ok (he ▸ hok)
  · exact absurd (he ▸ hok) hn

theorem saveF_atomic (hat : cfg.atomic = true) :
    (saveF cfg h data c a).st h = c h ∨ (saveF cfg h data c a).st h = some data := by
  rcases saveF_cases cfg c h data a with ⟨hs, -⟩ | ⟨hs, -⟩ | ⟨-, -, -, hna⟩
  · exact .inl (by rw [hs])
  · rw [hs, hat]; exact innerSave_atomic
  · rw [hat] at hna; cases hna

theorem saveF_cleanup (hat : cfg.atomic = false) (hrm : a.removeFails = false) (hk : ∀ k, a.kind ≠ .cancelFail k)
    (herr : (saveF cfg h data c a).err ≠ none) :
    (saveF cfg h data c a).st h = none ∨ (saveF cfg h data c a).st h = c h := by
  rcases saveF_cases cfg c h data a with ⟨hs, -⟩ | ⟨-, he, hn | ha⟩ | ⟨hs, -⟩
  · exact .inr (by rw [hs])
  · exact absurd (he.trans hn) herr
  · rw [hat] at ha; cases ha
  · rw [hs, hrm, innerSave_cancel hk]; exact .inl innerRemove_works

end

/-- **save_ok_exact**: if the retried Save reports success, the backend holds exactly the data
    under the handle — whatever partial writes, failures and cleanups happened before. -/
theorem save_ok_exact (cfg : Cfg) (uni : Nat) (stop : Nat → Bool) (ctx : Bool) (m : MState) (h : Name)
    (data : Bytes) (script : List SaveAtt)
    (hok : (step cfg uni stop ctx m (.save h data script)).2.res = .ok) :
    (step cfg uni stop ctx m (.save h data script)).1.cells h = some data := by
  obtain ⟨s', a, -, h2, h3⟩ := retry_ok hok
  exact (congrFun h3 h).trans (saveF_ok h2)

theorem save_other_untouched (cfg : Cfg) (uni : Nat) (stop : Nat → Bool) (ctx : Bool) (m : MState) (h : Name)
    (data : Bytes) (script : List SaveAtt) (n : Name) (hn : n ≠ h) :
    (step cfg uni stop ctx m (.save h data script)).1.cells n = m.cells n :=
  retry_inv_all (fun c : Cells => c n = m.cells n) (fun _ _ _ hs => (saveF_other hn).trans hs) rfl

/-- **save_err_clean**, atomic backends: a failed Save leaves the previous content or the complete
    new content under the final name (never a partial file). -/
theorem save_err_clean_atomic (cfg : Cfg) (uni : Nat) (stop : Nat → Bool) (ctx : Bool) (m : MState) (h : Name)
    (data : Bytes) (script : List SaveAtt) (hat : cfg.atomic = true) :
    (step cfg uni stop ctx m (.save h data script)).1.cells h = m.cells h ∨
    (step cfg uni stop ctx m (.save h data script)).1.cells h = some data :=
  retry_inv_all (fun c : Cells => c h = m.cells h ∨ c h = some data)
    (fun _ _ _ hs => (saveF_atomic hat).elim (fun h1 => by rw [h1]; exact hs) .inr) (.inl rfl)

theorem cleanupsWork_mem {script : List SaveAtt} (hc : cleanupsWork script = true) {a : SaveAtt} (ha : a ∈ script) :
    a.removeFails = false ∧ ∀ k, a.kind ≠ .cancelFail k := by
  have := List.all_eq_true.mp hc a ha
  simp only [Bool.and_eq_true, Bool.not_eq_true'] at this
  refine ⟨this.1, fun k hk => ?_⟩
  rw [hk] at this; simp at this

/-- **save_err_clean**, backends without atomic replace: if the Save fails and every cleanup
    `Remove` of the executed attempts worked (forced hypothesis: nothing can clean up when Remove
    itself fails or the context is cancelled), no file is left under the final name — or, when
    only rewinds failed, the untouched previous one. -/
theorem save_err_clean (cfg : Cfg) (uni : Nat) (stop : Nat → Bool) (ctx : Bool) (m : MState) (h : Name)
    (data : Bytes) (script : List SaveAtt) (hat : cfg.atomic = false) (hc : cleanupsWork script = true)
    (herr : (step cfg uni stop ctx m (.save h data script)).2.res ≠ .ok) :
    (step cfg uni stop ctx m (.save h data script)).1.cells h = none ∨
    (step cfg uni stop ctx m (.save h data script)).1.cells h = m.cells h :=
  (retry_inv (fun c : Cells => c h = none ∨ c h = m.cells h)
    (fun _ _ ha hs he =>
      let ⟨h1, h2⟩ := cleanupsWork_mem hc ha
      (saveF_cleanup hat h1 h2 he).elim .inl fun h3 => by rw [h3]; exact hs) (.inr rfl)).2 herr

theorem loadF_ok {c : Cells} {h : Name} {log : List Deliv} {k : LoadKind} (hok : (loadF c h log k).err = none) :
    ∃ d, c h = some d ∧ (loadF c h log k).st = log ++ [⟨d, true⟩] := by
  cases hc : c h with
  | none => cases k <;> simp [loadF, hc] at hok
  | some d => cases k <;> simp [loadF, hc] at hok ⊢

theorem step_load_cases (cfg : Cfg) (uni : Nat) (stop : Nat → Bool) (ctx : Bool) (m : MState) (h : Name)
    (expired : Bool) (script : List LoadKind) :
    step cfg uni stop ctx m (.load h expired script) = (m, { res := .err .breaker, trace := [] }) ∨
    ((step cfg uni stop ctx m (.load h expired script)).1.cells = m.cells ∧
      (step cfg uni stop ctx m (.load h expired script)).2 =
        { res := (retry cfg stop ctx (loadF m.cells h) script []).res,
          trace := (retry cfg stop ctx (loadF m.cells h) script []).trace,
          delivs := (retry cfg stop ctx (loadF m.cells h) script []).st }) := by
  simp only [step]
  split
  · exact .inl rfl
  · exact .inr ⟨rfl, rfl⟩

/-- **load_ok_same**: a retried Load that reports success handed the consumer, in its last
    invocation, the complete content the backend stores under the handle (earlier invocations may
    have seen partial data; they were all reported as failed to the retry loop). -/
theorem load_ok_same (cfg : Cfg) (uni : Nat) (stop : Nat → Bool) (ctx : Bool) (m : MState) (h : Name)
    (expired : Bool) (script : List LoadKind)
    (hok : (step cfg uni stop ctx m (.load h expired script)).2.res = .ok) :
    ∃ d, m.cells h = some d ∧
      (step cfg uni stop ctx m (.load h expired script)).2.delivs.getLast? = some ⟨d, true⟩ := by
  rcases step_load_cases cfg uni stop ctx m h expired script with hs | ⟨-, hs⟩ <;> rw [hs] at hok ⊢
  · cases hok
  · obtain ⟨s', a, -, h2, h3⟩ := retry_ok hok
    obtain ⟨d, hd, hst⟩ := loadF_ok h2
    exact ⟨d, hd, by rw [h3, hst]; exact List.getLast?_concat⟩

theorem load_state_unchanged (cfg : Cfg) (uni : Nat) (stop : Nat → Bool) (ctx : Bool) (m : MState) (h : Name)
    (expired : Bool) (script : List LoadKind) :
    (step cfg uni stop ctx m (.load h expired script)).1.cells = m.cells := by
  rcases step_load_cases cfg uni stop ctx m h expired script with hs | ⟨hs, -⟩
  · rw [hs]
  · exact hs

/-- circuit breaker: a handle recorded in `failedLoads` (and not expired) is answered with an
    error without any backend call -/
theorem breaker_open_no_backend_call (cfg : Cfg) (uni : Nat) (stop : Nat → Bool) (ctx : Bool) (m : MState)
    (h : Name) (script : List LoadKind) (hf : h ∈ m.failed) :
    (step cfg uni stop ctx m (.load h false script)).2 = { res := .err .breaker, trace := [] } := by
  simp [step, hf]

theorem statF_ok {c : Cells} {h : Name} {fi : Nat} {k : StatKind} (hok : (statF c h fi k).err = none) :
    ∃ d, c h = some d ∧ (statF c h fi k).st = d.length := by
  cases hc : c h with
  | none => cases k <;> simp [statF, hc] at hok
  | some d => cases k <;> simp [statF, hc] at hok ⊢

theorem stat_ok_same (cfg : Cfg) (uni : Nat) (stop : Nat → Bool) (ctx : Bool) (m : MState) (h : Name)
    (script : List StatKind) (hok : (step cfg uni stop ctx m (.stat h script)).2.res = .ok) :
    ∃ d, m.cells h = some d ∧ (step cfg uni stop ctx m (.stat h script)).2.size = d.length := by
  obtain ⟨s', a, -, h2, h3⟩ := retry_ok hok
  obtain ⟨d, hd, hst⟩ := statF_ok h2
  exact ⟨d, hd, h3.trans hst⟩

theorem stat_notExist_not_retried (cfg : Cfg) (uni : Nat) (stop : Nat → Bool) (m : MState) (h : Name)
    (rest : List StatKind) (hn : m.cells h = none) :
    (step cfg uni stop false m (.stat h (.none :: rest))).2 =
      { res := .err .notExist, trace := [some .notExist], size := 0 } := by
  simp [step, retry, retryLoop, statF, hn, verdictAfterErr]

section
variable {h n : Name} {c : Cells} {k : RemoveKind}

variable (h c k) in
theorem removeF_st : (removeF h c k).st = c ∨ (removeF h c k).st = c.set h none := by
  cases k with
  | none =>
    simp only [removeF]
    split
    · exact .inl rfl
    · exact .inr rfl
  | removedThenFail => exact .inr rfl
  | _ => exact .inl rfl

theorem removeF_other (hn : n ≠ h) : (removeF h c k).st n = c n := by
  rcases removeF_st h c k with hs | hs <;> rw [hs]
  exact set_other _ _ _ _ hn

theorem removeF_mono (hc : c h = none) : (removeF h c k).st h = none := by
  rcases removeF_st h c k with hs | hs <;> rw [hs]
  · exact hc
  · exact set_same ..

theorem removeF_ok (hok : (removeF h c k).err = none) : (c h).isSome = true ∧ (removeF h c k).st h = none := by
  cases k with
  | none =>
    simp only [removeF] at hok ⊢
    split at hok
    · cases hok
    · next hx => exact ⟨by simpa [Option.isSome_iff_ne_none] using hx, by rw [if_neg hx]; exact set_same ..⟩
  | _ => cases hok

end

theorem remove_ok (cfg : Cfg) (uni : Nat) (stop : Nat → Bool) (ctx : Bool) (m : MState) (h : Name)
    (script : List RemoveKind) (hok : (step cfg uni stop ctx m (.remove h script)).2.res = .ok) :
    (m.cells h).isSome = true ∧ (step cfg uni stop ctx m (.remove h script)).1.cells h = none := by
  -- a file missing at the start stays missing, so the successful attempt found it there
  obtain ⟨s', a, -, h1, h2, h3⟩ :=
    (retry_inv (fun c : Cells => m.cells h = none → c h = none) (fun _ _ _ hs _ hm => removeF_mono (hs hm)) id).1 hok
  obtain ⟨h4, h5⟩ := removeF_ok h2
  refine ⟨?_, (congrFun h3 h).trans h5⟩
  cases hm : m.cells h with
  | some _ => rfl
  | none => rw [h1 hm] at h4; cases h4

theorem remove_other_untouched (cfg : Cfg) (uni : Nat) (stop : Nat → Bool) (ctx : Bool) (m : MState) (h : Name)
    (script : List RemoveKind) (n : Name) (hn : n ≠ h) :
    (step cfg uni stop ctx m (.remove h script)).1.cells n = m.cells n :=
  retry_inv_all (fun c : Cells => c n = m.cells n) (fun _ _ _ hs => (removeF_other hn).trans hs) rfl

section
variable {ff : Option Nat} {ns : List Name} {s : ListSt}

variable (ff) in
theorem feed_inv (P : List Name → Prop) (hP : ∀ l, ∀ n ∈ ns, n ∉ l → P l → P (l ++ [n])) (h : P s.listed) :
    P (feed ff s ns).1.listed := by
  -- the cases of `feed`: no name left; name seen before; `fn` fails on the name; `fn` takes it
  fun_induction feed ff s ns with
  | case1 s => exact h
  | case2 s x xs hx ih => exact ih (fun l n hn => hP l n (List.mem_cons_of_mem _ hn)) h
  | case3 s x xs hx calls e s' he => exact hP _ x List.mem_cons_self hx h
  | case4 s x xs hx calls e s' he ih =>
    exact ih (fun l n hn => hP l n (List.mem_cons_of_mem _ hn)) (hP _ x List.mem_cons_self hx h)

theorem feed_mono {n : Name} (h : n ∈ s.listed) : n ∈ (feed ff s ns).1.listed :=
  feed_inv ff (n ∈ ·) (fun _ _ _ _ h => List.mem_append_left _ h) h

theorem feed_nodup (h : s.listed.Nodup) : (feed ff s ns).1.listed.Nodup :=
  feed_inv ff List.Nodup (fun _ n _ hn hl => List.nodup_append.mpr
    ⟨hl, List.pairwise_singleton _ n, fun a ha b hb hab => hn (by rw [List.mem_singleton.mp hb] at hab; exact hab ▸ ha)⟩) h

theorem feed_subset {names : List Name} (h : ∀ n ∈ s.listed, n ∈ names) (hns : ∀ n ∈ ns, n ∈ names) :
    ∀ n ∈ (feed ff s ns).1.listed, n ∈ names :=
  feed_inv ff (∀ n ∈ ·, n ∈ names) (fun _ x hx _ hl n hn =>
    (List.mem_append.mp hn).elim (hl n) fun hn => List.mem_singleton.mp hn ▸ hns x hx) h

theorem feed_complete : (feed ff s ns).2 = false → ∀ n ∈ ns, n ∈ (feed ff s ns).1.listed := by
  fun_induction feed ff s ns with
  | case1 s => intro _ n hn; cases hn
  | case2 s x xs hx ih =>
    intro hab n hn
    rcases List.mem_cons.mp hn with rfl | hn
    · exact feed_mono hx
    · exact ih hab n hn
  | case3 s x xs hx calls e s' he => nofun
  | case4 s x xs hx calls e s' he ih =>
    intro hab n hn
    rcases List.mem_cons.mp hn with rfl | hn
    · exact feed_mono (List.mem_append_right _ List.mem_cons_self)
    · exact ih hab n hn

theorem feed_abort_err : (feed ff s ns).2 = true → (feed ff s ns).1.innerErr ≠ none := by
  fun_induction feed ff s ns with
  | case1 s => nofun
  | case2 s x xs hx ih => exact ih
  | case3 s x xs hx calls e s' he => exact fun _ => Option.isSome_iff_ne_none.mp he
  | case4 s x xs hx calls e s' he ih => exact ih

end

theorem mem_rotate (l : List Name) (r : Nat) (n : Name) : n ∈ rotate l r ↔ n ∈ l := by
  unfold rotate
  split
  · rfl
  · rw [List.mem_append, Or.comm, ← List.mem_append, List.take_append_drop]

theorem length_rotate (l : List Name) (r : Nat) : (rotate l r).length = l.length := by
  unfold rotate
  split
  · rfl
  · rw [List.length_append, Nat.add_comm, ← List.length_append, List.take_append_drop]

theorem delivered_subset (names : List Name) (a : ListAtt) : ∀ n ∈ delivered names a, n ∈ names := by
  intro n hn
  unfold delivered at hn
  have h1 : ∀ n ∈ (rotate names a.rot).take a.count, n ∈ names :=
    fun n hn => (mem_rotate names a.rot n).mp (List.mem_of_mem_take hn)
  split at hn
  · rcases List.mem_append.mp hn with h | h <;> exact h1 n h
  · exact h1 n hn

theorem delivered_complete (names : List Name) (a : ListAtt) (hc : names.length ≤ a.count) :
    ∀ n ∈ names, n ∈ delivered names a := by
  intro n hn
  have h1 : n ∈ (rotate names a.rot).take a.count := by
    rw [List.take_of_length_le (by rw [length_rotate]; exact hc)]
    exact (mem_rotate names a.rot n).mpr hn
  unfold delivered
  split
  · exact List.mem_append_left _ h1
  · exact h1

theorem nodupB_iff (l : List Name) : nodupB l = true ↔ l.Nodup := by
  induction l with
  | nil => simp [nodupB]
  | cons x xs ih => simp [nodupB, ih]

section
variable {names : List Name} {ff : Option Nat} {s : ListSt} {a : ListAtt}

theorem listF_st : (listF names ff s a).st = (feed ff s (delivered names a)).1 := by
  simp only [listF]; split <;> rfl

theorem listF_ok (hok : (listF names ff s a).err = none) :
    (feed ff s (delivered names a)).2 = false ∧ a.outcome = none := by
  simp only [listF] at hok
  split at hok
  · next hab => exact absurd hok (feed_abort_err hab)
  · next hab => exact ⟨by simpa using hab, hok⟩

end

theorem step_list_ok {cfg : Cfg} {uni : Nat} {stop : Nat → Bool} {ctx : Bool} {m : MState}
    {ff : Option Nat} {script : List ListAtt}
    (hok : (step cfg uni stop ctx m (.list ff script)).2.res = .ok) :
    (retry cfg stop ctx (listF (present m.cells uni) ff) script ⟨[], none⟩).st.innerErr = none ∧
    (retry cfg stop ctx (listF (present m.cells uni) ff) script ⟨[], none⟩).res = .ok := by
  simp only [step] at hok
  split at hok
  · cases hok
  · next hi => exact ⟨hi, hok⟩

/-- a List that reports success has recorded no error of the caller's `fn` -/
theorem list_fn_error_wins (cfg : Cfg) (uni : Nat) (stop : Nat → Bool) (ctx : Bool) (m : MState)
    (ff : Option Nat) (script : List ListAtt)
    (hok : (step cfg uni stop ctx m (.list ff script)).2.res = .ok) :
    (retry cfg stop ctx (listF (present m.cells uni) ff) script ⟨[], none⟩).st.innerErr = none :=
  (step_list_ok hok).1

/-- **list_once**: the retried List hands every file name to the caller's callback at most once,
    whatever the wrapped backend delivers (partial listings, repeated names, different orders per
    attempt). -/
theorem list_once (cfg : Cfg) (uni : Nat) (stop : Nat → Bool) (ctx : Bool) (m : MState)
    (ff : Option Nat) (script : List ListAtt) :
    (step cfg uni stop ctx m (.list ff script)).2.reported.Nodup :=
  retry_inv_all (fun st : ListSt => st.listed.Nodup) (fun _ _ _ hs => listF_st ▸ feed_nodup hs) List.nodup_nil

theorem list_sound (cfg : Cfg) (uni : Nat) (stop : Nat → Bool) (ctx : Bool) (m : MState)
    (ff : Option Nat) (script : List ListAtt) :
    ∀ n ∈ (step cfg uni stop ctx m (.list ff script)).2.reported, n ∈ present m.cells uni :=
  retry_inv_all (fun st : ListSt => ∀ n ∈ st.listed, n ∈ present m.cells uni)
    (fun _ a _ hs => listF_st ▸ feed_subset hs (delivered_subset _ a)) nofun

/-- **list_complete**: if the retried List reports success (and successful listings of the wrapped
    backend are complete), every file of the backend was reported. -/
theorem list_complete (cfg : Cfg) (uni : Nat) (stop : Nat → Bool) (ctx : Bool) (m : MState)
    (ff : Option Nat) (script : List ListAtt)
    (hc : okListsComplete (present m.cells uni).length script = true)
    (hok : (step cfg uni stop ctx m (.list ff script)).2.res = .ok) :
    ∀ n ∈ present m.cells uni, n ∈ (step cfg uni stop ctx m (.list ff script)).2.reported := by
  -- the last attempt succeeded, so its delivery was complete and the callback took all of it
  obtain ⟨s', a, ha, h2, h3⟩ := retry_ok (step_list_ok hok).2
  obtain ⟨hab, ho⟩ := listF_ok h2
  have hcount : (present m.cells uni).length ≤ a.count := by
    simpa [ho] using List.all_eq_true.mp hc a ha
  intro n hn
  show n ∈ (retry cfg stop ctx (listF (present m.cells uni) ff) script ⟨[], none⟩).st.listed
  rw [h3, listF_st]
  exact feed_complete hab n (delivered_complete _ a hcount n hn)

theorem step_trace_no_retry (cfg : Cfg) (uni : Nat) (stop : Nat → Bool) (ctx : Bool) (m : MState) (op : Op)
    (hr : cfg.redesign = true) (hf : cfg.flaky = false) :
    noRetryAfterPermanent (step cfg uni stop ctx m op).2.trace = true := by
  cases op with
  | load h ex script =>
    rcases step_load_cases cfg uni stop ctx m h ex script with hs | ⟨-, hs⟩ <;> rw [hs]
    · rfl
    · exact retry_no_retry_after_permanent cfg stop ctx _ hr hf script _
  | _ => exact retry_no_retry_after_permanent cfg stop ctx _ hr hf _ _

theorem cellsEq_of_forall (uni : Nat) (a b : Cells) (h : ∀ n, a n = b n) : cellsEq uni a b = true :=
  List.all_eq_true.mpr fun n _ => beq_iff_eq.mpr (h n)

theorem othersEq_of_forall (uni : Nat) (h : Name) (a b : Cells) (hab : ∀ n, n ≠ h → a n = b n) :
    (List.range uni).all (fun n => n == h || a n == b n) = true :=
  List.all_eq_true.mpr fun n _ => Bool.or_eq_true_iff.mpr <|
    (Decidable.em (n = h)).imp beq_iff_eq.mpr fun hn => beq_iff_eq.mpr (hab n hn)

theorem step_clause2 (cfg : Cfg) (uni : Nat) (stop : Nat → Bool) (ctx : Bool) (m : MState) (op : Op) :
    clause2 op (step cfg uni stop ctx m op).2 = none := by
  cases op with
  | list ff script => exact if_pos ((nodupB_iff _).mpr (list_once cfg uni stop ctx m ff script))
  | _ => rfl

theorem step_clause4 (cfg : Cfg) (uni : Nat) (stop : Nat → Bool) (ctx : Bool) (m : MState) (op : Op) :
    clause4 cfg (step cfg uni stop ctx m op).2 = none := by
  unfold clause4
  by_cases h : cfg.redesign = true ∧ cfg.flaky = false
  · rw [step_trace_no_retry cfg uni stop ctx m op h.1 h.2, if_neg (by simp)]
  · exact if_neg (by simpa using fun hr hf => absurd ⟨hr, hf⟩ h)

theorem step_clause5 (cfg : Cfg) (uni : Nat) (stop : Nat → Bool) (ctx : Bool) (m : MState) (op : Op) :
    clause5 uni m.cells op (step cfg uni stop ctx m op).1.cells = none := by
  cases op with
  | save h data script =>
    exact if_pos (othersEq_of_forall _ _ _ _ (save_other_untouched cfg uni stop ctx m h data script))
  | remove h script =>
    exact if_pos (othersEq_of_forall _ _ _ _ (remove_other_untouched cfg uni stop ctx m h script))
  | load h ex script =>
    exact if_pos (cellsEq_of_forall _ _ _ fun _ => by rw [load_state_unchanged])
  | stat h script => exact if_pos (cellsEq_of_forall _ _ _ fun _ => rfl)
  | list ff script => exact if_pos (cellsEq_of_forall _ _ _ fun _ => rfl)

theorem step_clause3 (cfg : Cfg) (uni : Nat) (stop : Nat → Bool) (ctx : Bool) (m : MState) (op : Op) :
    clause3 cfg m.cells op (step cfg uni stop ctx m op).1.cells (step cfg uni stop ctx m op).2 = none := by
  cases op with
  | save h data script =>
    simp only [clause3]
    split
    · next hc =>
      simp only [Bool.and_eq_true, bne_iff_ne, ne_eq, Bool.or_eq_true] at hc
      -- the three admitted outcomes are those of `save_err_clean_atomic` and `save_err_clean`
      have : (step cfg uni stop ctx m (.save h data script)).1.cells h = none ∨
          (step cfg uni stop ctx m (.save h data script)).1.cells h = some data ∨
          (step cfg uni stop ctx m (.save h data script)).1.cells h = m.cells h := by
        cases hat : cfg.atomic with
        | true => exact (save_err_clean_atomic cfg uni stop ctx m h data script hat).elim (.inr ∘ .inr) (.inr ∘ .inl)
        | false =>
          have hcw : cleanupsWork script = true := by simpa [hat] using hc.2
          exact (save_err_clean cfg uni stop ctx m h data script hat hcw hc.1).imp_right .inr
      rw [if_pos]
      simpa only [Bool.or_eq_true, beq_iff_eq, or_assoc] using this
    · rfl
  | _ => rfl

theorem sameSet_of (a b : List Name) (h1 : ∀ n ∈ a, n ∈ b) (h2 : ∀ n ∈ b, n ∈ a) : sameSet a b = true := by
  unfold sameSet
  simp only [Bool.and_eq_true, List.all_eq_true, decide_eq_true_eq]
  exact ⟨h1, h2⟩

theorem plain_load {c : Cells} {h : Name} {d : Bytes} (hd : c h = some d) (uni : Nat) (e : Bool)
    (s : List LoadKind) :
    plain uni c (.load h e s) = (c, { res := .ok, trace := [], delivs := [⟨d, true⟩] }) := by
  simp only [plain, hd]

theorem plain_stat {c : Cells} {h : Name} {d : Bytes} (hd : c h = some d) (uni : Nat) (s : List StatKind) :
    plain uni c (.stat h s) = (c, { res := .ok, trace := [], size := d.length }) := by
  simp only [plain, hd]

theorem plain_remove {c : Cells} {h : Name} (hs : (c h).isSome = true) (uni : Nat) (s : List RemoveKind) :
    plain uni c (.remove h s) = (c.set h none, { res := .ok, trace := [] }) := by
  simp only [plain, Option.isNone_eq_false_iff.mpr hs, Bool.false_eq_true, if_false]

theorem step_ok_cells (cfg : Cfg) (uni : Nat) (stop : Nat → Bool) (ctx : Bool) (m : MState) (op : Op)
    (hok : (step cfg uni stop ctx m op).2.res = .ok) (n : Name) :
    (step cfg uni stop ctx m op).1.cells n = (plain uni m.cells op).1 n := by
  cases op with
  | save h data script =>
    show _ = m.cells.set h (some data) n
    by_cases hn : n = h
    · rw [hn, save_ok_exact cfg uni stop ctx m h data script hok, set_same]
    · rw [save_other_untouched cfg uni stop ctx m h data script n hn, set_other _ _ _ _ hn]
  | load h ex script =>
    obtain ⟨d, hd, -⟩ := load_ok_same cfg uni stop ctx m h ex script hok
    rw [load_state_unchanged, plain_load hd]
  | stat h script =>
    obtain ⟨d, hd, -⟩ := stat_ok_same cfg uni stop ctx m h script hok
    rw [plain_stat hd]; rfl
  | remove h script =>
    obtain ⟨h1, h2⟩ := remove_ok cfg uni stop ctx m h script hok
    rw [plain_remove h1]
    show _ = m.cells.set h none n
    by_cases hn : n = h
    · rw [hn, h2, set_same]
    · rw [remove_other_untouched cfg uni stop ctx m h script n hn, set_other _ _ _ _ hn]
  | list ff script => rfl

theorem step_clause1 (cfg : Cfg) (uni : Nat) (stop : Nat → Bool) (ctx : Bool) (m : MState) (op : Op) :
    clause1 uni m.cells op (step cfg uni stop ctx m op).1.cells (step cfg uni stop ctx m op).2 = none := by
  unfold clause1
  by_cases hok : (step cfg uni stop ctx m op).2.res = .ok
  · simp only [hok, beq_self_eq_true, if_true,
      cellsEq_of_forall _ _ _ (step_ok_cells cfg uni stop ctx m op hok), Bool.not_true, Bool.false_eq_true, if_false]
    -- what remains is the comparison of the output with the error-free one
    cases op with
    | save h data script => rfl
    | load h ex script =>
      obtain ⟨d, hd, hl⟩ := load_ok_same cfg uni stop ctx m h ex script hok
      simp only [plain_load hd, hl]
      exact if_pos (by simp)
    | stat h script =>
      obtain ⟨d, hd, hl⟩ := stat_ok_same cfg uni stop ctx m h script hok
      simp only [plain_stat hd, hl]
      exact if_pos (by simp)
    | remove h script =>
      simp only [plain_remove (remove_ok cfg uni stop ctx m h script hok).1]; rfl
    | list ff script =>
      simp only
      split
      · rfl
      · next hc =>
        exact if_pos (sameSet_of _ _ (list_sound cfg uni stop ctx m ff script)
          (list_complete cfg uni stop ctx m ff script (by simpa using hc) hok))
  · exact if_neg (by simpa using hok)

/-- **step_specOK**: for every configuration, backend content,
    circuit-breaker state, backoff oracle, operation and fault script, the retry layer's step
    satisfies the executable reading of C35 (`specOK`): a completed operation gives exactly what
    the error-free backend gives, listings report each file at most once, a failed Save leaves no
    partial file (atomic backend, or working cleanups), permanent errors are not retried
    (default error handling, non-flaky backend), and nothing else changes. -/
theorem step_specOK (cfg : Cfg) (uni : Nat) (stop : Nat → Bool) (ctx : Bool) (m : MState) (op : Op) :
    specOK cfg uni m.cells op (step cfg uni stop ctx m op).1.cells (step cfg uni stop ctx m op).2 = true := by
  unfold specOK specViolation
  rw [step_clause1, step_clause2, step_clause3, step_clause4, step_clause5]
  rfl

/-- the model's `maxRetries` is the literal in `backoff.WithMaxRetries(b, 10)` of the current
    `Backend.retry` (regenerated `callargs` fact) -/
theorem gen_max_retries : maxRetriesOfCalls Restic.Gen.retry_callargs = some maxRetries := by decide +kernel

def exCfg : Cfg := { redesign := true, flaky := false, atomic := false, maxTries := maxRetries }
def exM : MState := { cells := fun n => if n = 1 then some [9, 9] else none, failed := [] }

/-- a Save that succeeds at the third attempt after a partial write and a write-then-fail -/
example : (step exCfg 3 (fun _ => false) false exM
    (.save 0 [1, 2, 3] [⟨false, .partialFail 2, false⟩, ⟨false, .writeThenFail, true⟩, ⟨false, .ok, false⟩])).2
    = { res := .ok, trace := [some .transient, some .transient, none] } := by decide +kernel

/-- a failing Save whose cleanups work: budget exhausted after two attempts, nothing left -/
def exRun2 := step exCfg 3 (fun _ => true) false exM
  (.save 0 [1, 2, 3] [⟨false, .partialFail 2, false⟩, ⟨false, .partialFail 1, false⟩, ⟨false, .ok, false⟩])
example : exRun2.2.res = .err .transient ∧ exRun2.1.cells 0 = none ∧ exRun2.2.trace.length = 2 := by decide +kernel

/-- the excluded point of `save_err_clean`: the cleanup Remove fails, a partial file stays -/
def exRun3 := step exCfg 3 (fun _ => true) false exM
  (.save 0 [1, 2, 3] [⟨false, .failBefore, false⟩, ⟨false, .partialFail 1, true⟩])
example : exRun3.2.res = .err .transient ∧ exRun3.1.cells 0 = some [1] := by decide +kernel

/-- a permanent error at the second attempt ends the loop there -/
example : (step exCfg 3 (fun _ => false) false exM (.load 1 false [.failBefore, .permanent, .none])).2
    = { res := .err .permanent, trace := [some .transient, some .permanent] } := by decide +kernel

/-- a listing over three attempts with overlaps and a repeated name reports each file once -/
example : (step exCfg 3 (fun _ => false) false { cells := fun _ => some [], failed := [] }
    (.list none [⟨1, 2, false, some .transient⟩, ⟨0, 2, true, some .transient⟩, ⟨2, 5, false, none⟩])).2.reported
    = [1, 2, 0] := by decide +kernel

end Restic.Props.C35
