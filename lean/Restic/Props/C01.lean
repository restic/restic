import Restic.Proofs.C01_Main
import Restic.Proofs.C17_Loop
import Restic.Gen.Source
/-!
# C01 — Backup then restore reproduces the source tree exactly (composite)

Statement (properties.jsonl): restoring a snapshot made from a directory tree recreates every
backed-up entry with identical name, type, file content, symlink target, device number, permission
and special mode bits, modification time, ownership, extended attributes and hard-link grouping, for
every repository format version, compression mode, pack size and read/save concurrency.

Model: `Restic.Model.Backup`, over an abstract tree (entries in traversal order); chunking is C17's.

PARTIAL. Below the model and covered only by the correspondence run: JSON tree encoding (C41),
tree traversal (C42), packs/index (C02/C44), AES/zstd, and the system calls (`mknod`, `lchown`,
`utimensat`, xattr calls). The file restorer writes blobs pack by pack, not in file order:
`restore_backup` holds for EVERY write sequence that covers each blob of the file (any order,
repetitions allowed; `Restic.Proofs.C01.restore_anyorder`). Format version, compression, pack size and
concurrency do not occur in the model: that they do not matter is established by the
correspondence run only (one configuration drawn for every generated tree).
-/
namespace Restic.Props.C01
open Restic.Model.Backup Restic.Proofs.C01

/-- `order p`: the blob indices in the order in which the file restorer writes file `p`. The left
    disjunct can only fail at a chunk that the store does not give back, i.e. at two chunks with one address. -/
theorem restore_backup {ID : Type} [DecidableEq ID] (hash : Bytes → ID) (split : Bytes → List Bytes)
    (hsplit : ∀ c, (split c).flatten = c) (t : List Item) (hwf : WF t) (order : Path → List Nat)
    (hord : ∀ a ∈ t, a.kind = .file → ∀ i, i < (split a.content).length → i ∈ order a.path) :
    (restore (backup hash split t).1 (backup hash split t).2 order = some (rsOf (t.filter (·.kind != .socket))) ∧
      specOK t (observe (rsOf (t.filter (·.kind != .socket)))) = true) ∨ Collision hash := by
  by_cases hbad : ∃ c ∈ t.flatMap (chunksOf split),
      ((t.flatMap (chunksOf split)).foldl (Store.put hash) []).get (hash c) ≠ some c
  · obtain ⟨c, hc, hne⟩ := hbad
    exact .inr ((saved_chunk_loads hash _ c hc).resolve_left hne)
  · left
    refine ⟨?_, observe_specOK hwf⟩
    rw [backup_eq]
    unfold restore rsOf
    apply mapM'_map_map
    intro a ha
    have hat : a ∈ t := (List.mem_filter.mp ha).1
    apply restoreNode_eq hash split hsplit _ _ order a (hord a hat)
    intro hk c hc
    have hmem : c ∈ t.flatMap (chunksOf split) :=
      List.mem_flatMap.mpr ⟨a, hat, by simp [chunksOf, hk, hc]⟩
    exact Decidable.not_not.mp fun hne => hbad ⟨c, hmem, hne⟩

/-- the restored tree does not depend on how the files were chunked or hashed -/
theorem restore_cfg_indep {ID₁ ID₂ : Type} [DecidableEq ID₁] [DecidableEq ID₂]
    (hash₁ : Bytes → ID₁) (hash₂ : Bytes → ID₂) (split₁ split₂ : Bytes → List Bytes)
    (h₁ : ∀ c, (split₁ c).flatten = c) (h₂ : ∀ c, (split₂ c).flatten = c) (t : List Item) (hwf : WF t)
    (order₁ order₂ : Path → List Nat)
    (ho₁ : ∀ a ∈ t, a.kind = .file → ∀ i, i < (split₁ a.content).length → i ∈ order₁ a.path)
    (ho₂ : ∀ a ∈ t, a.kind = .file → ∀ i, i < (split₂ a.content).length → i ∈ order₂ a.path) :
    restore (backup hash₁ split₁ t).1 (backup hash₁ split₁ t).2 order₁ =
      restore (backup hash₂ split₂ t).1 (backup hash₂ split₂ t).2 order₂ ∨ Collision hash₁ ∨ Collision hash₂ := by
  rcases restore_backup hash₁ split₁ h₁ t hwf order₁ ho₁ with ⟨e1, _⟩ | c
  · rcases restore_backup hash₂ split₂ h₂ t hwf order₂ ho₂ with ⟨e2, _⟩ | c
    · left; rw [e1, e2]
    · right; right; exact c
  · right; left; exact c

def splitOf {σ : Type} (sp : Restic.Model.Chunk.Splitter σ) (bufSize : Nat) (c : Bytes) : List Bytes :=
  match Restic.Model.Chunk.chunks sp bufSize c with
  | .ok cs => cs
  | _ => [c]

/-- restic's chunk loop (C17 `chunks_concat`) is a lossless chunking, whatever the splitter does -/
theorem chunks_split_law {σ : Type} (sp : Restic.Model.Chunk.Splitter σ) (bufSize : Nat) (c : Bytes) :
    (splitOf sp bufSize c).flatten = c := by
  unfold splitOf
  cases h : Restic.Model.Chunk.chunks sp bufSize c with
  | ok cs => exact (Restic.Props.C17.chunks_concat sp bufSize c cs h).1
  | _ => simp

def callIdx (l : List String) (c : String) : Nat := l.findIdx (· == c)

/-- `RestoreTo`, calls listed by end position: first traversal, file contents, second traversal -/
theorem two_passes :
    callIdx Gen.RestoreTo_calls "res.traverseTree" < callIdx Gen.RestoreTo_calls "filerestorer.restoreFiles" ∧
    callIdx Gen.RestoreTo_calls "filerestorer.restoreFiles" < callIdx Gen.RestoreTo_calls "res.restoreHardlinkAt" ∧
    callIdx Gen.RestoreTo_calls "idx.Add" < callIdx Gen.RestoreTo_calls "filerestorer.restoreFiles" ∧
    Gen.RestoreTo_calls.getLast? = some "res.traverseTree" := by decide +kernel

/-- metadata order: ownership first, mode last (a chown clears setuid/setgid) -/
theorem chmod_after_lchown :
    callIdx Gen.nodeRestoreMetadata_calls "lchown" < callIdx Gen.nodeRestoreMetadata_calls "chmod" ∧
    callIdx Gen.nodeRestoreMetadata_calls "nodeRestoreExtendedAttributes" < callIdx Gen.nodeRestoreMetadata_calls "chmod" ∧
    callIdx Gen.nodeRestoreMetadata_calls "chmod" < Gen.nodeRestoreMetadata_calls.length := by decide +kernel

/-- the type switch of `Archiver.save`: regular, dir, socket (ignored), everything else -/
theorem save_type_switch :
    Gen.archiver_save_cases = ["fi.Mode.IsRegular()", "fi.Mode.IsDir()", "fi.Mode&os.ModeSocket > 0", "default"] := by decide +kernel

def m0 : Meta := { mode := 0o644, uid := 1000, gid := 1000, mtimeSec := 1700000000, mtimeNsec := 5, xattrs := [([117], [1])] }

def tEx : List Item :=
  [ { path := [[100]], kind := .dir, md := m0, content := [], target := [], rdev := 0, dev := 1, ino := 10, nlink := 2 },
    { path := [[100], [97]], kind := .file, md := m0, content := [1, 2, 3, 4, 5], target := [], rdev := 0, dev := 1, ino := 11, nlink := 2 },
    { path := [[100], [98]], kind := .file, md := m0, content := [1, 2, 3, 4, 5], target := [], rdev := 0, dev := 1, ino := 11, nlink := 2 },
    { path := [[100], [99]], kind := .file, md := { m0 with mode := 0o4755 }, content := [9], target := [], rdev := 0, dev := 1, ino := 12, nlink := 1 },
    { path := [[108]], kind := .symlink, md := m0, content := [], target := [255, 10], rdev := 0, dev := 1, ino := 13, nlink := 1 },
    { path := [[110]], kind := .chardev, md := m0, content := [], target := [], rdev := 259, dev := 1, ino := 14, nlink := 1 },
    { path := [[115]], kind := .socket, md := m0, content := [], target := [], rdev := 0, dev := 1, ino := 15, nlink := 1 } ]

def split2 : Bytes → List Bytes
  | [] => []
  | [a] => [[a]]
  | a :: b :: r => [a, b] :: split2 r

/-- the hypotheses of `restore_backup` are satisfiable -/
example : WF tEx ∧ (∀ c, (split2 c).flatten = c) := by
  refine ⟨⟨by decide, by decide, by decide⟩, ?_⟩
  intro c
  induction c using split2.induct with
  | case1 => rfl
  | case2 a => rfl
  | case3 a b r ih => simp [split2, ih]

/-- with the identity as (collision-free) hash the example tree comes back, the second name as a
    hard link, the socket left out -/
example : (restore (backup (ID := Bytes) id split2 tEx).1 (backup (ID := Bytes) id split2 tEx).2 (fun _ => [0, 1, 2])).map
    (fun rs => specOK tEx (observe rs)) = some true := by decide +kernel

/-- the executable statement is not trivially true: a wrong mtime, a lost hard link, a lost entry -/
example : specOK tEx (tEx.filter (·.kind != .socket)) = true ∧
    specOK tEx ((tEx.filter (·.kind != .socket)).map fun a => { a with md := { a.md with mtimeSec := -2147483648 } }) = false ∧
    specOK tEx ((tEx.filter (·.kind != .socket)).map fun a => { a with ino := a.path.length + a.content.length + (a.path.getLast?.getD []).length * 7 + (a.path.getLast?.getD [0])[0]!.toNat }) = false ∧
    specOK tEx (tEx.filter (·.kind == .file)) = false := by decide +kernel

end Restic.Props.C01
