import Restic.Model.Store
import Restic.Gen.Source
/-!
# C02 — Loaded data always matches its content address

Theorems about `Restic.Model.Store`. `hash` (SHA-256), `dec` (nonce split + `Key.Open`), `enc`,
`zenc`/`zdec` are arbitrary functions: nothing is assumed about them except where a hypothesis
says so. In particular SHA-256 is never assumed injective: statements that identify *contents*
conclude `… ∨ Collision hash` with the colliding pair built from the inputs.

The backend is a reply script (`List BeReply` / `List ReadReply`): every theorem about loading
holds for EVERY script — correct, altered, truncated, stale bytes, errors, in any order.
-/
namespace Restic.Props.C02
open Restic.Model.Store

def Collision (hash : Bytes → ID) : Prop := ∃ a b : Bytes, a ≠ b ∧ hash a = hash b

theorem eq_or_collision (hash : Bytes → ID) {a b : Bytes} (h : hash a = hash b) : a = b ∨ Collision hash :=
  Decidable.or_iff_not_imp_left.mpr fun hne => ⟨a, b, hne, h⟩

/-- `LoadRaw`: two load attempts, each followed by a comparison with `restic.Hash(buf)`; the cache
    entry is dropped between them. (Implied by `loadRaw_only_loads_and_hashes`.) -/
theorem loadRaw_hash_compared :
    let c := Restic.Gen.repo_LoadRaw_calls
    c.count "loadRaw" = 2 ∧ c.count "restic.Hash" = 2 ∧
    c.idxOf "loadRaw" < c.idxOf "restic.Hash" ∧ c.idxOf "restic.Hash" < c.idxOf "r.cache.Forget" := by decide +kernel

/-- calls that cannot influence a decision (logging, formatting, conversions) -/
def inert : List String :=
  ["debug.Log", "fmt.Errorf", "fmt.Sprintf", "errors.Errorf", "errors.New", "backend.FileType", "id.String",
   "b.packID.String", "int", "len"]

def decisive (c : List String) : List String := c.filter fun s => !(inert.contains s)

/-- `LoadRaw` consults NOTHING but the two loads and the two hash computations (and drops the
    cache entry in between): no cache query decides whether the hash is compared. Any further
    non-logging call in `LoadRaw` makes this fail, and is then to be reviewed. -/
theorem loadRaw_only_loads_and_hashes :
    decisive Restic.Gen.repo_LoadRaw_calls = ["loadRaw", "restic.Hash", "r.cache.Forget", "loadRaw", "restic.Hash"] := by
  decide +kernel

/-- `packBlobIterator.Next`: between decryption / decompression and the comparison with the entry's
    ID there is exactly the hash computation — no shortcut, no other source for the ID. -/
theorem next_always_hashes :
    decisive Restic.Gen.repo_Next_calls =
      ["b.rd.Discard", "b.rd.ReadFull", "b.key.NonceSize", "b.key.NonceSize", "b.key.NonceSize", "b.key.Open",
       "entry.IsCompressed", "b.dec.DecodeAll", "restic.Hash", "id.Equal"] := by
  decide +kernel

/-- `packBlobIterator.Next`: read, decrypt, hash, compare with the entry's ID, in this order.
    (Implied by `next_always_hashes`.) -/
theorem next_hash_compared :
    let c := Restic.Gen.repo_Next_calls
    c.idxOf "b.key.Open" < c.idxOf "restic.Hash" ∧ c.idxOf "restic.Hash" < c.idxOf "id.Equal" ∧
    "id.Equal" ∈ c ∧ c.idxOf "b.rd.ReadFull" < c.idxOf "b.key.Open" := by decide +kernel

/-- `saveUnpacked`: seal, verify, hash the ciphertext, then save under that name. -/
theorem saveUnpacked_hash_then_save :
    let c := Restic.Gen.repo_saveUnpacked_calls
    c.idxOf "r.key.Seal" < c.idxOf "r.verifyUnpacked" ∧ c.idxOf "r.verifyUnpacked" < c.idxOf "restic.Hash" ∧
    c.idxOf "restic.Hash" < c.idxOf "r.be.Save" ∧ "r.be.Save" ∈ c := by decide +kernel

/-- `saveAndEncrypt`: the ciphertext is verified (decrypt + hash compare) before it reaches the packer. -/
theorem saveAndEncrypt_verifies_before_pack :
    let c := Restic.Gen.repo_saveAndEncrypt_calls
    c.idxOf "r.key.Seal" < c.idxOf "r.verifyCiphertext" ∧ c.idxOf "r.verifyCiphertext" < c.idxOf "pm.SaveBlob" ∧
    "pm.SaveBlob" ∈ c ∧
    "restic.Hash" ∈ Restic.Gen.repo_verifyCiphertext_calls := by decide +kernel

/-- `savePacker`: the ID is computed from the file's hash before the upload. -/
theorem savePacker_hash_then_save :
    let c := Restic.Gen.repo_savePacker_calls
    c.idxOf "p.Packer.Finalize" < c.idxOf "restic.IDFromHash" ∧
    c.idxOf "restic.IDFromHash" < c.idxOf "r.be.Save" ∧ "r.be.Save" ∈ c := by decide +kernel

/-- `saveBlob`: zero-chunk shortcut and plain hash are the only sources of a computed ID. -/
theorem saveBlob_id_sources :
    let c := Restic.Gen.repo_saveBlob_calls
    "r.zeroChunk" ∈ c ∧ "restic.Hash" ∈ c ∧ "restic.ZeroPrefixLen" ∈ c ∧
    c.idxOf "restic.Hash" < c.idxOf "r.saveAndEncrypt" := by decide +kernel

/-- `loadRaw` by the guard of its retry -/
theorem loadRaw_accept {hash : Bytes → ID} {id : ID} (h : ¬ (t ≠ .config ∧ id ≠ hash (collect r).buf)) :
    loadRaw hash t id (r :: rest) = (if (collect r).err then .err else .ok (collect r).buf, rest) := by
  unfold loadRaw
  simp only [if_neg h, apply_ite (Prod.mk · rest)]

theorem loadRaw_retry {hash : Bytes → ID} {id : ID} (h : t ≠ .config ∧ id ≠ hash (collect r1).buf) :
    loadRaw hash t id (r1 :: r2 :: rest) =
      (if !(collect r2).err ∧ id ≠ hash (collect r2).buf then .invalidData (collect r2).buf
       else if (collect r2).err then .err else .ok (collect r2).buf, rest) := by
  unfold loadRaw
  simp only [if_pos h, apply_ite (Prod.mk · rest)]

/-- **Soundness of `LoadRaw` for every backend behaviour**: whatever the backend answers to the
    (one or two) reads, a successful result hashes to the requested ID. -/
theorem loadRaw_sound (hash : Bytes → ID) (t : FileType) (id : ID) (replies : List BeReply)
    (b : Bytes) (rest : List BeReply)
    (h : loadRaw hash t id replies = (.ok b, rest)) (ht : t ≠ .config) : hash b = id := by
  revert h
  -- two of the seven branches return `.ok`: the second attempt was accepted, or the first was
  fun_cases loadRaw hash t id replies <;> intro h <;> cases h
  · exact .symm <| Decidable.not_not.mp fun hne => ‹¬ (_ ∧ id ≠ hash _)› ⟨by simpa using ‹¬ _ = true›, hne⟩
  · exact .symm <| Decidable.not_not.mp fun hne => ‹¬ (t ≠ FileType.config ∧ _)› ⟨ht, hne⟩

/-- … hence it is what was stored under that ID, unless SHA-256 collides. -/
theorem loadRaw_returns_stored (hash : Bytes → ID) (t : FileType) (id : ID) (replies : List BeReply)
    (b s : Bytes) (rest : List BeReply)
    (h : loadRaw hash t id replies = (.ok b, rest)) (ht : t ≠ .config) (hs : hash s = id) :
    b = s ∨ Collision hash :=
  eq_or_collision hash ((loadRaw_sound hash t id replies b rest h ht).trans hs.symm)

/-- `LoadRaw` issues one or two backend reads, never more (or the reply script is exhausted: `stuck`). -/
theorem loadRaw_reads (hash : Bytes → ID) (t : FileType) (id : ID) (replies : List BeReply) :
    (loadRaw hash t id replies).2 = replies.drop 1 ∨ (loadRaw hash t id replies).2 = replies.drop 2 ∨
    (loadRaw hash t id replies).1 = .stuck :=
  match replies with
  | [] => .inr (.inr rfl)
  | r1 :: rest =>
    if hg : t ≠ .config ∧ id ≠ hash (collect r1).buf then
      match rest with
      | [] => .inr (.inr (by rw [loadRaw, if_pos hg]))
      | _ :: _ => .inr (.inl (congrArg Prod.snd (loadRaw_retry hg)))
    else .inl (congrArg Prod.snd (loadRaw_accept hg))

/-- A healthy backend is not refused. -/
theorem loadRaw_healthy (hash : Bytes → ID) (t : FileType) (id : ID) (s : Bytes) (rest : List BeReply)
    (hs : hash s = id) : loadRaw hash t id (.data s false :: rest) = (.ok s, rest) :=
  (loadRaw_accept fun h => h.2 hs.symm).trans rfl

/-- One bad read (altered, truncated, stale, error) followed by a good one is healed by the retry. -/
theorem loadRaw_retry_heals (hash : Bytes → ID) (t : FileType) (id : ID) (r1 : BeReply) (s : Bytes)
    (rest : List BeReply) (ht : t ≠ .config) (hbad : hash (collect r1).buf ≠ id) (hs : hash s = id) :
    loadRaw hash t id (r1 :: .data s false :: rest) = (.ok s, rest) := by
  rw [loadRaw_retry ⟨ht, fun h => hbad h.symm⟩, if_neg fun h => h.2 hs.symm]
  rfl

/-- Two bad reads: the damaged bytes are only ever returned together with `ErrInvalidData`, or not at all. -/
theorem loadRaw_twice_bad (hash : Bytes → ID) (t : FileType) (id : ID) (r1 r2 : BeReply)
    (rest : List BeReply) (ht : t ≠ .config) (h1 : hash (collect r1).buf ≠ id)
    (h2 : hash (collect r2).buf ≠ id) :
    (loadRaw hash t id (r1 :: r2 :: rest)).1 = .invalidData (collect r2).buf ∨
    (loadRaw hash t id (r1 :: r2 :: rest)).1 = .err := by
  rw [loadRaw_retry ⟨ht, fun h => h1 h.symm⟩]
  by_cases he : (collect r2).err = true
  · exact .inr (by rw [if_neg fun h => by simp [he] at h, if_pos he])
  · exact .inl (by rw [if_pos ⟨by simpa using he, fun h => h2 h.symm⟩])

theorem loadUnpacked_sound (hash : Bytes → ID) (dec zdec : Bytes → Option Bytes) (version : Nat)
    (t : FileType) (id : ID) (replies : List BeReply) (q : Bytes) (rest : List BeReply)
    (h : loadUnpacked hash dec zdec version t id replies = (.ok q, rest)) (ht : t ≠ .config) :
    ∃ buf pt, hash buf = id ∧ extension ≤ buf.length ∧ dec buf = some pt ∧
      decompressUnpacked version zdec pt = some q := by
  revert h
  -- `.ok` is returned on two branches: after decompression, and (for `config` only) without it
  fun_cases loadUnpacked hash dec zdec version t id replies <;> intro h <;> cases h
  · exact ⟨_, _, (loadRaw_sound hash t _ replies _ rest ‹loadRaw hash t _ replies = _› ht).trans (if_neg ht),
      Nat.le_of_not_lt ‹¬ List.length _ < extension›, ‹dec _ = some _›, ‹decompressUnpacked version zdec _ = some q›⟩
  · exact absurd ht ‹¬ t ≠ .config›

/-- the one characterisation of `next`; the iterator theorems here and in C03 are read off it -/
theorem next_value_iff {dec zdec : Bytes → Option Bytes} {b : Blob} {p : Bytes} {hash : Bytes → ID} {it it' : Iter} :
    next hash dec zdec it = (.value b p none, it') ↔
    ∃ rest, it.blobs = b :: rest ∧ it.cur ≤ b.offset ∧ nonceSize < b.length ∧
      (b.offset - it.cur) + b.length ≤ it.rd.length ∧
      decodeBlob dec zdec b.ulen ((it.rd.drop (b.offset - it.cur)).take b.length) = some p ∧
      hash p = b.id ∧
      it' = { rd := (it.rd.drop (b.offset - it.cur)).drop b.length, cur := b.offset + b.length, blobs := rest } := by
  constructor
  · -- of the ten branches only the last returns a value without error
    fun_cases next hash dec zdec it <;> intro h <;> injection h with ho hi <;> cases ho
    subst hi
    have hskip := ‹¬ it.rd.length < _›
    have hfull := ‹¬ List.length _ < b.length›
    rw [List.length_drop] at hfull
    exact ⟨_, ‹it.blobs = _›, Nat.le_of_not_lt ‹¬ b.offset < it.cur›, Nat.lt_of_not_le ‹¬ b.length ≤ nonceSize›, by omega,
      by rw [decodeBlob, ‹dec _ = some _›]; exact ‹_ = some p›, Decidable.not_not.mp ‹¬ hash p ≠ b.id›, rfl⟩
  · rintro ⟨rest, hb, hcur, hn, hlen, hd, hh, rfl⟩
    have h2 : ¬ it.rd.length < b.offset - it.cur := by omega
    have h3 : ¬ it.rd.length - (b.offset - it.cur) < b.length := by omega
    simp only [next, hb, List.length_drop, Nat.not_lt.mpr hcur, h2, h3, Nat.not_le.mpr hn, if_false]
    unfold decodeBlob at hd
    split at hd
    · cases hd
    · rename_i pt hpt
      simp only [hd, hh, ne_eq, not_true_eq_false, if_false]

/-- **Soundness of the blob iterator**: a value without error carries plaintext whose hash is the
    ID of the header/index entry it was read for — for every content of the reader. -/
theorem blobIter_sound (hash : Bytes → ID) (dec zdec : Bytes → Option Bytes) (it it' : Iter)
    (b : Blob) (p : Bytes) (h : next hash dec zdec it = (.value b p none, it')) : hash p = b.id := by
  obtain ⟨_, -, -, -, -, -, hh, -⟩ := next_value_iff.mp h
  exact hh

/-- the value belongs to the first pending entry and decodes exactly the `length` bytes at its offset -/
theorem blobIter_value_decodes (hash : Bytes → ID) (dec zdec : Bytes → Option Bytes) (it it' : Iter)
    (b : Blob) (p : Bytes) (h : next hash dec zdec it = (.value b p none, it')) :
    it.blobs.head? = some b ∧ it.cur ≤ b.offset ∧
    decodeBlob dec zdec b.ulen ((it.rd.drop (b.offset - it.cur)).take b.length) = some p := by
  obtain ⟨_, hb, hc, -, -, hd, -, -⟩ := next_value_iff.mp h
  exact ⟨by rw [hb]; rfl, hc, hd⟩

/-- `hc`: the candidates are what `idx.Lookup` returned for one blob handle, so all carry its ID. -/
theorem loadBlobPass_sound (hash : Bytes → ID) (dec zdec : Bytes → Option Bytes) (id : ID)
    (cands : List PackedBlob) (rs rs' : List ReadReply) (p : Bytes)
    (hc : ∀ c ∈ cands, c.blob.id = id)
    (h : loadBlobPass hash dec zdec cands rs = (.ok p, rs')) : hash p = id := by
  revert hc h
  fun_induction loadBlobPass hash dec zdec cands rs <;> intro hc h
  · cases h
  · cases h
  · rename_i ih; exact ih (List.forall_mem_cons.mp hc).2 h
  · -- `next` returned a clean value for the single entry `c.blob`
    cases h
    obtain ⟨_, hb, -, -, -, -, hh, -⟩ := next_value_iff.mp (Prod.ext ‹(next hash dec zdec _).1 = .value _ p none› rfl)
    cases hb
    exact hh.trans (List.forall_mem_cons.mp hc).1
  · rename_i ih; exact ih (List.forall_mem_cons.mp hc).2 h

/-- **Soundness of `LoadBlob` for every backend behaviour and every set of candidate packs**:
    a successful result hashes to the requested blob ID (both passes). -/
theorem loadBlob_sound (hash : Bytes → ID) (dec zdec : Bytes → Option Bytes) (id : ID)
    (cands : List PackedBlob) (rs rs' : List ReadReply) (p : Bytes)
    (hc : ∀ c ∈ cands, c.blob.id = id)
    (h : loadBlob hash dec zdec cands rs = (.ok p, rs')) : hash p = id := by
  unfold loadBlob at h
  split at h
  · cases h
  · split at h <;> exact loadBlobPass_sound hash dec zdec id cands _ _ p hc h

theorem loadBlob_returns_stored (hash : Bytes → ID) (dec zdec : Bytes → Option Bytes) (id : ID)
    (cands : List PackedBlob) (rs rs' : List ReadReply) (p s : Bytes)
    (hc : ∀ c ∈ cands, c.blob.id = id) (hs : hash s = id)
    (h : loadBlob hash dec zdec cands rs = (.ok p, rs')) : p = s ∨ Collision hash :=
  eq_or_collision hash ((loadBlob_sound hash dec zdec id cands rs rs' p hc h).trans hs.symm)

/-- A damaged or unreachable first copy does not stop the search: the intact duplicate is used. -/
theorem loadBlobPass_skips_bad (hash : Bytes → ID) (dec zdec : Bytes → Option Bytes)
    (c : PackedBlob) (cs : List PackedBlob) (r : ReadReply) (rs : List ReadReply)
    (hbad : ∀ buf, readAt c.blob.length r = some buf →
      ∀ b p, (next hash dec zdec { rd := buf, cur := c.blob.offset, blobs := [c.blob] }).1 ≠ .value b p none) :
    loadBlobPass hash dec zdec (c :: cs) (r :: rs) = loadBlobPass hash dec zdec cs rs := by
  rw [loadBlobPass]
  split
  · rfl
  · rename_i buf hb
    split
    · rename_i b p hn
      exact absurd hn (hbad buf hb b p)
    · rfl

theorem countZeros_eq (p : Bytes) (n : Nat) : countZeros p n = n + (p.takeWhile (· == 0)).length := by
  induction p generalizing n with
  | nil => simp [countZeros]
  | cons b rest ih =>
    unfold countZeros
    by_cases hb : (b == 0) = true
    · simp only [hb, if_true, ih, List.takeWhile_cons, List.length_cons]; omega
    · simp [hb]

theorem takeWhile_replicate_append (k : Nat) (rest : Bytes) :
    ((List.replicate k (0 : UInt8) ++ rest).takeWhile (· == 0)).length = k + (rest.takeWhile (· == 0)).length := by
  rw [List.takeWhile_append_of_pos fun a ha => by rw [List.eq_of_mem_replicate ha]; rfl,
    List.length_append, List.length_replicate]

theorem skipZeroBlocks_inv (fuel : Nat) (p : Bytes) (n : Nat) :
    (skipZeroBlocks fuel p n).2 + ((skipZeroBlocks fuel p n).1.takeWhile (· == 0)).length =
      n + (p.takeWhile (· == 0)).length := by
  induction fuel generalizing p n with
  | zero => simp [skipZeroBlocks]
  | succ fuel ih =>
    unfold skipZeroBlocks
    split
    · rename_i hc
      rw [ih]
      have hp : p = List.replicate 1024 0 ++ p.drop 1024 := by
        conv => lhs; rw [← List.take_append_drop 1024 p, hc.2]
      conv => rhs; rw [hp, takeWhile_replicate_append]
      omega
    · rfl

/-- the two loops of `ZeroPrefixLen` compute the length of the longest all-zero prefix -/
theorem zeroPrefixLen_eq (p : Bytes) : zeroPrefixLen p = (p.takeWhile (· == 0)).length := by
  unfold zeroPrefixLen
  simp only [countZeros_eq]
  have := skipZeroBlocks_inv (p.length / 1024 + 1) p 0
  omega

theorem eq_replicate_of_takeWhile_len (p : Bytes) (h : (p.takeWhile (· == 0)).length = p.length) :
    p = List.replicate p.length 0 := by
  -- a prefix of full length is the whole list, so every byte passed the test
  have hall : p.all (· == 0) = true := by
    rw [← (List.takeWhile_prefix _).eq_of_length h]; exact List.all_takeWhile
  exact List.eq_replicate_iff.mpr ⟨rfl, fun b hb => beq_iff_eq.mp (List.all_eq_true.mp hall b hb)⟩

/-- **The shortcut is an optimisation, not a different address**: a buffer of `MinSize` bytes with
    an all-zero prefix of `MinSize` bytes IS the buffer whose hash `zeroChunk()` caches. -/
theorem zero_shortcut_eq (hash : Bytes → ID) (buf : Bytes) (hl : buf.length = minSize)
    (hz : zeroPrefixLen buf = minSize) : zeroChunk hash = hash buf := by
  rw [zeroPrefixLen_eq, ← hl] at hz
  have := eq_replicate_of_takeWhile_len buf hz
  unfold zeroChunk
  rw [← hl, ← this]

/-- What a READ-side shortcut would have to check (`Next` has none, `next_always_hashes`): "entry ID
    is the zero-chunk ID and the plaintext is all zeros" identifies the plaintext only together with
    `len = MinSize`; without the length test it fails for every hash function that separates two
    all-zero strings (`read_shortcut_needs_length`). -/
theorem read_shortcut_sound (hash : Bytes → ID) (id : ID) (p : Bytes) (hid : id = zeroChunk hash)
    (hl : p.length = minSize) (hz : zeroPrefixLen p = p.length) : hash p = id := by
  rw [hid, zero_shortcut_eq hash p hl (by rw [hz, hl])]

theorem read_shortcut_needs_length (hash : Bytes → ID) (k : Nat)
    (hsep : hash (List.replicate k 0) ≠ hash (List.replicate minSize 0)) :
    ∃ p : Bytes, zeroPrefixLen p = p.length ∧ hash p ≠ zeroChunk hash := by
  refine ⟨List.replicate k 0, ?_, hsep⟩
  rw [zeroPrefixLen_eq, List.takeWhile_replicate]
  rfl

theorem saveBlob_ok {hash : Bytes → ID} {id : ID}
    (h : saveBlob hash enc dec zdec zenc cfg tree buf id sd pn nonce = .ok newID known st) :
    newID = (if id = nullID then hash buf else id) ∧
    ∀ s, st = some s → saveAndEncrypt hash enc dec zdec zenc cfg tree buf newID nonce = some s := by
  -- the zero-chunk shortcut is taken only where it returns the hash of the buffer
  have key : hash buf =
      if buf.length = minSize ∧ zeroPrefixLen buf = minSize then zeroChunk hash else hash buf := by
    split
    · rename_i hc; exact (zero_shortcut_eq hash buf hc.1 hc.2).symm
    · rfl
  revert h
  fun_cases saveBlob hash enc dec zdec zenc cfg tree buf id sd pn nonce <;> intro h <;>
    simp only [SaveBlobOut.ok.injEq, reduceCtorEq] at h <;> obtain ⟨rfl, -, rfl⟩ := h
  · exact ⟨by rw [key], fun _ e => e ▸ ‹saveAndEncrypt .. = some _›⟩
  · exact ⟨by rw [key], fun _ e => nomatch e⟩

/-- **Every blob saved without a caller-supplied ID is addressed by the hash of its plaintext**,
    including the all-zero `MinSize` special case. -/
theorem saveBlob_addr (hash : Bytes → ID) (enc) (dec zdec : Bytes → Option Bytes) (zenc) (cfg : SaveCfg)
    (tree : Bool) (buf : Bytes) (sd pn : Bool) (nonce : Bytes) (newID : ID) (known : Bool)
    (st : Option (Bytes × Nat))
    (h : saveBlob hash enc dec zdec zenc cfg tree buf nullID sd pn nonce = .ok newID known st) :
    newID = hash buf :=
  (saveBlob_ok h).1.trans (if_pos rfl)

theorem saveAndEncrypt_ok {hash : Bytes → ID} {id : ID}
    (h : saveAndEncrypt hash enc dec zdec zenc cfg tree data id nonce = some st) :
    ∃ compress, compress = (decide (cfg.version > 1) && decide (data.length > 0) && (!cfg.compressionOff || tree)) ∧
      st = (enc nonce (if compress then zenc data else data), if compress then data.length else 0) ∧
      (cfg.noExtraVerify = false → ∃ pt, decodeBlob dec zdec st.2 st.1 = some pt ∧ hash pt = id) := by
  revert h
  -- two of the five branches return: verification off, verification passed
  fun_cases saveAndEncrypt hash enc dec zdec zenc cfg tree data id nonce <;> intro h <;>
    simp only [Option.some.injEq, reduceCtorEq] at h <;> subst h
  · exact ⟨_, rfl, rfl, fun hv => nomatch hv.symm.trans ‹cfg.noExtraVerify = true›⟩
  · exact ⟨_, rfl, rfl, fun _ => ⟨_, by rw [decodeBlob, ‹dec _ = some _›]; exact ‹_ = some _›,
      Decidable.not_not.mp ‹¬ hash _ ≠ id›⟩⟩

/-- **What `saveAndEncrypt` hands to the packer under `id` decodes to bytes with hash `id`** (extra
    verification on, the default). -/
theorem saveAndEncrypt_decodes (hash : Bytes → ID) (enc) (dec zdec : Bytes → Option Bytes) (zenc)
    (cfg : SaveCfg) (tree : Bool) (data : Bytes) (id : ID) (nonce ct : Bytes) (ulen : Nat)
    (hv : cfg.noExtraVerify = false)
    (h : saveAndEncrypt hash enc dec zdec zenc cfg tree data id nonce = some (ct, ulen)) :
    ∃ pt, decodeBlob dec zdec ulen ct = some pt ∧ hash pt = id :=
  let ⟨_, _, _, hver⟩ := saveAndEncrypt_ok h
  hver hv

/-- **What reaches the packer under `newID` decodes to bytes with hash `newID`** (extra
    verification on, the default) — also when the caller supplied the ID. -/
theorem saveBlob_stored_decodes (hash : Bytes → ID) (enc) (dec zdec : Bytes → Option Bytes) (zenc)
    (cfg : SaveCfg) (tree : Bool) (buf : Bytes) (id : ID) (sd pn : Bool) (nonce : Bytes)
    (newID : ID) (known : Bool) (ct : Bytes) (ulen : Nat) (hv : cfg.noExtraVerify = false)
    (h : saveBlob hash enc dec zdec zenc cfg tree buf id sd pn nonce = .ok newID known (some (ct, ulen))) :
    ∃ pt, decodeBlob dec zdec ulen ct = some pt ∧ hash pt = newID :=
  saveAndEncrypt_decodes hash enc dec zdec zenc cfg tree buf newID nonce ct ulen hv
    ((saveBlob_ok h).2 _ rfl)

/-- with the round-trip laws of the parameters, verification pins a caller-supplied ID to the
    hash of the buffer as well -/
theorem saveAndEncrypt_checked (hash : Bytes → ID) (enc) (dec zdec : Bytes → Option Bytes) (zenc)
    (cfg : SaveCfg) (tree : Bool) (data : Bytes) (id : ID) (nonce : Bytes) (st : Bytes × Nat)
    (hv : cfg.noExtraVerify = false)
    (hdec : ∀ n d, dec (enc n d) = some d) (hz : ∀ d, zdec (zenc d) = some d)
    (h : saveAndEncrypt hash enc dec zdec zenc cfg tree data id nonce = some st) : id = hash data := by
  obtain ⟨compress, hc, rfl, hver⟩ := saveAndEncrypt_ok h
  obtain ⟨pt, hd, rfl⟩ := hver hv
  rw [decodeBlob, hdec] at hd
  cases compress
  · cases hd; rfl
  · -- compression is chosen only for non-empty data, so `ulen ≠ 0` tells the verifier truthfully to decompress
    have hne : data.length ≠ 0 := by
      simp only [Bool.true_eq, Bool.and_eq_true, decide_eq_true_eq] at hc; omega
    simp only [if_true, hne, ne_eq, not_false_eq_true, hz] at hd
    cases hd; rfl

theorem saveBlob_given_id_checked (hash : Bytes → ID) (enc) (dec zdec : Bytes → Option Bytes) (zenc)
    (cfg : SaveCfg) (tree : Bool) (buf : Bytes) (id : ID) (sd pn : Bool) (nonce : Bytes)
    (newID : ID) (known : Bool) (st : Bytes × Nat) (hv : cfg.noExtraVerify = false)
    (hdec : ∀ n d, dec (enc n d) = some d) (hz : ∀ d, zdec (zenc d) = some d)
    (h : saveBlob hash enc dec zdec zenc cfg tree buf id sd pn nonce = .ok newID known (some st)) :
    newID = hash buf :=
  saveAndEncrypt_checked hash enc dec zdec zenc cfg tree buf newID nonce st hv hdec hz
    ((saveBlob_ok h).2 _ rfl)

theorem saveUnpacked_ok {hash : Bytes → ID} {id : ID}
    (h : saveUnpacked hash enc dec zdec zenc cfg t buf nonce beOK = .ok id name bytes) :
    verifyUnpacked dec zdec cfg t bytes buf = true ∧ id = name ∧
    name = if t = .config then nullID else hash bytes := by
  revert h
  fun_cases saveUnpacked hash enc dec zdec zenc cfg t buf nonce beOK <;> intro h <;>
    simp only [SaveUnpOut.ok.injEq, reduceCtorEq] at h <;> obtain ⟨rfl, rfl, rfl⟩ := h
  exact ⟨by simpa using ‹¬ (!verifyUnpacked dec zdec cfg t _ buf) = true›, rfl, rfl⟩

/-- **Every unpacked file (index, snapshot, lock, key) is saved under the hash of the exact bytes
    handed to the backend**, and that name is the ID returned to the caller. -/
theorem saveUnpacked_addr (hash : Bytes → ID) (enc) (dec zdec : Bytes → Option Bytes) (zenc)
    (cfg : SaveCfg) (t : FileType) (buf nonce : Bytes) (beOK : Bool) (id name bytes : ID)
    (h : saveUnpacked hash enc dec zdec zenc cfg t buf nonce beOK = .ok id name bytes)
    (ht : t ≠ .config) : name = hash bytes ∧ id = name := by
  obtain ⟨-, h1, h2⟩ := saveUnpacked_ok h
  exact ⟨h2.trans (if_neg ht), h1⟩

/-- and (extra verification on) those bytes decode back to the buffer that was to be saved -/
theorem saveUnpacked_roundtrip (hash : Bytes → ID) (enc) (dec zdec : Bytes → Option Bytes) (zenc)
    (cfg : SaveCfg) (t : FileType) (buf nonce : Bytes) (beOK : Bool) (id name bytes : ID)
    (hv : cfg.noExtraVerify = false) (ht : t ≠ .config)
    (h : saveUnpacked hash enc dec zdec zenc cfg t buf nonce beOK = .ok id name bytes) :
    ∃ pt, dec bytes = some pt ∧ decompressUnpacked cfg.version zdec pt = some buf := by
  have hver := (saveUnpacked_ok h).1
  revert hver
  fun_cases verifyUnpacked dec zdec cfg t bytes buf <;> intro hver
  · rename_i hc; rw [hv] at hc; cases hc
  · cases hver
  · cases hver
  · -- decrypted, decompressed and found equal to `buf`
    have hq := ‹(if t ≠ .config then decompressUnpacked cfg.version zdec _ else _) = some _›
    rw [beq_iff_eq.mp hver] at hq
    exact ⟨_, ‹dec bytes = some _›, (if_pos ht).symm.trans hq⟩

theorem savePacker_addr (hash : Bytes → ID) (packBytes : Bytes) :
    (savePacker hash packBytes).1 = hash (savePacker hash packBytes).2 := rfl

/-- save, then load through ANY backend behaviour: what comes back for the returned ID is what was
    handed to the backend, or SHA-256 collides. -/
theorem load_saved (hash : Bytes → ID) (enc) (dec zdec : Bytes → Option Bytes) (zenc)
    (cfg : SaveCfg) (t : FileType) (buf nonce : Bytes) (id name bytes : ID) (ht : t ≠ .config)
    (hs : saveUnpacked hash enc dec zdec zenc cfg t buf nonce true = .ok id name bytes)
    (replies : List BeReply) (b : Bytes) (rest : List BeReply)
    (hl : loadRaw hash t id replies = (.ok b, rest)) : b = bytes ∨ Collision hash := by
  obtain ⟨h1, h2⟩ := saveUnpacked_addr hash enc dec zdec zenc cfg t buf nonce true id name bytes hs ht
  exact loadRaw_returns_stored hash t id replies b bytes rest hl ht (by rw [h2, h1])

theorem loadRaw_spec (hash : Bytes → ID) (t : FileType) (id : ID) (replies : List BeReply) :
    specLoadOK hash t id (loadRaw hash t id replies).1 = true := by
  cases hr : (loadRaw hash t id replies).1 with
  | ok b =>
    by_cases ht : t = .config
    · simp [specLoadOK, ht]
    · have := loadRaw_sound hash t id replies b _ (Prod.ext hr rfl) ht
      simp [specLoadOK, this]
  | _ => rfl

theorem loadBlob_spec (hash : Bytes → ID) (dec zdec : Bytes → Option Bytes) (id : ID)
    (cands : List PackedBlob) (rs : List ReadReply) (hc : ∀ c ∈ cands, c.blob.id = id) :
    specBlobOK hash id (loadBlob hash dec zdec cands rs).1 = true := by
  cases hr : (loadBlob hash dec zdec cands rs).1 with
  | ok p =>
    have := loadBlob_sound hash dec zdec id cands rs _ p hc (Prod.ext hr rfl)
    simp [specBlobOK, this]
  | _ => rfl

theorem saveUnpacked_spec (hash : Bytes → ID) (enc) (dec zdec : Bytes → Option Bytes) (zenc)
    (cfg : SaveCfg) (t : FileType) (buf nonce : Bytes) (beOK : Bool) (id name bytes : ID)
    (h : saveUnpacked hash enc dec zdec zenc cfg t buf nonce beOK = .ok id name bytes) :
    specStoredOK hash t name bytes = true := by
  by_cases ht : t = .config
  · simp [specStoredOK, ht]
  · simp [specStoredOK, (saveUnpacked_addr hash enc dec zdec zenc cfg t buf nonce beOK id name bytes h ht).1]

theorem saveBlob_spec (hash : Bytes → ID) (enc) (dec zdec : Bytes → Option Bytes) (zenc) (cfg : SaveCfg)
    (tree : Bool) (buf : Bytes) (sd pn : Bool) (nonce : Bytes) (newID : ID) (known : Bool)
    (st : Option (Bytes × Nat))
    (h : saveBlob hash enc dec zdec zenc cfg tree buf nullID sd pn nonce = .ok newID known st) :
    specSaveBlobOK hash buf newID = true := by
  simp [specSaveBlobOK, saveBlob_addr hash enc dec zdec zenc cfg tree buf sd pn nonce newID known st h]

/-! ### Non-vacuity (a toy hash with collisions on purpose: nothing depends on injectivity) -/

def toyHash (b : Bytes) : ID := [UInt8.ofNat b.length, b.foldl (· + ·) 0]

example : Collision toyHash := ⟨[1, 2], [2, 1], by decide, by decide⟩

-- altered first answer, correct second answer: healed
example : loadRaw toyHash .snapshot (toyHash [1, 2, 3]) [.data [9, 9, 9] false, .data [1, 2, 3] false] =
    (.ok [1, 2, 3], []) := by decide +kernel
-- truncated twice: handed out only with ErrInvalidData
example : (loadRaw toyHash .index (toyHash [1, 2, 3]) [.data [1, 2] false, .data [1] false]).1 =
    .invalidData [1] := by decide +kernel
-- error then stale bytes of another file
example : (loadRaw toyHash .key (toyHash [1, 2, 3]) [.fail, .data [7] false]).1 = .invalidData [7] := by decide +kernel
-- an entry no longer than a nonce is refused by the iterator before anything is decrypted
example : (next toyHash some some { rd := [0, 0, 5, 6, 7], cur := 10, blobs := [⟨toyHash [5, 6, 7], false, 12, 3, 0⟩] }).1 =
    .invalidLength := by decide +kernel
-- the copy in the first pack is altered: the duplicate in the second pack is used
example : loadBlob toyHash some some
    [⟨[1], ⟨toyHash (List.replicate 20 4), false, 0, 20, 0⟩⟩, ⟨[2], ⟨toyHash (List.replicate 20 4), false, 7, 20, 0⟩⟩]
    [.data (List.replicate 20 5), .data (List.replicate 20 4)] = (.ok (List.replicate 20 4), []) := by decide +kernel
example : zeroPrefixLen ([0, 0, 0, 1, 0]) = 3 := by decide +kernel

end Restic.Props.C02
