import Restic.Model.Fuse
/-!
# C46 — Reading a mounted file returns exactly the requested byte range

Theorems about `Restic.Model.Fuse` (transcription of `file.Open` / `openFile.Read` of
internal/fuse/file.go and of `sort.Search`), for every blob layout (any number of blobs, any
sizes, empty blobs anywhere), every offset and every request size.
-/
namespace Restic.Props.C46
open Restic.Model.Fuse

theorem cumsizeFrom_length (acc : Nat) (ss : List Nat) :
    (cumsizeFrom acc ss).length = ss.length + 1 := by
  induction ss generalizing acc with
  | nil => rfl
  | cons s ss ih => simp [cumsizeFrom, ih]

theorem cumsizeFrom_get (acc : Nat) (ss : List Nat) (i : Nat) (hi : i ≤ ss.length) :
    (cumsizeFrom acc ss)[i]? = some (acc + (ss.take i).sum) := by
  induction ss generalizing acc i with
  | nil => cases Nat.le_zero.1 hi; rfl
  | cons s ss ih =>
    cases i with
    | zero => rfl
    | succ i =>
      rw [cumsizeFrom, List.getElem?_cons_succ, ih _ _ (Nat.le_of_succ_le_succ hi), List.take_succ_cons,
        List.sum_cons, Nat.add_assoc]

theorem cumsizeFrom_getLastD (acc : Nat) (ss : List Nat) (d : Nat) :
    (cumsizeFrom acc ss).getLastD d = acc + ss.sum := by
  induction ss generalizing acc d with
  | nil => rfl
  | cons s ss ih => rw [cumsizeFrom, List.getLastD_cons, ih, List.sum_cons, Nat.add_assoc]

theorem cumsize_get {α : Type} (blobs : List (List α)) (i : Nat) (hi : i ≤ blobs.length) :
    (cumsize (blobs.map List.length))[i]? = some (blobs.take i).flatten.length := by
  rw [cumsize, cumsizeFrom_get 0 _ i (by rwa [List.length_map]), ← List.map_take, ← List.length_flatten, Nat.zero_add]

/-- `hlo`, `hhi`: the invariant of the binary search. `mono`: the precondition of `sort.Search`
    (f false on a prefix, true on the rest). -/
theorem searchLoop_spec (f : Nat → Bool) (n : Nat)
    (mono : ∀ a b, a ≤ b → b < n → f a = true → f b = true)
    (fuel i j : Nat) (hij : i ≤ j) (hjn : j ≤ n) (hfuel : j ≤ i + fuel)
    (hlo : ∀ x, x < i → f x = false) (hhi : ∀ x, j ≤ x → x < n → f x = true) :
    searchLoop f fuel i j ≤ j ∧ (∀ x, x < searchLoop f fuel i j → f x = false) ∧
      (∀ x, searchLoop f fuel i j ≤ x → x < n → f x = true) := by
  fun_induction searchLoop f fuel i j
  case case1 => exact ⟨hij, hlo, Nat.le_antisymm hij hfuel ▸ hhi⟩  -- no fuel: then `i = j` by `hfuel`
  case case2 fuel i j hlt h hf ih =>
    have hh : i ≤ h ∧ h < j := by omega
    -- go right: `f h` is false, so by monotonicity `f` is false up to `h`
    refine ih hh.2 hjn (by omega) (fun x hx => ?_) hhi
    cases hfx : f x
    · rfl
    · rw [mono x h (Nat.le_of_lt_succ hx) (Nat.lt_of_lt_of_le hh.2 hjn) hfx] at hf; cases hf
  case case3 fuel i j hlt h hf ih =>
    have hh : i ≤ h ∧ h < j := by omega
    -- go left: `f h` is true, hence `f` is from `h` on
    have := ih hh.1 (Nat.le_trans (Nat.le_of_lt hh.2) hjn) (by omega) hlo
      fun x hx hxn => mono _ x hx hxn (by simpa using hf)
    exact ⟨Nat.le_trans this.1 (Nat.le_of_lt hh.2), this.2⟩
  case case4 hge => exact ⟨hij, hlo, Nat.le_antisymm hij (Nat.not_lt.1 hge) ▸ hhi⟩  -- the interval is empty

/-- `sort.Search(n, f)` returns the smallest index in `[0, n]` from which `f` is true (`n` if there
    is none), for every `f` that satisfies its precondition. -/
theorem search_spec (f : Nat → Bool) (n : Nat)
    (mono : ∀ a b, a ≤ b → b < n → f a = true → f b = true) :
    search n f ≤ n ∧ (∀ x, x < search n f → f x = false) ∧
      (∀ x, search n f ≤ x → x < n → f x = true) :=
  searchLoop_spec f n mono n 0 n (Nat.zero_le _) (Nat.le_refl _) (Nat.le_of_eq (Nat.zero_add _).symm) nofun
    fun _ hx hxn => absurd hxn (Nat.not_lt.2 hx)

/-- one round of the copy loop: `copy(dst, blob)` with `rem` bytes of room, then the rest of the
    request from what follows -/
theorem take_min_append {α : Type} (b rest : List α) (rem : Nat) :
    b.take (min rem b.length) ++ rest.take (rem - min rem b.length) = (b ++ rest).take rem := by
  rw [List.take_append]
  rcases Nat.le_total rem b.length with h | h
  · rw [Nat.min_eq_left h, Nat.sub_self, Nat.sub_eq_zero_of_le h]
  · rw [Nat.min_eq_right h, List.take_length, List.take_of_length_le h]

theorem copyLoop_zero {α : Type} (bs : List (List α)) (rem : Nat) (acc : List α) :
    copyLoop (bs.map some) 0 rem acc = .ok (acc ++ bs.flatten.take rem) := by
  induction bs generalizing rem acc with
  | nil => simp [copyLoop]
  | cons b bs ih =>
    rw [List.map_cons, copyLoop]
    by_cases hr : rem = 0
    · simp [hr]
    · rw [if_neg hr, if_neg (Nat.not_lt_zero _), if_neg (Nat.lt_irrefl 0), ih, List.append_assoc,
        take_min_append, List.flatten_cons]

theorem copyLoop_offset {α : Type} (bs : List (List α)) (offset rem : Nat)
    (h : ∀ b ∈ bs.head?, offset ≤ b.length) :
    copyLoop (bs.map some) offset rem [] = .ok ((bs.flatten.drop offset).take rem) := by
  cases bs with
  | nil => rw [List.map_nil, copyLoop, List.flatten_nil, List.drop_nil, List.take_nil]
  | cons b bs =>
    have h := h b rfl
    have hb : (if offset > 0 then b.drop offset else b) = b.drop offset := by
      split
      · rfl
      · next h0 => rw [Nat.eq_zero_of_not_pos h0, List.drop_zero]
    rw [List.map_cons, copyLoop]
    by_cases hr : rem = 0
    · simp [hr]
    · rw [if_neg hr, if_neg (Nat.not_lt.2 h)]
      rw [hb, copyLoop_zero, List.nil_append, take_min_append, List.flatten_cons, List.drop_append_of_le_length h]

theorem mkFile_sizes {α : Type} (blobs : List (List α)) :
    (mkFile blobs).map (·.1) = blobs.map List.length := by
  simp [mkFile, List.map_map, Function.comp_def]

theorem mkFile_blobs {α : Type} (blobs : List (List α)) : (mkFile blobs).map (·.2) = blobs.map some := by
  simp [mkFile, List.map_map, Function.comp_def]

theorem take_flatten_length_mono {α : Type} (blobs : List (List α)) {a b : Nat} (hab : a ≤ b) :
    (blobs.take a).flatten.length ≤ (blobs.take b).flatten.length := by
  obtain ⟨d, rfl⟩ := Nat.exists_eq_add_of_le hab
  rw [List.take_add, List.flatten_append, List.length_append]
  exact Nat.le_add_right _ _

/-- where `Read` starts: `sort.Search` over the prefix sums finds `s + 1` with blob `s` the one
    that holds byte `off` (`s` = number of blobs when `off` is past the end) -/
theorem search_cumsize {α : Type} (blobs : List (List α)) (off : Nat) :
    ∃ s, search (blobs.length + 1) (fun i => decide ((cumsize (blobs.map List.length)).getD i 0 > off)) = s + 1 ∧
      s ≤ blobs.length ∧ (blobs.take s).flatten.length ≤ off ∧
      (s < blobs.length → off < (blobs.take (s + 1)).flatten.length) := by
  -- from here on all that is used of the predicate is `hf`
  generalize hfd : (fun i => decide ((cumsize (blobs.map List.length)).getD i 0 > off)) = f
  have hf : ∀ i, i ≤ blobs.length → (f i = true ↔ off < (blobs.take i).flatten.length) := fun i hi => by
    subst hfd
    show decide ((cumsize (blobs.map List.length)).getD i 0 > off) = true ↔ _
    rw [List.getD_eq_getElem?_getD, cumsize_get blobs i hi, Option.getD_some, decide_eq_true_iff]
  obtain ⟨hle, hlo, hhi⟩ := search_spec f (blobs.length + 1) fun a b hab hb ha =>
    (hf b (Nat.le_of_lt_succ hb)).2 (Nat.lt_of_lt_of_le
      ((hf a (Nat.le_trans hab (Nat.le_of_lt_succ hb))).1 ha) (take_flatten_length_mono blobs hab))
  cases hsv : search (blobs.length + 1) f with
  | zero =>
    -- impossible: cumsize[0] = 0 ≤ off
    exact absurd ((hf 0 (Nat.zero_le _)).1 (hhi 0 (hsv ▸ Nat.le_refl _) (Nat.succ_pos _))) (Nat.not_lt_zero _)
  | succ s =>
    rw [hsv] at hle hlo hhi
    have hsl := Nat.le_of_succ_le_succ hle
    refine ⟨s, rfl, hsl, Nat.not_lt.1 fun h => ?_, fun hlt =>
      (hf (s + 1) hlt).1 (hhi (s + 1) (Nat.le_refl _) (Nat.succ_lt_succ hlt))⟩
    -- `f s` is true by `h` and false by `hlo`
    cases ((hf s hsl).2 h).symm.trans (hlo s (Nat.lt_succ_self s))

theorem drop_flatten_of_take_le {α : Type} {blobs : List (List α)} {s off : Nat}
    (hlo : (blobs.take s).flatten.length ≤ off) :
    blobs.flatten.drop off = (blobs.drop s).flatten.drop (off - (blobs.take s).flatten.length) := by
  conv => lhs; rw [← List.take_append_drop s blobs, List.flatten_append, List.drop_append,
    List.drop_eq_nil_of_le hlo, List.nil_append]

/-- The main step of `read_range`: the search lands in the blob `s` that holds byte `off`, the content is split
    at `s`, and the copy loop started there at the offset into that blob (`copyLoop_offset`) yields the range. -/
theorem readWith_range {α : Type} (blobs : List (List α)) (off n : Nat) :
    readWith (cumsize (blobs.map List.length)) (blobs.map some) off n =
      .ok ((blobs.flatten.drop off).take n) := by
  unfold readWith
  rw [show (cumsize (blobs.map List.length)).getLastD 0 = blobs.flatten.length by
    rw [cumsize, cumsizeFrom_getLastD, ← List.length_flatten, Nat.zero_add]]
  by_cases htot : blobs.flatten.length = 0
  · rw [if_pos htot, List.length_eq_zero_iff.mp htot, List.drop_nil, List.take_nil]
  · obtain ⟨s, hsv, hsl, hlo, hhi⟩ := search_cumsize blobs off
    rw [if_neg htot, show (cumsize (blobs.map List.length)).length = blobs.length + 1 by
      rw [cumsize, cumsizeFrom_length, List.length_map], hsv]
    dsimp only
    rw [cumsize_get blobs s hsl]
    dsimp only
    rw [← List.map_drop, copyLoop_offset]
    · rw [drop_flatten_of_take_le hlo]
    · intro b hb
      have hslt : s < blobs.length := by
        apply Nat.lt_of_not_le; intro hge; rw [List.drop_eq_nil_of_le hge] at hb; cases hb
      have := hhi hslt
      rw [List.take_add_one, List.flatten_append, List.length_append,
        show blobs[s]? = some b by rwa [List.head?_drop] at hb] at this
      simp only [Option.toList_some, List.flatten_cons, List.flatten_nil, List.append_nil] at this
      omega

/-- **C46, full strength.** For a file whose blobs all load and whose index sizes are the blob
    lengths, `Read(off, n)` returns exactly `content[off : off+n]` cut at the end of the file —
    for every layout (empty blobs included), every offset (also past the end), every size. -/
theorem read_range {α : Type} (blobs : List (List α)) (off n : Nat) :
    readAt (mkFile blobs) off n = .ok ((blobs.flatten.drop off).take n) := by
  rw [readAt, mkFile_sizes, mkFile_blobs, readWith_range]

/-- the transcription meets the executable reading of C46 -/
theorem read_spec {α : Type} [BEq α] [LawfulBEq α] (blobs : List (List α)) (off n : Nat) (out : List α)
    (h : readAt (mkFile blobs) off n = .ok out) : specOK blobs off n out = true := by
  rw [read_range] at h
  injection h with h
  simp [specOK, h]

theorem read_no_panic {α : Type} (blobs : List (List α)) (off n : Nat) :
    readAt (mkFile blobs) off n ≠ .panic ∧ readAt (mkFile blobs) off n ≠ .err := by
  rw [read_range]; exact ⟨fun h => (by cases h), fun h => (by cases h)⟩

theorem read_past_eof {α : Type} (blobs : List (List α)) (off n : Nat)
    (h : blobs.flatten.length ≤ off) : readAt (mkFile blobs) off n = .ok [] := by
  rw [read_range, List.drop_eq_nil_of_le h, List.take_nil]

theorem read_length {α : Type} (blobs : List (List α)) (off n : Nat) :
    ∃ out, readAt (mkFile blobs) off n = .ok out ∧ out.length = min n (blobs.flatten.length - off) :=
  ⟨_, read_range blobs off n, by simp⟩

/-- consecutive reads tile the file: reading `n` then `m` bytes equals reading `n+m` at once
    (what the kernel relies on when it splits a request) -/
theorem read_tiles {α : Type} (blobs : List (List α)) (off n m : Nat) :
    ∃ a b, readAt (mkFile blobs) off n = .ok a ∧ readAt (mkFile blobs) (off + n) m = .ok b ∧
      readAt (mkFile blobs) off (n + m) = .ok (a ++ b) := by
  refine ⟨_, _, read_range blobs off n, read_range blobs (off + n) m, ?_⟩
  rw [read_range]
  congr 1
  rw [← List.drop_drop, List.take_add]

/-- a negative `int64` offset is a huge `uint64`, so it is past the end of any file that fits -/
theorem negative_offset_past_eof {α : Type} (blobs : List (List α)) (o : Int) (n : Nat)
    (ho : o < 0) (hmin : -9223372036854775808 ≤ o) (hsz : blobs.flatten.length < 9223372036854775808) :
    readAt (mkFile blobs) (offsetOfInt o) n = .ok [] := by
  apply read_past_eof
  unfold offsetOfInt
  simp only [ho, if_true]
  omega

/-- the loop of `file.Open`, with its invariant: the table built so far ends in the running sum -/
theorem openLoop_ok (cancelAt : Option Nat) (i : Nat) (ss : List Nat) (bytes : Nat) (acc : List Nat)
    (hc : ∀ c, cancelAt = some c → i + ss.length ≤ c) :
    openLoop cancelAt i (ss.map some) bytes (acc ++ [bytes]) = .ok (acc ++ cumsizeFrom bytes ss) := by
  induction ss generalizing i bytes acc with
  | nil => rfl
  | cons s ss ih =>
    have hnc : cancelledAt cancelAt i = false := by
      cases hca : cancelAt with
      | none => rfl
      | some c =>
        exact decide_eq_false (Nat.not_le.2 (Nat.lt_of_lt_of_le (Nat.lt_add_of_pos_right (Nat.succ_pos _)) (hc c hca)))
    rw [List.map_cons, openLoop, hnc, if_neg Bool.false_ne_true,
      ih (i + 1) (bytes + s) (acc ++ [bytes]) fun c hca => Nat.add_right_comm i 1 _ ▸ hc c hca, List.append_assoc]
    rfl

/-- an Open that is not cancelled before its last check and finds every id builds exactly the
    prefix-sum table -/
theorem openNode_ok (ss : List Nat) (cancelAt : Option Nat) (hc : ∀ c, cancelAt = some c → ss.length ≤ c) :
    openNode (ss.map some) cancelAt = .ok (cumsize ss) :=
  openLoop_ok cancelAt 0 ss 0 [] fun c h => (Nat.zero_add _).symm ▸ hc c h

theorem openLoop_ok_inv (cancelAt : Option Nat) (i : Nat) (sizes : List (Option Nat)) (bytes : Nat)
    (acc cs : List Nat) (h : openLoop cancelAt i sizes bytes (acc ++ [bytes]) = .ok cs) :
    ∃ ss, sizes = ss.map some ∧ cs = acc ++ cumsizeFrom bytes ss := by
  induction sizes generalizing i bytes acc with
  | nil => cases h; exact ⟨[], rfl, rfl⟩
  | cons sz rest ih =>
    simp only [openLoop] at h
    split at h
    · cases h
    · cases sz with
      | none => cases h
      | some s =>
        obtain ⟨ss, h1, h2⟩ := ih _ _ _ h
        exact ⟨s :: ss, by rw [h1]; rfl, by rw [h2, List.append_assoc]; rfl⟩

/-- whatever the cancellation point: if Open returns a handle at all, every id was found and the
    handle's table is the complete prefix-sum table (never a partial one) -/
theorem openNode_ok_inv (sizes : List (Option Nat)) (cancelAt : Option Nat) (cs : List Nat)
    (h : openNode sizes cancelAt = .ok cs) : ∃ ss, sizes = ss.map some ∧ cs = cumsize ss :=
  openLoop_ok_inv cancelAt 0 sizes 0 [] cs h

/-- an Open whose context is already cancelled when it starts fails (for a non-empty file) -/
theorem openNode_precancelled (sizes : List (Option Nat)) (hne : sizes ≠ []) :
    openNode sizes (some 0) = .cancelled := by
  cases sizes with
  | nil => exact absurd rfl hne
  | cons a as => simp [openNode, openLoop, cancelledAt]

/-- the view an attempt has of the index is consistent with the file's blobs: an id is either not
    found or found with the length of its blob -/
def ViewOf {α : Type} : List (List α) → List (Option Nat) → Prop
  | [], [] => True
  | b :: bs, sz :: ss => (sz = none ∨ sz = some b.length) ∧ ViewOf bs ss
  | _, _ => False

theorem viewOf_all_some {α : Type} (blobs : List (List α)) (ss : List Nat)
    (h : ViewOf blobs (ss.map some)) : ss = blobs.map List.length := by
  induction blobs generalizing ss with
  | nil =>
    cases ss with
    | nil => rfl
    | cons a as => exact h.elim
  | cons b bs ih =>
    cases ss with
    | nil => exact h.elim
    | cons a as =>
      simp only [ViewOf, List.map_cons] at h
      rcases h.1 with h1 | h1
      · cases h1
      · injection h1 with h1
        simp only [List.map_cons, h1, ih as h.2]

/-- **re-open**. Take any sequence of Opens of the same node — cancelled before they start or at
    any point of the loop, failing because an id is not (yet) in the index, or succeeding. Every
    handle any of these attempts returns reads exactly the requested range, for every offset and
    size: earlier failed or interrupted Opens leave nothing behind. -/
theorem reopen_read_range {α : Type} (blobs : List (List α))
    (attempts : List (List (Option Nat) × Option Nat))
    (hview : ∀ a ∈ attempts, ViewOf blobs a.1)
    (cs : List Nat) (hcs : OpenRes.ok cs ∈ openSeq attempts) (off n : Nat) :
    readWith cs (blobs.map some) off n = .ok ((blobs.flatten.drop off).take n) := by
  simp only [openSeq, List.mem_map] at hcs
  obtain ⟨a, ha, hopen⟩ := hcs
  obtain ⟨ss, h1, h2⟩ := openNode_ok_inv a.1 a.2 cs hopen
  have hv := hview a ha
  rw [h1] at hv
  have hss := viewOf_all_some blobs ss hv
  rw [h2, hss, readWith_range]

example : readAt (mkFile [[1, 2, 3], [], [4, 5], [], [6]]) 2 3 = .ok [3, 4, 5] := by decide +kernel
example : readAt (mkFile [[], [], [1, 2, 3], []]) 3 2 = .ok ([] : List Nat) := by decide +kernel
example : readAt (mkFile [[1, 2, 3], [4]]) 3 5 = .ok [4] := by decide +kernel
example : readAt (mkFile ([[], []] : List (List Nat))) 0 5 = .ok [] := by decide +kernel
example : search 5 (fun i => decide ([0, 3, 3, 5, 5].getD i 0 > 3)) = 3 := by decide
/-- the transcription really distinguishes index size from blob length: a blob shorter than the
    index says makes `blob[offset:]` panic -/
example : readAt [(5, some [1, 2]), (1, some [9])] 4 1 = .panic := by decide +kernel

/-- interrupted at the third lookup, then re-opened: same table as a first Open -/
example : openSeq [([some 3, some 0, some 2], some 0), ([some 3, some 0, some 2], some 2),
    ([some 3, none, some 2], none), ([some 3, some 0, some 2], none), ([some 3, some 0, some 2], some 3)]
    = [.cancelled, .cancelled, .notFound, .ok [0, 3, 3, 5], .ok [0, 3, 3, 5]] := by decide +kernel

end Restic.Props.C46
