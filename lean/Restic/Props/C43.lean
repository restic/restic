import Restic.Model.StreamPack
import Restic.Gen.Consts
import Restic.Gen.Source
/-!
# C43 — Streaming blobs from a pack delivers each requested blob exactly once

Theorems about `Restic.Model.StreamPack` (transcription of `streamPack`, `streamPackPart` with the
verdict of `packBlobIterator.Next` as a parameter, `blobsInPack`, and the copy loop of `loadBlob`).
All statements hold for every list of requested blobs (any offsets, gaps, sizes), every
environment (which copies are damaged / invalid, which downloads fail, what the fallback loader
returns, for which blobs the caller's callback fails) and every `maxChunkSize`/`maxUnusedRange`.
-/
namespace Restic.Props.C43
open Restic.Model.StreamPack

theorem insertBlob_perm (b : Blob) (l : List Blob) : (insertBlob b l).Perm (b :: l) := by
  induction l with
  | nil => exact List.Perm.refl _
  | cons c cs ih =>
    simp only [insertBlob]
    split
    · exact List.Perm.refl _
    · exact (List.Perm.cons c ih).trans (List.Perm.swap b c cs)

theorem sortBlobs_perm (l : List Blob) : (sortBlobs l).Perm l := by
  induction l with
  | nil => exact List.Perm.refl _
  | cons b bs ih =>
    simp only [sortBlobs, List.foldr_cons]
    exact (insertBlob_perm b _).trans (List.Perm.cons b ih)

def Sorted (l : List Blob) : Prop := l.Pairwise (fun a b => a.off ≤ b.off)

theorem insertBlob_sorted (b : Blob) (l : List Blob) (h : Sorted l) : Sorted (insertBlob b l) := by
  induction l with
  | nil => exact List.pairwise_singleton ..
  | cons c cs ih =>
    obtain ⟨hc, hcs⟩ := List.pairwise_cons.1 h
    rw [insertBlob]
    by_cases hlt : b.off < c.off
    · rw [if_pos hlt]
      refine List.pairwise_cons.2 ⟨?_, h⟩
      rintro x (_ | ⟨_, hx⟩)
      · exact Nat.le_of_lt hlt
      · exact Nat.le_trans (Nat.le_of_lt hlt) (hc x hx)
    · rw [if_neg hlt]
      refine List.pairwise_cons.2 ⟨fun x hx => ?_, ih hcs⟩
      obtain _ | ⟨_, hx⟩ := (insertBlob_perm b cs).subset hx
      · exact Nat.not_lt.1 hlt
      · exact hc x hx

theorem sortBlobs_sorted (l : List Blob) : Sorted (sortBlobs l) := by
  induction l with
  | nil => exact .nil
  | cons b bs ih => exact insertBlob_sorted b _ ih

def GapsOK (mu : Nat) : List Blob → Prop
  | a :: b :: rest => a.off + a.len ≤ b.off ∧ b.off - (a.off + a.len) ≤ mu ∧ GapsOK mu (b :: rest)
  | _ => True

/-- the byte range a part downloads (`dataEnd - dataStart` of `streamPackPart`) -/
def span (p : List Blob) : Nat :=
  match p.head?, p.getLast? with
  | some f, some l => l.off + l.len - f.off
  | _, _ => 0

def PartOK (mc mu : Nat) (p : List Blob) : Prop :=
  p ≠ [] ∧ GapsOK mu p ∧ (2 ≤ p.length → span p < mc)

theorem gapsOK_append (mu : Nat) (p : List Blob) (b : Blob) :
    GapsOK mu (p ++ [b]) ↔
      GapsOK mu p ∧ ∀ l, p.getLast? = some l → l.off + l.len ≤ b.off ∧ b.off - (l.off + l.len) ≤ mu := by
  induction p with
  | nil => simp [GapsOK]
  | cons a as ih =>
    cases as with
    | nil => simp [GapsOK]
    | cons a' as' =>
      simp only [List.cons_append, GapsOK, List.getLast?_cons_cons, and_assoc]
      rw [← List.cons_append, ih]

/-- invariant of the loop: the current part is well-formed and `lastPos` is its end -/
def CurOK (mc mu : Nat) (cur : List Blob) (lastPos : Nat) : Prop :=
  cur = [] ∨ (GapsOK mu cur ∧ (2 ≤ cur.length → span cur < mc) ∧
    ∃ l, cur.getLast? = some l ∧ lastPos = l.off + l.len)

theorem curOK_single (mc mu : Nat) (b : Blob) : CurOK mc mu [b] (b.off + b.len) :=
  .inr ⟨trivial, fun h => absurd h (by simp), b, rfl, rfl⟩

theorem partOK_snoc {mc mu : Nat} {acc : List (List Blob)} {cur : List Blob} {lastPos : Nat}
    (hacc : ∀ p ∈ acc, PartOK mc mu p) (hcur : CurOK mc mu cur lastPos) (hne : cur ≠ []) :
    ∀ p ∈ acc ++ [cur], PartOK mc mu p := by
  simp only [List.mem_append, List.mem_singleton]
  rintro p (hp | rfl)
  · exact hacc p hp
  · exact hcur.elim (absurd · hne) fun ⟨hg, hs, _⟩ => ⟨hne, hg, hs⟩

theorem curOK_snoc {mc mu : Nat} {c : Blob} {tl : List Blob} {lastPos : Nat} (b : Blob)
    (h : CurOK mc mu (c :: tl) lastPos) (hle : lastPos ≤ b.off) (hmu : b.off - lastPos ≤ mu)
    (hmc : b.off + b.len - c.off < mc) : CurOK mc mu (c :: tl ++ [b]) (b.off + b.len) := by
  obtain h | ⟨hg, _, l, hl, rfl⟩ := h
  · cases h
  refine .inr ⟨(gapsOK_append ..).2 ⟨hg, fun l' hl' => ?_⟩, fun _ => ?_, b, List.getLast?_concat .., rfl⟩
  · obtain rfl : l = l' := Option.some.inj (hl.symm.trans hl')
    exact ⟨hle, hmu⟩
  · rw [span, List.getLast?_concat]; exact hmc

def NoOverlap : Nat → List Blob → Prop
  | _, [] => True
  | lastPos, b :: rest => lastPos ≤ b.off ∧ NoOverlap (b.off + b.len) rest

/-- The loop started on `bs` at `lastPos`, with `seen` already in a part (closed or open): `pre` is
    what it got through of `bs` — all of it on `.done` — and `rem` the open part that `.overlap` drops. -/
structure PartSpec (mc mu : Nat) (seen bs : List Blob) (lastPos : Nat) (parts : List (List Blob))
    (e : LoopEnd) (pre rem : List Blob) : Prop where
  noEmptyPart : e ≠ .emptyPart
  partsOK : ∀ p ∈ parts, PartOK mc mu p
  done_of_noOverlap : NoOverlap lastPos bs → e = .done
  flatten_eq : parts.flatten ++ rem = seen ++ pre
  pre_prefix : pre <+: bs
  pre_noOverlap : NoOverlap lastPos pre
  done_all : e = .done → rem = [] ∧ pre = bs

theorem PartSpec.cons {mc mu : Nat} {seen seen' rest : List Blob} {b : Blob} {lastPos : Nat}
    {parts : List (List Blob)} {e : LoopEnd} {pre rem : List Blob}
    (h : PartSpec mc mu seen' rest (b.off + b.len) parts e pre rem) (hseen : seen' = seen ++ [b])
    (hle : lastPos ≤ b.off) : PartSpec mc mu seen (b :: rest) lastPos parts e (b :: pre) rem :=
  { h with
    done_of_noOverlap := fun hno => h.done_of_noOverlap hno.2
    flatten_eq := by rw [h.flatten_eq, hseen, List.append_assoc]; rfl
    pre_prefix := List.cons_prefix_cons.2 ⟨rfl, h.pre_prefix⟩
    pre_noOverlap := ⟨hle, h.pre_noOverlap⟩
    done_all := fun hd => ⟨(h.done_all hd).1, congrArg _ (h.done_all hd).2⟩ }

/-- `hJ`: the current part is empty only while the loop stands on a blob at offset `lastPos` (the very
    first one), where the gap is 0 and the chunk test is not made: `.emptyPart` is unreachable. -/
theorem partLoop_spec (mc mu : Nat) (bs cur : List Blob) (lastPos : Nat) (acc parts : List (List Blob))
    (e : LoopEnd)
    (hJ : cur = [] → ∃ b rest, bs = b :: rest ∧ b.off = lastPos)
    (hcur : CurOK mc mu cur lastPos) (hacc : ∀ p ∈ acc, PartOK mc mu p)
    (h : partLoop mc mu bs cur lastPos acc = (parts, e)) :
    ∃ pre rem, PartSpec mc mu (acc.flatten ++ cur) bs lastPos parts e pre rem := by
  fun_induction partLoop mc mu bs cur lastPos acc
  case case1 cur _ acc =>  -- end of the list: the open part is closed
    cases h
    have hne : cur ≠ [] := fun hc => by obtain ⟨_, _, hb, _⟩ := hJ hc; cases hb
    exact ⟨[], [], {
      noEmptyPart := nofun
      partsOK := partOK_snoc hacc hcur hne
      done_of_noOverlap := fun _ => rfl
      flatten_eq := by simp
      pre_prefix := List.prefix_rfl
      pre_noOverlap := trivial
      done_all := fun _ => ⟨rfl, rfl⟩ }⟩
  case case2 b rest cur lastPos acc hlt =>  -- overlap: the open part is dropped
    cases h
    exact ⟨[], cur, {
      noEmptyPart := nofun
      partsOK := hacc
      done_of_noOverlap := fun hno => absurd hno.1 (Nat.not_le.2 hlt)
      flatten_eq := by simp
      pre_prefix := List.nil_prefix
      pre_noOverlap := trivial
      done_all := nofun }⟩
  case case3 hnlt start chunk split hsplit hemp =>  -- split with nothing open: excluded by `hJ`
    obtain ⟨_, _, hb, hoff⟩ := hJ (List.isEmpty_iff.1 hemp)
    cases hb
    simp [split, hemp, hoff] at hsplit
  case case4 b rest cur lastPos acc hnlt start chunk split hsplit hemp ih =>  -- split: `b` opens a new part
    have hne : cur ≠ [] := fun hc => hemp (List.isEmpty_iff.2 hc)
    obtain ⟨pre, rem, hs⟩ := ih nofun (curOK_single ..) (partOK_snoc hacc hcur hne) h
    exact ⟨b :: pre, rem, hs.cons (by simp) (Nat.not_lt.1 hnlt)⟩
  case case5 b rest cur lastPos acc hnlt start chunk split hsplit ih =>  -- `b` extends the open part
    have hcur' : CurOK mc mu (cur ++ [b]) (b.off + b.len) := by
      cases cur with
      | nil => exact curOK_single ..
      | cons c tl =>
        simp only [split, chunk, start, List.isEmpty_cons, Bool.not_false, Bool.true_and,
          Bool.or_eq_true, decide_eq_true_eq, not_or, Nat.not_le, Nat.not_lt] at hsplit
        exact curOK_snoc b hcur (Nat.not_lt.1 hnlt) hsplit.2 hsplit.1
    obtain ⟨pre, rem, hs⟩ := ih (by simp) hcur' hacc h
    exact ⟨b :: pre, rem, hs.cons (by simp) (Nat.not_lt.1 hnlt)⟩

theorem partition_eq (mc mu : Nat) {blobs : List Blob} (hne : blobs ≠ []) :
    ∃ b rest, sortBlobs blobs = b :: rest ∧
      partition mc mu blobs = partLoop mc mu (b :: rest) [] b.off [] := by
  unfold partition
  cases hs : sortBlobs blobs with
  | nil => exact absurd ((sortBlobs_perm blobs).symm.trans (hs ▸ .refl _)).eq_nil hne
  | cons b rest => exact ⟨b, rest, rfl, rfl⟩

theorem partition_spec (mc mu : Nat) {blobs : List Blob} (hne : blobs ≠ []) :
    ∃ b rest pre rem, sortBlobs blobs = b :: rest ∧
      PartSpec mc mu [] (b :: rest) b.off (partition mc mu blobs).1 (partition mc mu blobs).2 pre rem := by
  obtain ⟨b, rest, hs, hp⟩ := partition_eq mc mu hne
  obtain ⟨pre, rem, h⟩ := partLoop_spec mc mu (b :: rest) [] b.off [] _ _ (fun _ => ⟨b, rest, rfl, rfl⟩)
    (.inl rfl) nofun rfl
  exact ⟨b, rest, pre, rem, hs, hp ▸ h⟩

/-- **parts_partition** (+ **part_bounds**). For every non-empty request, the parts handed to
    `streamPackPart` are non-empty, their concatenation is a prefix of the sorted request — all of
    it when the loop ran to the end — and each part satisfies the bounds: consecutive blobs do not
    overlap and are at most `maxUnusedRange` apart; a part with more than one blob spans less than
    `maxChunkSize` bytes. -/
theorem parts_partition (mc mu : Nat) (blobs : List Blob) (hne : blobs ≠ []) :
    (partition mc mu blobs).2 ≠ .emptyPart ∧
    (∀ p ∈ (partition mc mu blobs).1, PartOK mc mu p) ∧
    ∃ rem, (partition mc mu blobs).1.flatten ++ rem = sortBlobs blobs ∧
      ((partition mc mu blobs).2 = .done → rem = []) := by
  obtain ⟨b, rest, pre, rem, hs, h⟩ := partition_spec mc mu hne
  obtain ⟨t, ht⟩ := h.pre_prefix
  refine ⟨h.noEmptyPart, h.partsOK, rem ++ t, by rw [← List.append_assoc, h.flatten_eq, hs]; exact ht,
    fun hd => ?_⟩
  rw [(h.done_all hd).1, List.nil_append]
  exact List.append_right_eq_self.1 (ht.trans (h.done_all hd).2.symm)

theorem mem_of_mem_parts {mc mu : Nat} {blobs : List Blob} (hne : blobs ≠ []) {x : Blob}
    (hx : x ∈ (partition mc mu blobs).1.flatten) : x ∈ blobs := by
  obtain ⟨_, _, rem, h, _⟩ := parts_partition mc mu blobs hne
  exact (sortBlobs_perm blobs).subset (h ▸ List.mem_append_left rem hx)

/-- if the requested blobs do not overlap, the loop runs to the end: every blob is in a part -/
theorem partition_complete (mc mu : Nat) (blobs : List Blob) (hne : blobs ≠ [])
    (hno : ∀ b rest, sortBlobs blobs = b :: rest → NoOverlap b.off (b :: rest)) :
    (partition mc mu blobs).2 = .done ∧ (partition mc mu blobs).1.flatten = sortBlobs blobs := by
  obtain ⟨b, rest, pre, rem, hs, h⟩ := partition_spec mc mu hne
  have hd := h.done_of_noOverlap (hno b rest hs)
  have h4 := h.flatten_eq
  rw [(h.done_all hd).1, List.append_nil, (h.done_all hd).2, List.nil_append, ← hs] at h4
  exact ⟨hd, h4⟩

def ids (l : List Blob) : List Nat := l.map (·.id)
def cbIds (log : List CB) : List Nat := log.map CB.id

/-- why a callback was made: it is for a requested blob, a plaintext comes from the verified
    copy in this pack or from the fallback loader, an error means the fallback could not deliver.
    `∃ n, env.dl n = false` is weaker than "the download of this blob's part failed": any download. -/
def Justified (env : Env) (blobs : List Blob) (c : CB) : Prop :=
  ∃ e ∈ blobs, c.id = e.id ∧
    match c with
    | .ok _ p => env.copy e = .good p ∨
        ((∃ f, env.fallback = some f ∧ f e.id = some p) ∧ (env.copy e = .damaged ∨ ∃ n, env.dl n = false))
    | .err _ => recoverable env e.id = false ∧ (env.copy e = .damaged ∨ ∃ n, env.dl n = false)

theorem justified_mono {env : Env} {a b : List Blob} (h : ∀ x ∈ a, x ∈ b) {c : CB} :
    Justified env a c → Justified env b c :=
  fun ⟨e, he, h12⟩ => ⟨e, h e he, h12⟩

/-- what a loop adds to the log: justified callbacks for a prefix of `part`, for all of it on `ok` -/
def Adds (env : Env) (part : List Blob) (log log' : List CB) (out : Outcome) : Prop :=
  ∃ new, log' = log ++ new ∧ (∃ t, cbIds new ++ t = ids part) ∧
    (out = .ok → cbIds new = ids part) ∧ ∀ c ∈ new, Justified env part c

theorem adds_nil {env : Env} {log : List CB} {out : Outcome} : Adds env [] log log out :=
  ⟨[], (List.append_nil _).symm, ⟨[], rfl⟩, fun _ => rfl, nofun⟩

theorem adds_none {env : Env} {part : List Blob} {log : List CB} {out : Outcome} (hout : out ≠ .ok) :
    Adds env part log log out :=
  ⟨[], (List.append_nil _).symm, ⟨_, rfl⟩, (absurd · hout), nofun⟩

theorem adds_cons {env : Env} {e : Blob} {rest : List Blob} {log log' : List CB} {out : Outcome} {cb : CB}
    (hj : cb.id = e.id ∧ Justified env (e :: rest) cb)
    (h : Adds env rest (log ++ [cb]) log' out) : Adds env (e :: rest) log log' out := by
  obtain ⟨new, rfl, ⟨t, h2⟩, h3, h4⟩ := h
  refine ⟨cb :: new, by simp, ⟨t, ?_⟩, fun ho => ?_, ?_⟩
  · simp only [cbIds, ids, List.map_cons, List.cons_append, hj.1] at h2 ⊢; rw [h2]
  · simp only [cbIds, ids, List.map_cons, hj.1] at h3 ⊢; rw [h3 ho]
  · rintro c (_ | ⟨_, hc⟩)
    · exact hj.2
    · exact justified_mono (fun _ => List.mem_cons_of_mem _) (h4 c hc)

theorem adds_append {env : Env} {p q : List Blob} {log log₁ log₂ : List CB} {out : Outcome}
    (h₁ : Adds env p log log₁ .ok) (h₂ : Adds env q log₁ log₂ out) : Adds env (p ++ q) log log₂ out := by
  obtain ⟨n₁, rfl, -, a₁, j₁⟩ := h₁
  obtain ⟨n₂, rfl, ⟨t, a₂⟩, b₂, j₂⟩ := h₂
  have a₁ := a₁ rfl
  refine ⟨n₁ ++ n₂, List.append_assoc .., ⟨t, ?_⟩, fun ho => ?_, fun c hc => ?_⟩
  · simp only [cbIds, ids, List.map_append, List.append_assoc] at a₁ a₂ ⊢; rw [a₁, a₂]
  · simp only [cbIds, ids, List.map_append] at a₁ b₂ ⊢; rw [a₁, b₂ ho]
  · exact (List.mem_append.1 hc).elim
      (fun hc => justified_mono (fun _ => List.mem_append_left q) (j₁ c hc))
      (fun hc => justified_mono (fun _ => List.mem_append_right p) (j₂ c hc))

theorem adds_left {env : Env} {p : List Blob} (q : List Blob) {log log' : List CB} {out : Outcome}
    (h : Adds env p log log' out) (hout : out ≠ .ok) : Adds env (p ++ q) log log' out := by
  obtain ⟨new, rfl, ⟨t, a⟩, -, j⟩ := h
  refine ⟨new, rfl, ⟨t ++ ids q, ?_⟩, (absurd · hout),
    fun c hc => justified_mono (fun _ => List.mem_append_left q) (j c hc)⟩
  simp only [ids, List.map_append, ← List.append_assoc] at a ⊢; rw [a]

def fallbackCB (fb : Option (Nat → Option Nat)) (id : Nat) : CB :=
  match fb with
  | some f => (match f id with | some p => .ok id p | none => .err id)
  | none => .err id

theorem justified_fallbackCB {env : Env} {e : Blob} {part : List Blob} (he : e ∈ part)
    (hwhy : env.copy e = .damaged ∨ ∃ n, env.dl n = false) :
    (fallbackCB env.fallback e.id).id = e.id ∧ Justified env part (fallbackCB env.fallback e.id) := by
  unfold fallbackCB
  cases hfb : env.fallback with
  | none => exact ⟨rfl, e, he, rfl, And.intro (by simp [recoverable, hfb]) hwhy⟩
  | some f =>
    dsimp only
    cases hfe : f e.id with
    | some p => exact ⟨rfl, e, he, rfl, Or.inr ⟨⟨f, hfb, hfe⟩, hwhy⟩⟩
    | none => exact ⟨rfl, e, he, rfl, And.intro (by simp [recoverable, hfb, hfe]) hwhy⟩

theorem fallbackLoop_adds (env : Env) (f : Nat → Option Nat) (hf : env.fallback = some f)
    (hdl : ∃ n, env.dl n = false) (part : List Blob) (log : List CB) :
    Adds env part log (fallbackLoop f env.cbFails part log).1 (fallbackLoop f env.cbFails part log).2 ∧
      (fallbackLoop f env.cbFails part log).2 ≠ .panic := by
  fun_induction fallbackLoop f env.cbFails part log
  case case1 => exact ⟨adds_nil, nofun⟩
  case case2 e rest log _ _ =>  -- the callback fails
    have hj := justified_fallbackCB (part := e :: rest) List.mem_cons_self (.inr hdl)
    rw [hf] at hj
    exact ⟨adds_cons hj (adds_none nofun), nofun⟩
  case case3 e rest log _ _ ih =>
    have hj := justified_fallbackCB (part := e :: rest) List.mem_cons_self (.inr hdl)
    rw [hf] at hj
    exact ⟨adds_cons hj ih.1, ih.2⟩

theorem iterLoop_adds (env : Env) (part : List Blob) (log : List CB) :
    Adds env part log (iterLoop env part log).1 (iterLoop env part log).2 ∧ (iterLoop env part log).2 ≠ .panic := by
  fun_induction iterLoop env part log
  case case1 => exact ⟨adds_nil, nofun⟩
  case case2 => exact ⟨adds_none nofun, nofun⟩  -- `.invalid`
  case case3 e rest log p hcopy _ =>  -- `.good`, the callback fails
    exact ⟨adds_cons ⟨rfl, e, List.mem_cons_self, rfl, Or.inl hcopy⟩ (adds_none nofun), nofun⟩
  case case4 e rest log p hcopy _ ih =>  -- `.good`
    exact ⟨adds_cons ⟨rfl, e, List.mem_cons_self, rfl, Or.inl hcopy⟩ ih.1, ih.2⟩
  -- `.damaged` (the callback fails / goes on): the model's `cb` is `fallbackCB env.fallback e.id` unfolded
  case case5 e rest log hcopy _ _ =>
    exact ⟨adds_cons (justified_fallbackCB List.mem_cons_self (.inl hcopy)) (adds_none nofun), nofun⟩
  case case6 e rest log hcopy _ _ ih =>
    exact ⟨adds_cons (justified_fallbackCB List.mem_cons_self (.inl hcopy)) ih.1, ih.2⟩

/-- `streamPackPart` indexes `blobs[0]`: the only panic is an empty part -/
theorem streamPart_adds (env : Env) (n : Nat) (part : List Blob) (log : List CB) :
    Adds env part log (streamPart env n part log).1 (streamPart env n part log).2 ∧
      (part ≠ [] → (streamPart env n part log).2 ≠ .panic) := by
  cases part with
  | nil => exact ⟨adds_nil, (absurd rfl ·)⟩
  | cons e rest =>
    cases hdl : env.dl n with
    | true => simp only [streamPart, hdl, if_true]; exact (iterLoop_adds ..).imp_right fun h _ => h
    | false =>
      cases hf : env.fallback with
      | none => simp only [streamPart, hdl, hf]; exact ⟨adds_none nofun, nofun⟩
      | some f =>
        simp only [streamPart, hdl, hf]
        exact (fallbackLoop_adds env f hf ⟨n, hdl⟩ ..).imp_right fun h _ => h

/-- all parts: the callbacks are, in order, for a prefix of the blobs of the parts — for all of
    them when the outcome is `ok` — and no slice expression panics as long as no part is empty -/
theorem streamParts_adds (env : Env) (n : Nat) (parts : List (List Blob)) (log : List CB) :
    Adds env parts.flatten log (streamParts env n parts log).1 (streamParts env n parts log).2 ∧
      ((∀ p ∈ parts, p ≠ []) → (streamParts env n parts log).2 ≠ .panic) := by
  fun_induction streamParts env n parts log
  case case1 => exact ⟨adds_nil, nofun⟩
  case case2 n p ps log log' hp ih =>  -- the part is `ok`
    have h := (streamPart_adds env n p log).1
    rw [hp] at h
    exact ⟨adds_append h ih.1, fun hne => ih.2 fun q hq => hne q (List.mem_cons_of_mem _ hq)⟩
  case case3 n p ps log hr =>  -- the part stops the stream
    have h := streamPart_adds env n p log
    exact ⟨adds_left _ h.1 fun ho => hr _ (Prod.ext rfl ho), fun hne => h.2 (hne _ List.mem_cons_self)⟩

theorem streamPack_cases (mc mu : Nat) (env : Env) {blobs : List Blob} (hne : blobs ≠ []) :
    (streamPack mc mu env blobs).1 = (streamParts env 0 (partition mc mu blobs).1 []).1 ∧
    ((streamPack mc mu env blobs).2 = .ok →
      (streamParts env 0 (partition mc mu blobs).1 []).2 = .ok ∧ (partition mc mu blobs).2 = .done) ∧
    ((streamPack mc mu env blobs).2 = .panic →
      (streamParts env 0 (partition mc mu blobs).1 []).2 = .panic ∨ (partition mc mu blobs).2 = .emptyPart) := by
  unfold streamPack
  rw [if_neg (by simpa using hne)]
  dsimp only
  generalize streamParts env 0 (partition mc mu blobs).1 [] = r
  obtain ⟨log, out⟩ := r
  cases out with
  | ok =>
    -- all parts went through: how the loop ended decides
    cases (partition mc mu blobs).2 with
    | done => exact ⟨rfl, fun _ => ⟨rfl, rfl⟩, nofun⟩
    | overlap => exact ⟨rfl, nofun, nofun⟩
    | emptyPart => exact ⟨rfl, nofun, fun _ => .inr rfl⟩
  | _ => exact ⟨rfl, nofun, .inl⟩   -- a part stopped: its outcome is the result

/-- `streamPack` as a whole: callbacks in offset order for a prefix of the sorted request — all of it
    on `ok` — each justified, and no slice expression or index panics. -/
theorem streamPack_adds (mc mu : Nat) (env : Env) (blobs : List Blob) :
    (∃ t, cbIds (streamPack mc mu env blobs).1 ++ t = ids (sortBlobs blobs)) ∧
    ((streamPack mc mu env blobs).2 = .ok → cbIds (streamPack mc mu env blobs).1 = ids (sortBlobs blobs)) ∧
    (∀ c ∈ (streamPack mc mu env blobs).1, Justified env blobs c) ∧
    (streamPack mc mu env blobs).2 ≠ .panic := by
  by_cases hne : blobs = []
  · subst hne
    exact ⟨⟨[], rfl⟩, fun _ => rfl, nofun, nofun⟩
  obtain ⟨hp1, hp2, rem, hp3, hp4⟩ := parts_partition mc mu blobs hne
  obtain ⟨⟨new, g1, ⟨t, g2⟩, g3, g4⟩, g5⟩ := streamParts_adds env 0 (partition mc mu blobs).1 []
  obtain ⟨hlog, hok, hpanic⟩ := streamPack_cases mc mu env hne
  rw [hlog, g1, List.nil_append, ← hp3]
  refine ⟨⟨t ++ ids rem, ?_⟩, fun ho => ?_, fun c hc => justified_mono (fun _ => mem_of_mem_parts hne) (g4 c hc),
    fun hp => (hpanic hp).elim (g5 fun p hp => (hp2 p hp).1) hp1⟩
  · simp only [ids, List.map_append, ← List.append_assoc] at g2 ⊢; rw [g2]
  · rw [hp4 (hok ho).2, List.append_nil, g3 (hok ho).1]

theorem countId_eq_count (id : Nat) (log : List CB) : countId id log = (cbIds log).count id := by
  rw [countId, cbIds, List.count, List.countP_eq_length_filter, List.filter_map, List.length_map]
  rfl

/-- **callback_once**. For a request of distinct blobs, whatever is damaged, whichever downloads
    fail and whatever the callback returns: only requested blobs are called back, each at most
    once; and if `streamPack` returns no error, every requested blob was called back exactly once. -/
theorem callback_once (mc mu : Nat) (env : Env) (blobs : List Blob) (hnd : (ids blobs).Nodup) :
    (∀ c ∈ (streamPack mc mu env blobs).1, c.id ∈ ids blobs) ∧
    (∀ id, countId id (streamPack mc mu env blobs).1 ≤ 1) ∧
    ((streamPack mc mu env blobs).2 = .ok → ∀ id ∈ ids blobs, countId id (streamPack mc mu env blobs).1 = 1) := by
  obtain ⟨⟨t, h1⟩, h2, h3, _⟩ := streamPack_adds mc mu env blobs
  have hperm : (ids (sortBlobs blobs)).Perm (ids blobs) := (sortBlobs_perm blobs).map _
  have hnds : (ids (sortBlobs blobs)).Nodup := hperm.nodup_iff.mpr hnd
  have hndl : (cbIds (streamPack mc mu env blobs).1).Nodup :=
    hnds.sublist (List.IsPrefix.sublist ⟨t, h1⟩)
  refine ⟨?_, ?_, ?_⟩
  · intro c hc
    obtain ⟨e, he, hid, _⟩ := h3 c hc
    rw [hid]; exact List.mem_map_of_mem he
  · intro id
    rw [countId_eq_count]
    exact List.nodup_iff_count.mp hndl id
  · intro hok id hid
    rw [countId_eq_count, h2 hok, hperm.count_eq, hnd.count]
    simp [hid]

/-- **payload_sound** (with DESIGN's `fallback_used`). A plaintext handed to the callback is the verified
    content of the blob's copy in this pack (hash checked by `packBlobIterator`, C02) or what the
    fallback loader (`LoadBlob`, verified the same way) returned for that id. An *error* is handed
    to the callback only for a blob whose copy here is damaged (or whose download failed) **and**
    for which the fallback could not deliver an intact copy. -/
theorem payload_sound (mc mu : Nat) (env : Env) (blobs : List Blob) :
    (∀ id p, CB.ok id p ∈ (streamPack mc mu env blobs).1 →
      ∃ e ∈ blobs, e.id = id ∧ (env.copy e = .good p ∨ ∃ f, env.fallback = some f ∧ f id = some p)) ∧
    (∀ id, CB.err id ∈ (streamPack mc mu env blobs).1 →
      recoverable env id = false ∧ ∃ e ∈ blobs, e.id = id ∧ (env.copy e = .damaged ∨ ∃ n, env.dl n = false)) := by
  obtain ⟨_, _, h3, _⟩ := streamPack_adds mc mu env blobs
  constructor
  · intro id p hc
    obtain ⟨e, he, rfl, hj⟩ := h3 _ hc
    exact ⟨e, he, rfl, hj.imp id (fun h => h.1)⟩
  · intro id hc
    obtain ⟨e, he, rfl, hj⟩ := h3 _ hc
    exact ⟨hj.1, e, he, rfl, hj.2⟩

/-- if all copies are intact and all downloads succeed, every callback made carries the plaintext of
    its blob, and none reports an error -/
theorem all_good (mc mu : Nat) (env : Env) (blobs : List Blob) (content : Nat → Nat)
    (hgood : ∀ b ∈ blobs, env.copy b = .good (content b.id)) (hdl : ∀ n, env.dl n = true)
    (c : CB) (hc : c ∈ (streamPack mc mu env blobs).1) : c = .ok c.id (content c.id) := by
  obtain ⟨_, _, h3, _⟩ := streamPack_adds mc mu env blobs
  obtain ⟨e, he, hid, hj⟩ := h3 c hc
  have hwhy : ¬ (env.copy e = .damaged ∨ ∃ n, env.dl n = false) := by
    rintro (h | ⟨n, h⟩)
    · rw [hgood e he] at h; cases h
    · rw [hdl n] at h; cases h
  cases c with
  | ok id p =>
    obtain rfl : id = e.id := hid
    obtain hj | ⟨_, h⟩ := hj
    · rw [hgood e he] at hj; cases hj; rfl
    · exact absurd h hwhy
  | err id => exact absurd hj.2 hwhy

theorem noOverlap_prefix (p : Nat) (l1 l2 : List Blob) (h : NoOverlap p (l1 ++ l2)) : NoOverlap p l1 := by
  induction l1 generalizing p with
  | nil => trivial
  | cons a as ih => exact ⟨h.1, ih _ h.2⟩

theorem noOverlap_strict (p : Nat) (l : List Blob) (h : NoOverlap p l) (hlen : ∀ b ∈ l, 0 < b.len) :
    l.Pairwise (fun a b => a.off < b.off) ∧ ∀ b ∈ l, p ≤ b.off := by
  induction l generalizing p with
  | nil => exact ⟨.nil, nofun⟩
  | cons a as ih =>
    have ⟨h1, h2⟩ := ih (a.off + a.len) h.2 fun b hb => hlen b (List.mem_cons_of_mem _ hb)
    have ha := hlen a List.mem_cons_self
    have hp := h.1
    refine ⟨List.pairwise_cons.2 ⟨fun x hx => by have := h2 x hx; omega, h1⟩, ?_⟩
    rintro b (_ | ⟨_, hb⟩)
    · exact hp
    · have := h2 b hb; omega

/-- **callback_at_most_once** (also with duplicate handles). If every requested entry has a positive length
    (real blobs have ≥ 32 bytes) and equal ids mean the same entry (what `blobsInPack` produces when
    a handle is passed several times), no id is called back twice — the request runs into the
    overlap error before a blob could be streamed a second time. -/
theorem callback_at_most_once (mc mu : Nat) (env : Env) (blobs : List Blob)
    (hlen : ∀ b ∈ blobs, 0 < b.len) (hsame : ∀ a ∈ blobs, ∀ b ∈ blobs, a.id = b.id → a = b) :
    ∀ id, countId id (streamPack mc mu env blobs).1 ≤ 1 := by
  intro id
  by_cases hne : blobs = []
  · subst hne; exact Nat.zero_le 1
  obtain ⟨new, g1, hpre, -, -⟩ := (streamParts_adds env 0 (partition mc mu blobs).1 []).1
  have hmem := fun x => mem_of_mem_parts (mc := mc) (mu := mu) hne (x := x)
  -- everything handed to `streamPackPart`, taken together, is free of overlaps
  obtain ⟨b, rest, pre, rem, -, h⟩ := partition_spec mc mu hne
  have hstrict := (noOverlap_strict b.off _ (noOverlap_prefix b.off _ rem (h.flatten_eq ▸ h.pre_noOverlap))
    fun b hb => hlen b (hmem b hb)).1
  -- strictly increasing offsets and "equal ids mean the same entry" give distinct ids
  have hnd : (ids (partition mc mu blobs).1.flatten).Nodup :=
    List.pairwise_map.2 <| hstrict.imp_of_mem fun ha hb hlt heq =>
      Nat.lt_irrefl _ (hsame _ (hmem _ ha) _ (hmem _ hb) heq ▸ hlt)
  rw [countId_eq_count, (streamPack_cases mc mu env hne).1, g1, List.nil_append]
  exact List.nodup_iff_count.1 (hnd.sublist (List.IsPrefix.sublist hpre)) id

/-- the transcription meets the executable reading of C43 (`specOK`), with "an intact copy is
    reachable" read as "the fallback loader can deliver it" -/
theorem streamPack_spec (mc mu : Nat) (env : Env) (blobs : List Blob) (hnd : (ids blobs).Nodup) :
    specOK (ids blobs) (recoverable env) true (streamPack mc mu env blobs).1
      ((streamPack mc mu env blobs).2 == .ok) = true := by
  obtain ⟨h1, h2, h3⟩ := callback_once mc mu env blobs hnd
  have hp := (payload_sound mc mu env blobs).2
  simp only [specOK, Bool.and_eq_true, List.all_eq_true, Bool.or_eq_true, Bool.not_eq_true',
    decide_eq_true_eq, Bool.and_true, List.contains_iff_mem]
  refine ⟨⟨⟨h1, fun id _ => h2 id⟩, ?_⟩, ?_⟩
  · by_cases hok : (streamPack mc mu env blobs).2 = .ok
    · right
      intro id hid
      simp [h3 hok id hid]
    · left
      simpa using hok
  · intro c hc
    cases c with
    | ok id p => rfl
    | err id => simp [(hp id hc).1]

/-- `LoadBlobsFromPack`: a handle that is not in the pack fails the call before any callback;
    otherwise it is `streamPack` on the index entries of the handles -/
theorem loadBlobsFromPack_spec (mc mu : Nat) (env : Env) (inPack : Nat → Option Blob) (handles : List Nat) :
    ((∃ h ∈ handles, inPack h = none) → loadBlobsFromPack mc mu env inPack handles = ([], .notInPack)) ∧
    (∀ blobs, handles.mapM inPack = some blobs →
      loadBlobsFromPack mc mu env inPack handles = streamPack mc mu env blobs) := by
  unfold loadBlobsFromPack
  constructor
  · rintro ⟨h, hh, hn⟩
    have : handles.mapM inPack = none := by
      induction handles with
      | nil => cases hh
      | cons a as ih =>
        rw [List.mapM_cons]
        obtain _ | ⟨_, hh⟩ := hh
        · rw [hn]; rfl
        · rw [ih hh]; cases inPack a <;> rfl
    rw [this]
  · intro blobs hb
    rw [hb]

def Copy.plain : Copy → Option Nat
  | .good p => some p
  | _ => none

theorem plain_eq_some {c : Copy} {p : Nat} : Copy.plain c = some p ↔ c = .good p := by
  cases c <;> simp [Copy.plain]

theorem plain_eq_none {c : Copy} : Copy.plain c = none ↔ ∀ q, c ≠ .good q := by
  cases c <;> simp [Copy.plain]

theorem loadBlobCopies_eq_findSome? (cs : List Copy) :
    loadBlobCopies cs = cs.findSome? Copy.plain := by
  induction cs with
  | nil => rfl
  | cons c cs ih => cases c <;> simp [loadBlobCopies, List.findSome?_cons, Copy.plain, ih]

/-- the copy loop of `loadBlob` (fallback across packs): it returns the plaintext of the first
    intact copy, and fails only if no copy is intact -/
theorem loadBlobCopies_spec (cs : List Copy) :
    (∀ p, loadBlobCopies cs = some p ↔
      ∃ pre rest, cs = pre ++ Copy.good p :: rest ∧ ∀ c ∈ pre, ∀ q, c ≠ Copy.good q) ∧
    (loadBlobCopies cs = none ↔ ∀ c ∈ cs, ∀ q, c ≠ Copy.good q) := by
  rw [loadBlobCopies_eq_findSome?]
  refine ⟨fun p => ?_, by simp only [List.findSome?_eq_none_iff, plain_eq_none]⟩
  simp only [List.findSome?_eq_some_iff, plain_eq_some, plain_eq_none]
  exact ⟨fun ⟨pre, _, rest, h, hc, hpre⟩ => ⟨pre, rest, hc ▸ h, hpre⟩,
    fun ⟨pre, rest, h, hpre⟩ => ⟨pre, _, rest, h, rfl, hpre⟩⟩

/-- `loadBlobSized` re-slices the buffer to each copy's length before comparing (the `switch` of
    `loadBlob`): the test always passes, and `loadBlob` delivers the first intact copy -/
theorem loadBlobSized_eq (cs : List StoredCopy) (bufLen : Nat) :
    loadBlobSized cs bufLen = loadBlobCopies (cs.map (·.state)) := by
  induction cs generalizing bufLen with
  | nil => rfl
  | cons c rest ih =>
    cases hst : c.state with
    | good p => simp [loadBlobSized, loadBlobCopies, hst]
    | damaged => simp [loadBlobSized, loadBlobCopies, hst, ih]
    | invalid => simp [loadBlobSized, loadBlobCopies, hst, ih]

/-- **loadBlob_finds_intact** (fallback across packs): `LoadBlob` fails only if no stored copy is intact -/
theorem loadBlob_finds_intact (cs : List StoredCopy) (bufLen : Nat) (c : StoredCopy) (p : Nat)
    (hc : c ∈ cs) (hg : c.state = .good p) : ∃ q, loadBlobSized cs bufLen = some q := by
  rw [loadBlobSized_eq]
  cases h : loadBlobCopies (cs.map (·.state)) with
  | some q => exact ⟨q, rfl⟩
  | none => exact absurd hg ((loadBlobCopies_spec _).2.mp h c.state (List.mem_map_of_mem hc) p)


/-- `maxChunkSize` is the function-local constant `2 * DefaultPackSize`; its agreement with this
    expression is checked by the correspondence run (download ranges around the limit). -/
def maxChunkSize : Nat := 2 * Restic.Gen.repo_DefaultPackSize

/-- **part_bounds** with the constants of the current source: every download made by
    `streamPackPart` covers blobs at most `maxUnusedRange` apart, and covers less than
    `maxChunkSize` bytes unless it is for a single blob. -/
theorem part_bounds (blobs : List Blob) (hne : blobs ≠ []) :
    ∀ p ∈ (partition maxChunkSize Restic.Gen.repo_maxUnusedRange blobs).1,
      p ≠ [] ∧ GapsOK Restic.Gen.repo_maxUnusedRange p ∧ (2 ≤ p.length → span p < maxChunkSize) :=
  (parts_partition _ _ blobs hne).2.1

/-- the limits are meaningful: skipping a gap is only considered below the chunk limit -/
theorem limits_sane : 0 < Restic.Gen.repo_maxUnusedRange ∧ Restic.Gen.repo_maxUnusedRange < maxChunkSize := by
  decide

/-- T1: in `streamPack` the blobs are sorted before any part is streamed, and the overlap error is
    still raised; `streamPackPart` still downloads before it iterates and still has both fallback
    calls; `LoadBlobsFromPack` resolves the handles (`blobsInPack`) before streaming. -/
theorem call_order :
    Restic.Gen.streamPack_calls.idxOf "blobs.Sort" < Restic.Gen.streamPack_calls.idxOf "streamPackPart" ∧
    "errors.Errorf" ∈ Restic.Gen.streamPack_calls ∧
    Restic.Gen.streamPackPart_calls.idxOf "beLoad" < Restic.Gen.streamPackPart_calls.idxOf "it.Next" ∧
    Restic.Gen.streamPackPart_calls.count "loadBlobFn" = 2 ∧
    Restic.Gen.streamPackPart_calls.count "handleBlobFn" = 2 ∧
    Restic.Gen.LoadBlobsFromPack_calls = ["r.blobsInPack", "r.loadBlobsFromPack"] := by decide +kernel

private def b (id off len : Nat) : Blob := ⟨id, off, len⟩
private def envAllGood : Env := { copy := fun e => .good (e.id * 10), dl := fun _ => true, fallback := none, cbFails := fun _ => false }

/-- a gap larger than `mu` and a chunk limit both split; the request is given unsorted -/
example : partition 100 10 [b 3 60 50, b 1 0 20, b 2 25 30, b 4 200 5, b 5 206 98, b 6 304 1] =
    ([[b 1 0 20, b 2 25 30], [b 3 60 50], [b 4 200 5], [b 5 206 98, b 6 304 1]], .done) := by decide +kernel
/-- a single blob larger than the chunk limit is its own part -/
example : partition 100 10 [b 1 0 500, b 2 500 10] = ([[b 1 0 500], [b 2 500 10]], .done) := by decide +kernel
/-- overlapping request (the same blob twice): error, nothing streamed -/
example : (streamPack 100 10 envAllGood [b 1 0 20, b 2 30 5, b 1 0 20]) = ([], .overlap) := by decide +kernel
example : (streamPack 100 10 envAllGood [b 2 30 5, b 1 0 20]) = ([.ok 1 10, .ok 2 20], .ok) := by decide +kernel
/-- damaged copy + fallback delivers; failed download of the second part + fallback that fails -/
example : (streamPack 100 10
    { copy := fun e => if e.id = 1 then .damaged else .good 7, dl := fun n => n == 0,
      fallback := some (fun id => if id = 1 then some 11 else none), cbFails := fun _ => false }
    [b 1 0 20, b 2 20 20, b 3 500 20]) = ([.ok 1 11, .ok 2 7, .err 3], .ok) := by decide +kernel
example : loadBlobCopies [.damaged, .invalid, .good 5, .good 6] = some 5 := by decide +kernel
/-- a short damaged copy first, a longer intact copy second -/
example : loadBlobSized [⟨60, .damaged⟩, ⟨400, .good 5⟩] 0 = some 5 := by decide +kernel

end Restic.Props.C43
