import Restic.Model.Cache
/-!
# C38 — The local cache never changes what restic reads

Theorems about `Restic.Model.Cache`, for **every** cache cell content (absent, stale, truncated,
bit-flipped, anything), every repository content, every interference of other processes at the
interleaving points (`Advs`), every file kind and every hash function.
-/
namespace Restic.Props.C38
open Restic.Model.Cache

def Collision {ID : Type} (hash : Bytes → ID) : Prop := ∃ a b : Bytes, a ≠ b ∧ hash a = hash b

/-- nobody interferes and the wrapped backend does not fail -/
def noAdv : Advs := {}

theorem applyAdv_be (a : Adv) (s : S) : (applyAdv a s).be = s.be := by cases a <;> rfl

theorem cbLoad_be (k : Kind) (l o : Nat) (a1 a2 : Adv) (s : S) (f : Faults) :
    (cbLoad k l o a1 a2 s f).1.be = s.be := by
  unfold cbLoad; grind [applyAdv_be]

theorem forget_be (k : Kind) (s : S) : (forget k s).be = s.be := by
  unfold forget; grind

theorem readCell_ok {c : Bytes} {l o : Nat} {b : Bytes} (h : readCell c l o = .ok b) : b = slice c l o := by
  unfold readCell at h; grind

theorem readCell_whole (c : Bytes) : readCell c 0 0 = .ok c := by simp [readCell, slice]

theorem cbLoad_hit {k : Kind} (hk : k ≠ .notCacheable) (l o : Nat) (a1 a2 : Adv) (be : Option Bytes) (c : Bytes)
    (fg : Bool) (f : Faults) :
    cbLoad k l o a1 a2 ⟨be, some c, fg⟩ f = (⟨be, some c, fg⟩, readCell c l o) := by
  simp [cbLoad, hk]

theorem beLoad_ok {be : Option Bytes} {l o : Nat} {f : Fault} {b : Bytes} (h : beLoad be l o f = .ok b) :
    ∃ d, be = some d ∧ b = slice d l o := by
  unfold beLoad at h; grind

theorem cellOK_iff (s : S) : cellOK s = true ↔ (s.cell = none ∨ s.cell = s.be) := by
  unfold cellOK; simp

/-- The four paths of `cacheBackend.Load` with nobody interfering: a hit; straight to the backend (not
    cacheable, or a miss of a kind not auto-cached); a failed download, nothing stored; a download, then
    a read of the new cell. -/
theorem cbLoad_quiet (k : Kind) (l o : Nat) (s : S) (f : Faults) :
    (∃ c, s.cell = some c ∧ cbLoad k l o none none s f = (s, readCell c l o)) ∨
    cbLoad k l o none none s f = (s, beLoad s.be l o f.be) ∨
    (s.cell = none ∧ ∃ e, cbLoad k l o none none s f = (s, .err e)) ∨
    (s.cell = none ∧ ∃ d, s.be = some d ∧ cbLoad k l o none none s f = ({ s with cell := some d }, readCell d l o)) := by
  obtain ⟨be, cell, fg⟩ := s
  obtain ⟨dl, fb⟩ := f
  cases k with
  | notCacheable => exact .inr (.inl rfl)
  | cacheable =>
    cases cell with
    | none => exact .inr (.inl rfl)
    | some c => exact .inl ⟨_, rfl, rfl⟩
  | autoCached =>
    cases cell with
    | some c => exact .inl ⟨_, rfl, rfl⟩
    | none =>
      cases be with
      | none => cases dl <;> exact .inr (.inr (.inl ⟨rfl, _, rfl⟩))
      | some d =>
        cases dl with
        | none => exact .inr (.inr (.inr ⟨rfl, _, rfl, rfl⟩))
        | failBefore | late => exact .inr (.inr (.inl ⟨rfl, _, rfl⟩))

/-- **cb_load_sound**: one `cacheBackend.Load` with nobody else writing to the cache directory, under
    every fault of the wrapped backend — failure before the body, or a body cut short with a clean
    EOF whose error is reported only after the consumer (`Cache.save`) returned nil: a cell absent
    or equal to the repository's file stays so, and a result without error is exactly the requested
    range of the repository's file. -/
theorem cb_load_sound (k : Kind) (length offset : Nat) (s : S) (f : Faults) (h : cellOK s = true) :
    cellOK (cbLoad k length offset none none s f).1 = true ∧
    (cbLoad k length offset none none s f).1.be = s.be ∧
    ∀ b, (cbLoad k length offset none none s f).2 = .ok b → ∃ d, s.be = some d ∧ b = slice d length offset := by
  rw [cellOK_iff] at h ⊢
  rcases cbLoad_quiet k length offset s f with ⟨c, hc, e⟩ | e | ⟨_, _, e⟩ | ⟨_, d, hd, e⟩ <;> rw [e]
  · -- served from the cell, which holds the repository's file
    refine ⟨h, rfl, fun b hb => ⟨c, ?_, readCell_ok hb⟩⟩
    rw [hc] at h; exact (h.resolve_left nofun).symm
  · exact ⟨h, rfl, fun b => beLoad_ok⟩
  · exact ⟨h, rfl, nofun⟩
  · exact ⟨.inr hd.symm, rfl, fun b hb => ⟨d, hd, readCell_ok hb⟩⟩

/-- a history of loads on one handle (ranges and backend faults), nobody else writing to the cache
    directory -/
def cbRun (k : Kind) : S → List (Nat × Nat × Faults) → S
  | s, [] => s
  | s, (l, o, f) :: rest => cbRun k (cbLoad k l o none none s f).1 rest

/-- **cb_history_sound**: `cb_load_sound` along a whole history — the cell stays absent or equal to
    the repository's file, which does not change -/
theorem cb_history_sound (k : Kind) (hist : List (Nat × Nat × Faults)) :
    ∀ s : S, cellOK s = true → cellOK (cbRun k s hist) = true ∧ (cbRun k s hist).be = s.be := by
  induction hist with
  | nil => intro s h; exact ⟨h, rfl⟩
  | cons x xs ih =>
    intro s h
    obtain ⟨l, o, f⟩ := x
    obtain ⟨h1, h2, _⟩ := cb_load_sound k l o s f h
    obtain ⟨h3, h4⟩ := ih _ h1
    exact ⟨h3, by rw [← h2]; exact h4⟩

theorem cb_specOK (k : Kind) (length offset : Nat) (s : S) (f : Faults) :
    cbSpecViolation length offset s (cbLoad k length offset none none s f).2
      (cbLoad k length offset none none s f).1.cell = none := by
  unfold cbSpecViolation
  cases hok : cellOK s with
  | false => rfl
  | true =>
    obtain ⟨h1, h2, h3⟩ := cb_load_sound k length offset s f hok
    rw [cellOK, h2] at h1
    simp only [h1, if_true]
    cases hr : (cbLoad k length offset none none s f).2 with
    | ok b =>
      obtain ⟨d, hd, hb⟩ := h3 b hr
      simp [hd, hb]
    | err e => rfl
    | errWithData e b => rfl

/-- **cached_load_sound** (LoadRaw): whatever the cache contains and whatever other processes do to
    it during the load, bytes returned without error hash to the requested id. (The config file is
    exempt from the hash comparison in the code; it is authenticated by decryption.) -/
theorem cached_load_sound {ID : Type} [DecidableEq ID] (hash : Bytes → ID) (id : ID) (k : Kind)
    (adv : Advs) (s : S) (b : Bytes)
    (h : (loadRaw hash id k false adv s).2 = .ok b) : hash b = id := by
  unfold loadRaw at h
  simp only at h
  -- nothing about the two loads is used: `ok` leaves `LoadRaw` only behind a passed hash comparison
  generalize cbLoad k 0 0 adv.a1 adv.a2 s adv.f1 = t1 at h
  generalize cbLoad k 0 0 adv.a3 adv.a4 (forget k t1.1) adv.f2 = t2 at h
  grind [bufOf]

theorem cached_load_same {ID : Type} [DecidableEq ID] (hash : Bytes → ID) (id : ID) (k : Kind)
    (adv : Advs) (s : S) (b d : Bytes) (hd : hash d = id)
    (h : (loadRaw hash id k false adv s).2 = .ok b) : b = d ∨ Collision hash := by
  have hb := cached_load_sound hash id k adv s b h
  by_cases hbd : b = d
  · exact Or.inl hbd
  · exact Or.inr ⟨b, d, hbd, by rw [hb, hd]⟩

theorem cached_load_same_as_repo {ID : Type} [DecidableEq ID] (hash : Bytes → ID) (id : ID) (k : Kind)
    (adv : Advs) (s : S) (b d : Bytes) (hbe : s.be = some d) (hd : hash d = id)
    (h : (loadRaw hash id k false adv s).2 = .ok b) : b = d ∨ Collision hash :=
  cached_load_same hash id k adv s b d hd h

/-- **cached_blob_sound** (LoadBlob, one pack): a blob returned without error passed the
    verification (decrypt + content address compare of C02), whatever the cache contained. -/
theorem cached_blob_sound (verify : Bytes → Bool) (k : Kind) (length offset : Nat) (adv : Advs) (s : S) (b : Bytes)
    (h : (loadBlob1 verify k length offset adv s).2 = .ok b) : verify b = true := by
  unfold loadBlob1 at h
  simp only at h
  -- as for `LoadRaw`: both tries are arbitrary, `ok` is returned only where `verify` said yes
  generalize cbLoad k length offset adv.a1 adv.a2 s adv.f1 = t1 at h
  generalize cbLoad k length offset adv.a3 adv.a4 (forget k t1.1) adv.f2 = t2 at h
  grind

/-- the state `LoadRaw` leaves is that of its last `cacheBackend.Load` -/
theorem loadRaw_state {ID : Type} [DecidableEq ID] (hash : Bytes → ID) (id : ID) (k : Kind) (cfg : Bool)
    (adv : Advs) (s : S) :
    let r1 := cbLoad k 0 0 adv.a1 adv.a2 s adv.f1
    (loadRaw hash id k cfg adv s).1 =
      if !cfg && decide (hash (bufOf r1.2) ≠ id) then (cbLoad k 0 0 adv.a3 adv.a4 (forget k r1.1) adv.f2).1
      else r1.1 := by
  unfold loadRaw
  simp only
  split
  · split <;> (try split) <;> rfl
  · split <;> rfl

theorem loadRaw_be_unchanged {ID : Type} [DecidableEq ID] (hash : Bytes → ID) (id : ID) (k : Kind) (cfg : Bool)
    (adv : Advs) (s : S) : (loadRaw hash id k cfg adv s).1.be = s.be := by
  rw [loadRaw_state]
  split <;> simp only [cbLoad_be, forget_be]

theorem loadRaw_first {ID : Type} [DecidableEq ID] {hash : Bytes → ID} {id : ID} {k : Kind} {adv : Advs}
    {s s' : S} {b : Bytes} (h1 : cbLoad k 0 0 adv.a1 adv.a2 s adv.f1 = (s', .ok b)) (hb : hash b = id) :
    loadRaw hash id k false adv s = (s', .ok b) := by
  simp [loadRaw, h1, bufOf, hb]

/-- **corrupt_replaced_auto** (auto-cached kinds: index, snapshot, tree packs): a cell that does not
    match the id, first mismatch in this run, nobody interfering, is removed and re-downloaded; with
    a healthy repository file the load returns the repository's bytes and the cell then holds them. -/
theorem corrupt_replaced_auto {ID : Type} [DecidableEq ID] (hash : Bytes → ID) (id : ID)
    (c d : Bytes) (hc : hash c ≠ id) (hd : hash d = id) :
    loadRaw hash id .autoCached false noAdv { be := some d, cell := some c, forgotten := false }
      = ({ be := some d, cell := some d, forgotten := true }, .ok d) := by
  simp [loadRaw, cbLoad, readCell, slice, bufOf, forget, applyAdv, noAdv, hc, hd]

/-- the file was deleted from the repository: the stale cell is dropped, the load fails -/
theorem corrupt_replaced_auto_deleted {ID : Type} [DecidableEq ID] (hash : Bytes → ID) (id : ID)
    (c : Bytes) (hc : hash c ≠ id) :
    loadRaw hash id .autoCached false noAdv { be := none, cell := some c, forgotten := false }
      = ({ be := none, cell := none, forgotten := true }, .err .backendNotExist) := by
  simp [loadRaw, cbLoad, readCell, slice, bufOf, forget, applyAdv, noAdv, hc]

/-- cacheable but not auto-cached (data packs): the corrupt cell is dropped, the second read goes
    to the repository -/
theorem corrupt_replaced_cacheable {ID : Type} [DecidableEq ID] (hash : Bytes → ID) (id : ID)
    (c d : Bytes) (hc : hash c ≠ id) (hd : hash d = id) :
    loadRaw hash id .cacheable false noAdv { be := some d, cell := some c, forgotten := false }
      = ({ be := some d, cell := none, forgotten := true }, .ok d) := by
  simp [loadRaw, cbLoad, readCell, slice, bufOf, forget, beLoad, hc, hd, noAdv]

/-- **corrupt_replaced**: for every cacheable kind and every repository state, after the first
    mismatch the cell is absent or holds the repository's bytes -/
theorem corrupt_replaced {ID : Type} [DecidableEq ID] (hash : Bytes → ID) (id : ID) (k : Kind)
    (hk : k ≠ .notCacheable) (be : Option Bytes) (c : Bytes) (hc : hash c ≠ id) :
    let r := loadRaw hash id k false noAdv { be := be, cell := some c, forgotten := false }
    r.1.cell = none ∨ r.1.cell = be := by
  intro r
  -- the served cell does not verify and is forgotten: what is left is one load from a state without a cell
  have hs : r.1 = (cbLoad k 0 0 none none { be := be, cell := none, forgotten := true } {}).1 := by
    simp [r, loadRaw_state, noAdv, cbLoad_hit hk, readCell_whole, bufOf, hc, forget, hk]
  obtain ⟨hok, hbe, _⟩ := cb_load_sound k 0 0 { be := be, cell := none, forgotten := true } {} rfl
  rw [← hs] at hok hbe
  rwa [cellOK_iff, hbe] at hok

/-- both loads serve the cell, so no interference point is reached -/
theorem forget_once_adv {ID : Type} [DecidableEq ID] (hash : Bytes → ID) (id : ID) (k : Kind)
    (hk : k ≠ .notCacheable) (be : Option Bytes) (c : Bytes) (hc : hash c ≠ id) (adv : Advs) :
    loadRaw hash id k false adv { be := be, cell := some c, forgotten := true }
      = ({ be := be, cell := some c, forgotten := true }, .errWithData .invalidData c) := by
  simp [loadRaw, cbLoad_hit hk, readCell_whole, bufOf, forget, hc]

/-- **forget_once**: the circuit breaker of `Forget` — a second corruption of the same file in
    one run is not repaired, but it is *reported*: the result is an error carrying the bytes,
    never `ok`. -/
theorem forget_once {ID : Type} [DecidableEq ID] (hash : Bytes → ID) (id : ID) (k : Kind)
    (hk : k ≠ .notCacheable) (be : Option Bytes) (c : Bytes) (hc : hash c ≠ id) :
    loadRaw hash id k false noAdv { be := be, cell := some c, forgotten := true }
      = ({ be := be, cell := some c, forgotten := true }, .errWithData .invalidData c) :=
  forget_once_adv hash id k hk be c hc noAdv

/-- a healthy cache entry is served without touching the repository or the cell -/
theorem healthy_hit {ID : Type} [DecidableEq ID] (hash : Bytes → ID) (id : ID) (k : Kind)
    (hk : k ≠ .notCacheable) (be : Option Bytes) (c : Bytes) (f : Bool) (hc : hash c = id) (adv : Advs) :
    loadRaw hash id k false adv { be := be, cell := some c, forgotten := f }
      = ({ be := be, cell := some c, forgotten := f }, .ok c) :=
  loadRaw_first (by rw [cbLoad_hit hk, readCell_whole]) hc

theorem not_cacheable_ignores_cache {ID : Type} [DecidableEq ID] (hash : Bytes → ID) (id : ID)
    (d : Bytes) (cell : Option Bytes) (f : Bool) (hd : hash d = id) (adv : Advs) (hf : adv.f1.be = .none) :
    loadRaw hash id .notCacheable false adv { be := some d, cell := cell, forgotten := f }
      = ({ be := some d, cell := cell, forgotten := f }, .ok d) :=
  loadRaw_first (by simp [cbLoad, beLoad, slice, hf]) hd


theorem miss_healthy {ID : Type} [DecidableEq ID] (hash : Bytes → ID) (id : ID) (k : Kind) (d : Bytes)
    (f : Bool) (hd : hash d = id) :
    (loadRaw hash id k false noAdv { be := some d, cell := none, forgotten := f }).2 = .ok d := by
  cases k <;> simp [loadRaw, cbLoad, readCell, beLoad, slice, bufOf, applyAdv, noAdv, hd]

theorem healthy_file_loaded {ID : Type} [DecidableEq ID] (hash : Bytes → ID) (id : ID) (k : Kind)
    (d : Bytes) (cell : Option Bytes) (hd : hash d = id) :
    ∃ b, (loadRaw hash id k false noAdv { be := some d, cell := cell, forgotten := false }).2 = .ok b := by
  by_cases hk : k = .notCacheable
  · subst hk; exact ⟨d, by rw [not_cacheable_ignores_cache hash id d cell false hd noAdv rfl]⟩
  rcases cell with _ | c
  · exact ⟨d, miss_healthy hash id k d false hd⟩
  by_cases hc : hash c = id
  · exact ⟨c, by rw [healthy_hit hash id k hk (some d) c false hc]⟩
  · cases k with
    | notCacheable => exact absurd rfl hk
    | cacheable => exact ⟨d, by rw [corrupt_replaced_cacheable hash id c d hc hd]⟩
    | autoCached => exact ⟨d, by rw [corrupt_replaced_auto hash id c d hc hd]⟩

/-- the three clauses of `specViolation` without interference, as propositions -/
theorem specOK_of (good : Bytes → Bool) (k : Kind) (s : S) (res : Res) (cellAfter : Option Bytes)
    (h1 : ∀ b, res = .ok b → good b = true ∧ ∀ d, s.be = some d → good d = true → d = b)
    (h2 : ∀ c, s.cell = some c → good c = false → k ≠ .notCacheable → s.forgotten = false →
      cellAfter = none ∨ cellAfter = s.be)
    (h3 : ∀ d, s.be = some d → good d = true → s.forgotten = false → ∃ b, res = .ok b) :
    specOK good k false s res cellAfter = true := by
  simp only [specOK, specViolation, Option.isNone_iff_eq_none, Option.orElse_eq_orElse,
    Option.orElse_eq_or, Option.or_eq_none_iff]
  exact ⟨by clear h2 h3; grind, by clear h1 h3; grind, by clear h1 h2; grind⟩

/-- **loadRaw_specOK** (transcription ⇒ statement): without interference the result of `loadRaw`
    satisfies `specOK` read with `good b := hash b = id` — unless the hash function collides (the
    only way a verified result can differ from the repository's bytes). -/
theorem loadRaw_specOK {ID : Type} [DecidableEq ID] (hash : Bytes → ID) (id : ID) (k : Kind) (s : S) :
    specOK (fun b => decide (hash b = id)) k false s (loadRaw hash id k false noAdv s).2
      (loadRaw hash id k false noAdv s).1.cell = true ∨ Collision hash := by
  by_cases hcol : Collision hash
  · exact .inr hcol
  -- clause by clause: soundness, `corrupt_replaced`, `healthy_file_loaded`
  refine .inl (specOK_of _ k s _ _ (fun b hb => ?_) (fun c hc hg hk hf => ?_) fun d hd hg hf => ?_)
  · refine ⟨decide_eq_true (cached_load_sound hash id k noAdv s b hb), fun d hbe hd => ?_⟩
    exact ((cached_load_same_as_repo hash id k noAdv s b d hbe (of_decide_eq_true hd) hb).resolve_right hcol).symm
  · obtain ⟨be, cell, f⟩ := s
    cases hc; cases hf
    exact corrupt_replaced hash id k hk be c (of_decide_eq_false hg)
  · obtain ⟨be, cell, f⟩ := s
    cases hd; cases hf
    exact healthy_file_loaded hash id k d cell (of_decide_eq_true hg)


def toyHash (b : Bytes) : Nat := (b.headD 0).toNat

/-- stale cell, healthy repository file: repaired -/
example : loadRaw toyHash 7 .autoCached false noAdv { be := some [7, 1, 2], cell := some [9, 9], forgotten := false }
    = ({ be := some [7, 1, 2], cell := some [7, 1, 2], forgotten := true }, .ok [7, 1, 2]) := by decide +kernel

/-- another process deletes the cell right after the download: falls back to the repository -/
example : (loadRaw toyHash 7 .autoCached false { a2 := some none } { be := some [7, 1], cell := none, forgotten := false }).2
    = .ok [7, 1] := by decide +kernel

/-- another process plants garbage right after the download: detected, forgotten, re-downloaded -/
example : (loadRaw toyHash 7 .autoCached false { a2 := some (some [3]) } { be := some [7, 1], cell := none, forgotten := false })
    = ({ be := some [7, 1], cell := some [7, 1], forgotten := true }, .ok [7, 1]) := by decide +kernel

/-- second corruption in the same run: error with the data, not ok -/
example : (loadRaw toyHash 7 .autoCached false noAdv { be := some [7, 1], cell := some [3], forgotten := true }).2
    = .errWithData .invalidData [3] := by decide +kernel

/-- a download whose error arrives after the consumer stored a truncated body: the entry is
    removed again, the load fails -/
example : cbLoad .autoCached 0 0 none none { be := some [7, 1, 2], cell := none, forgotten := false } { dl := .late 1 }
    = ({ be := some [7, 1, 2], cell := none, forgotten := false }, .err .backendFail) := by decide +kernel

/-- LoadBlob range read from a truncated cached pack: "too short", forget, re-download, verified -/
example : (loadBlob1 (fun b => b == [5, 6]) .autoCached 2 1 noAdv { be := some [4, 5, 6], cell := some [4, 5], forgotten := false })
    = ({ be := some [4, 5, 6], cell := some [4, 5, 6], forgotten := true }, .ok [5, 6]) := by decide +kernel

end Restic.Props.C38
