import Restic.Props.C11
/-!
# C14 — Readers never see a snapshot whose data is not yet indexed

Statement (properties.jsonl): with any number of concurrent non-exclusive writers, a reading command never
fails because a snapshot it listed references blobs missing from the index it loaded. Writers persist packs
before the index entries naming them, and index entries before the snapshots that use them.

Formal reading. All writers' backend operations, in the one global order in which the backend executed
them, form a trace `g`; every operation passes its guard in the *global* state reached so far
(`accept_global`; by `interleave_accepted` any interleaving of per-writer traces that are each accepted from
the initial repository is such). No exclusive lock holder runs, so nothing is removed. A reader lists the
snapshot files at time `t1` (after `t1` operations of `g`) and lists + loads the index files at time `t2`.
-/
namespace Restic.Props.C14
open Restic.Model.RepoTrace Restic.Proofs.RepoTrace

/-- the loaded index (index files `ixs`, as listed at `t2`) names a pack for `h` that exists in `r` -/
def indexedBy (ixs : List (Nat × List IndexEntry)) (r : Repo) (h : Handle) : Bool :=
  ixs.any fun ix => ix.2.any fun e => e.2.any fun b => b.h == h && packHas r e.1 b

theorem indexed_eq_indexedBy (r : Repo) (h : Handle) : indexed r h = indexedBy r.indexes r h := rfl

theorem indexedBy_iff {ixs : List (Nat × List IndexEntry)} {r : Repo} {h : Handle} :
    indexedBy ixs r h = true ↔ ∃ ix ∈ ixs, ∃ e ∈ ix.2, ∃ b ∈ e.2, b.h = h ∧ packHas r e.1 b = true := by
  simp only [indexedBy, List.any_eq_true, Bool.and_eq_true, beq_iff_eq]

theorem indexedBy_mono {ixs : List (Nat × List IndexEntry)} {r r' : Repo} (hs : SubPI r r') {h : Handle}
    (hx : indexedBy ixs r h = true) : indexedBy ixs r' h = true := by
  rw [indexedBy_iff] at *
  obtain ⟨ix, hix, e, he, b, hb, hbh, hp⟩ := hx
  exact ⟨ix, hix, e, he, b, hb, hbh, packHas_mono hs hp⟩

/-- C14: for every interleaving of guarded writer operations, a reader that lists snapshots at `t1` and
    loads the index at `t2 ≥ t1` finds every blob of every listed snapshot in the loaded index, and the
    pack named there exists from `t2` on (`t3 ≥ t2`: when the blob is fetched). -/
theorem reader_sees_indexed (r0 : Repo) (g : List Ev) (hacc : accept_global r0 g = true)
    (hc : checkOK r0 = true) (t1 t2 t3 : Nat) (h12 : t1 ≤ t2) (h23 : t2 ≤ t3) :
    ∀ x ∈ (applyAll r0 (g.take t1)).snaps, ∀ h ∈ x.2.needs,
      indexedBy (applyAll r0 (g.take t2)).indexes (applyAll r0 (g.take t3)) h = true := by
  intro x hx h hh
  have hadds : acceptAdds r0 g = true := hacc
  -- the state at `t1` passes the check, so `h` is indexed there; states only grow afterwards
  have hc1 := (acceptAdds_safe (acceptAdds_guarded.take hadds t1)).2 hc
  have h1 := restorable_iff.mp ((checkOK_iff.mp hc1).2 x hx) h hh
  have h2 := indexed_mono (acceptAdds_take_sub hadds h12).toSubPI h1
  exact indexedBy_mono (acceptAdds_take_sub hadds h23).toSubPI (indexed_eq_indexedBy _ h ▸ h2)

/-- `t1 ≤ t2` is needed: loading the index first and listing snapshots afterwards can show a snapshot
    whose tree is in no loaded index file (writer finished in between) -/
theorem order_needed : ∃ (r0 : Repo) (g : List Ev) (t1 t2 : Nat),
    accept_global r0 g = true ∧ checkOK r0 = true ∧ t2 < t1 ∧
    ∃ x ∈ (applyAll r0 (g.take t1)).snaps, ∃ h ∈ x.2.needs,
      indexedBy (applyAll r0 (g.take t2)).indexes (applyAll r0 (g.take t1)) h = false := by
  refine ⟨Repo.empty,
    [.savePack 1 [⟨1, 5, 0, 10⟩], .saveIndex 2 [(1, [⟨1, 5, 0, 10⟩])],
     .saveSnap 3 { key := 0, tree := 5, orig := none, needs := [(1, 5)] }], 3, 1, ?_, ?_, ?_, ?_⟩
  · decide
  · decide
  · decide
  · exact ⟨(3, { key := 0, tree := 5, orig := none, needs := [(1, 5)] }), by decide, (1, 5), by decide, by decide⟩

/-- what the other writers add in between does not invalidate a writer's guards -/
theorem acceptAdds_mono {a b : Repo} (h : SubPI a b) {tr : List Ev} (ha : acceptAdds a tr = true) :
    acceptAdds b tr = true :=
  List.map_id tr ▸ (acceptAdds_guarded.sim acceptAdds_guarded SubPI id
    (fun _ _ e hR hg => ⟨addGuard_mono hR hg, apply_subPI_mono hR e⟩) h ha).1

def proj (p : Nat) (g : List (Nat × Ev)) : List Ev := (g.filter (fun x => x.1 == p)).map (·.2)

theorem proj_cons_self (p : Nat) (e : Ev) (g : List (Nat × Ev)) : proj p ((p, e) :: g) = e :: proj p g := by
  simp only [proj, List.filter_cons, beq_self_eq_true, if_true, List.map_cons]

theorem proj_cons_ne {p q : Nat} (h : q ≠ p) (e : Ev) (g : List (Nat × Ev)) : proj q ((p, e) :: g) = proj q g := by
  simp only [proj, List.filter_cons, beq_iff_eq, Ne.symm h, if_false]

/-- any number of writers: if each writer's own operation sequence is accepted from the initial
    repository, every interleaving of them is accepted globally -/
theorem interleave_accepted (r0 : Repo) (g : List (Nat × Ev))
    (h : ∀ p, acceptAdds r0 (proj p g) = true) : accept_global r0 (g.map (·.2)) = true := by
  induction g generalizing r0 with
  | nil => rfl
  | cons x g ih =>
    obtain ⟨p, e⟩ := x
    have hp := h p
    rw [proj_cons_self, acceptAdds_guarded.cons_iff] at hp
    refine acceptAdds_guarded.cons_iff.mpr ⟨hp.1, ih _ fun q => ?_⟩
    by_cases hq : q = p
    · exact hq ▸ hp.2
    · -- the other writers' remaining operations stay accepted in the larger state
      exact acceptAdds_mono (addGuard_sub hp.1).toSubPI (proj_cons_ne hq e g ▸ h q)

/-! ### T1: every reader lists snapshots before it loads the index -/

structure ReaderCmd where
  name : String
  calls : List String
  lister : String
  loader : String

def firstIdx (l : List String) (c : String) : Nat := l.idxOf c
def lastIdx (l : List String) (c : String) : Nat := l.length - 1 - l.reverse.idxOf c

/-- first lister before first loader and last lister before last loader: `cat` has two such pairs -/
def orderOK (c : ReaderCmd) : Bool :=
  c.calls.contains c.lister && c.calls.contains c.loader &&
  decide (firstIdx c.calls c.lister < firstIdx c.calls c.loader) &&
  decide (lastIdx c.calls c.lister < lastIdx c.calls c.loader)

def readerCommands : List ReaderCmd := [
  ⟨"restore", Restic.Gen.runRestore_calls, "opts.SnapshotFilter.FindLatest", "repo.LoadIndex"⟩,
  ⟨"dump", Restic.Gen.runDump_calls, "opts.SnapshotFilter.FindLatest", "repo.LoadIndex"⟩,
  ⟨"ls", Restic.Gen.runLs_calls, "restic.MemorizeList", "repo.LoadIndex"⟩,
  ⟨"find", Restic.Gen.runFind_calls, "restic.MemorizeList", "repo.LoadIndex"⟩,
  ⟨"diff", Restic.Gen.runDiff_calls, "restic.MemorizeList", "repo.LoadIndex"⟩,
  ⟨"copy", Restic.Gen.runCopy_calls, "restic.MemorizeList", "srcRepo.LoadIndex"⟩,
  ⟨"check", Restic.Gen.runCheck_calls, "chkr.LoadSnapshots", "chkr.LoadIndex"⟩,
  ⟨"stats", Restic.Gen.runStats_calls, "restic.MemorizeList", "repo.LoadIndex"⟩,
  ⟨"rewrite", Restic.Gen.runRewrite_calls, "restic.MemorizeList", "repo.LoadIndex"⟩,
  ⟨"cat", Restic.Gen.runCat_calls, "data.FindSnapshot", "repo.LoadIndex"⟩,
  ⟨"list", Restic.Gen.packfileList_calls, "?.FindLatest", "repo.LoadIndex"⟩,
  ⟨"recover", Restic.Gen.runRecover_calls, "restic.MemorizeList", "repo.LoadIndex"⟩,
  ⟨"repair snapshots", Restic.Gen.runRepairSnapshots_calls, "restic.MemorizeList", "repo.LoadIndex"⟩,
  ⟨"backup (parent)", Restic.Gen.runBackup_calls, "findParentSnapshot", "repo.LoadIndex"⟩,
  ⟨"mount (fuse snapshots dir)", Restic.Gen.fuse_updateSnapshots_calls, "d.root.cfg.Filter.FindAll", "d.root.repo.LoadIndex"⟩]

theorem reader_order : readerCommands.all orderOK = true := by decide +kernel

/-- the writer side of the statement, from the regenerated facts of C11: pack saved before its index entry
    is stored, packs flushed before the index, index flushed before the snapshot -/
theorem writer_order :
    Restic.Gen.savePacker_calls.idxOf "r.be.Save" < Restic.Gen.savePacker_calls.idxOf "r.idx.StorePack" ∧
    "r.idx.StorePack" ∈ Restic.Gen.savePacker_calls ∧
    Restic.Gen.Repository_flush_calls = ["r.flushBlobSaver", "r.flushPackUploader", "r.idx.Flush"] ∧
    Restic.Gen.Archiver_Snapshot_calls.idxOf "arch.Repo.WithBlobUploader"
      < Restic.Gen.Archiver_Snapshot_calls.idxOf "data.SaveSnapshot" ∧
    "data.SaveSnapshot" ∈ Restic.Gen.Archiver_Snapshot_calls := by
  obtain ⟨h1, h2, _, _, _, h3, _, _, _, h4, h5⟩ := Restic.Props.C11.writer_call_orders
  refine ⟨h1, h2, h3, h4, ?_⟩
  -- exactly one `SaveSnapshot` call, so at least one
  cases hf : Restic.Gen.Archiver_Snapshot_calls.filter (· == "data.SaveSnapshot") with
  | nil => rw [hf] at h5; cases h5
  | cons x _ =>
    have hx := List.mem_filter.mp (hf ▸ List.mem_cons_self)
    exact beq_iff_eq.mp hx.2 ▸ hx.1

/-- `copy` as a writer: `copyTreeBatched` saves snapshots only after `WithBlobUploader` has returned (i.e.
    after the flush of packs and index) — no `copySaveSnapshot` inside the uploader callback (calls inside
    the callback end before the `WithBlobUploader` call expression ends). -/
theorem copy_snapshot_after_flush :
    (Restic.Gen.copyTreeBatched_calls.filter (· == "copySaveSnapshot")).length = 1 ∧
    Restic.Gen.copyTreeBatched_calls.idxOf "dstRepo.WithBlobUploader"
      < Restic.Gen.copyTreeBatched_calls.idxOf "copySaveSnapshot" ∧
    "dstRepo.WithBlobUploader" ∈ Restic.Gen.copyTreeBatched_calls := by decide +kernel

/-- the long-running reader, fuse `updateSnapshots`. A flat call list cannot see a new condition around
    `LoadIndex`, so the whole shape is written out: listing (`FindAll`), sort, hash, then `LoadIndex`, then
    `makeDirs` — any restructuring of this function stops this proof and sends the check into the search
    with the `fuse` correspondence stream. -/
theorem fuse_refresh_shape :
    Restic.Gen.fuse_updateSnapshots_calls =
      ["d.mutex.Lock", "d.mutex.Unlock", "time.Since", "append", "d.root.cfg.Filter.FindAll",
       "si.Time.Equal", "si.ID", "sj.ID", "bytes.Compare", "si.Time.Before", "sort.Slice", "sha256.New",
       "sn.ID", "h.Write", "h.Sum", "time.Now", "d.root.repo.LoadIndex", "time.Now", "d.makeDirs"] := by decide +kernel

-- `refreshReloads` is what the driver evaluates on the listings of each fuse refresh recorded in the
-- `fuse` correspondence stream
example : refreshReloads [.listSnapshots, .other, .listIndex] = true := by decide +kernel
example : refreshReloads [.listIndex, .listSnapshots] = false := by decide +kernel

/-! ### Non-vacuity: two writers interleaved, a reader in between -/

def bA : Blob := ⟨1, 5, 0, 10⟩
def bB : Blob := ⟨1, 6, 0, 12⟩
def gEx : List (Nat × Ev) :=
  [(1, .savePack 1 [bA]), (2, .savePack 11 [bB]), (1, .saveIndex 2 [(1, [bA])]),
   (1, .saveSnap 3 { key := 0, tree := 5, orig := none, needs := [(1, 5)] }),
   (2, .saveIndex 12 [(11, [bB])]), (2, .saveSnap 13 { key := 1, tree := 6, orig := none, needs := [(1, 6)] })]

example : ∀ p ∈ [0, 1, 2, 3], acceptAdds Repo.empty (proj p gEx) = true := by decide +kernel
example : accept_global Repo.empty (gEx.map (·.2)) = true := by decide +kernel
-- listing at t1 = 4 sees snapshot 3; the index loaded at t2 = 4 has its tree
example : (applyAll Repo.empty ((gEx.map (·.2)).take 4)).snaps.length = 1 := by decide +kernel
example : indexedBy (applyAll Repo.empty ((gEx.map (·.2)).take 4)).indexes
    (applyAll Repo.empty ((gEx.map (·.2)).take 6)) (1, 5) = true := by decide +kernel

end Restic.Props.C14
