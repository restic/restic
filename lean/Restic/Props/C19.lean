import Restic.Model.FileRestore
import Restic.Model.FileRestoreFacts
import Restic.Proofs.C19_Write
/-!
# C19 — restore leaves each selected file with exactly the snapshot content

Statement (properties.jsonl): whatever the target already contains (missing, shorter, longer,
different content, unreadable, a directory or symlink in the way, hard-linked elsewhere), after a
successful restore with --overwrite always or if-changed every selected regular file has exactly
the snapshot content and size, with or without --sparse. With if-newer and never, existing files
are left untouched exactly when the mode says so.

`restoreFile_exact` (of which `restore_file_exact` and `restore_file_exact_when_overwriting` are the
instances by mode) holds of `restoreFile` (`Restic/Model/FileRestore.lean`) for every hash function,
node, pre-existing state, option set (sparse, delete, fallocate support) and every delivery order of
the blob writes. It needs two facts about the source that are FALSE on the unmodified tree and hold
after the two `fix:` commits; both are regenerated from the source on every run (`source_has_fixes`):
 * `sparseTruncFirst` — `ensureSize` cuts an existing file to length 0 before the sparse
   `Truncate(size)` (finding F6: unreadable existing file + --sparse);
 * `hardlinkDropsState` — `verifyFile` discards the state of a hard linked file that needs a
   restore (finding: matching blobs of a hard linked file are lost).
For each a negation witness is proved (`f6_witness`, `hardlink_witness`): without the fix the model
ends with wrong bytes although the restore succeeds; both reproduce on the real binary (docs/C19.md).

The documented contract of if-changed (same size and mtime ⇒ same content) is an explicit
hypothesis (`contractBoundary … = false`).
-/
namespace Restic.Props.C19
open Restic.Model.FileRestore

variable {ID : Type} [DecidableEq ID]

/-- the old content that survives `createFile`'s open/replace logic -/
def baseOf : Target → File
  | .regular f _ _ l _ => if l > 1 then File.empty else f
  | _ => File.empty

theorem createFile_ok (cfg : Cfg) (t : Target) (n : Nat) (sp : Bool) (f0 : File)
    (h : createFile cfg t n sp = .ok f0) : f0 = ensureSize cfg (baseOf t) n sp := by
  cases t with
  | missing => exact (Except.ok.inj h).symm
  | symlink => exact (Except.ok.inj h).symm
  | special => exact (Except.ok.inj h).symm
  | dir e m =>
    rw [createFile] at h
    by_cases c : (e || cfg.delete) = true
    · rw [if_pos c] at h; exact (Except.ok.inj h).symm
    · rw [if_neg c] at h; cases h
  | regular f r w l m =>
    rw [createFile] at h
    rw [baseOf]
    by_cases hl : l > 1
    · rw [if_pos hl] at h ⊢; exact (Except.ok.inj h).symm
    · rw [if_neg hl] at h ⊢; exact (Except.ok.inj h).symm

theorem ensureSize_dense (cfg : Cfg) (f : File) (n : Nat) :
    (ensureSize cfg f n false).len ≤ n ∧ min f.len n ≤ (ensureSize cfg f n false).len ∧
    ∀ i < n, (ensureSize cfg f n false).read i = f.read i := by
  simp only [ensureSize, Bool.false_eq_true, if_false]
  by_cases hle : f.len > n
  · rw [if_pos hle]
    exact ⟨Nat.le_refl n, Nat.min_le_right .., fun i hi => if_pos hi⟩
  · rw [if_neg hle]
    by_cases hp : (decide (n > 0) && cfg.prealloc) = true
    · rw [if_pos hp, File.len_preallocate, Nat.max_eq_right (Nat.not_lt.mp hle)]
      exact ⟨Nat.le_refl n, Nat.min_le_right .., fun i _ => File.read_preallocate f n i⟩
    · rw [if_neg hp]
      exact ⟨Nat.not_lt.mp hle, Nat.min_le_left .., fun _ _ => rfl⟩

theorem ensureSize_sparse (cfg : Cfg) (f : File) (n : Nat)
    (h : cfg.sparseTruncFirst = true ∨ f.len = 0) :
    (ensureSize cfg f n true).len = n ∧ ∀ i, (ensureSize cfg f n true).read i = 0 := by
  simp only [ensureSize, if_true]
  refine ⟨rfl, fun i => ?_⟩
  rw [File.read_truncate]
  split
  · rcases h with h | h
    · rw [if_pos h, File.read_empty]
    · split
      · exact File.read_empty i
      · exact File.read_ge f (h ▸ Nat.zero_le i)
  · rfl

theorem verifyFile_noFailFast_ok (hash : Bytes → ID) (t : Target) (node : FNode ID) (tm : Bool) (s : FileState)
    (h : verifyFile hash t node false tm = .ok s) :
    ∃ f w l m, t = .regular f true w l m ∧
      ((tm = true ∧ m = node.mtime ∧ node.size = f.len ∧ s = ⟨none, true⟩) ∨
        ∃ ms full, verifyBlobs hash false f node.content 0 = .ok (ms, full) ∧
          s = ⟨some ms, decide (node.size = f.len) && full⟩) := by
  obtain ⟨f, w, l, m, rfl⟩ := verifyFile_ok_regular hash t node false tm s h
  refine ⟨f, w, l, m, rfl, ?_⟩
  simp only [verifyFile, Bool.not_true, Bool.false_eq_true, if_false, Bool.false_and] at h
  split at h
  · rename_i hc
    simp only [Bool.and_eq_true, beq_iff_eq, decide_eq_true_eq] at hc
    obtain ⟨⟨htm, hm⟩, hsz⟩ := hc
    cases h
    exact .inl ⟨htm, hm, hsz, by rw [decide_eq_true hsz]⟩
  · cases hv : verifyBlobs hash false f node.content 0 with
    | error e => rw [hv] at h; cases h
    | ok r => rw [hv] at h; cases h; exact .inr ⟨r.1, r.2, rfl, rfl⟩

theorem verifyFile_state_sound (hash : Bytes → ID) (t : Target) (node : FNode ID) (tm : Bool)
    (hnc : NoCol hash node) (s : FileState) (h : verifyFile hash t node false tm = .ok s) :
    ∃ f w l m, t = .regular f true w l m ∧
      ∀ x ∈ blobWrites node.content 0 0, hasMatchingBlob (some s) x.idx = true → Present f x := by
  obtain ⟨f, w, l, m, rfl, ⟨_, _, _, rfl⟩ | ⟨ms, full, hv, rfl⟩⟩ := verifyFile_noFailFast_ok hash t node tm s h
  · exact ⟨f, w, l, m, rfl, fun x _ hx => nomatch hx⟩
  · exact ⟨f, w, l, m, rfl, fun x hx hflag =>
      ((verifyBlobs_sound hash false f node.content 0 0 ms full hv).2 x hx (.inr hflag)).present hnc hx⟩

/-- for the mtime shortcut the conclusion is the documented contract, passed as `hcontract` -/
theorem verifyFile_no_restore (hash : Bytes → ID) (t : Target) (node : FNode ID) (tm : Bool)
    (hwf : WF hash node) (hnc : NoCol hash node) (s : FileState)
    (h : verifyFile hash t node false tm = .ok s) (hn : needsRestore (some s) = false)
    (hcontract : ∀ f w l m, t = .regular f true w l m → tm = true → m = node.mtime → f.len = node.size →
      f.toBytes = concat node.content) :
    ∃ f w l m, t = .regular f true w l m ∧ f.toBytes = concat node.content := by
  obtain ⟨f, w, l, m, rfl, ⟨htm, hm, hsz, _⟩ | ⟨ms, full, hv, rfl⟩⟩ := verifyFile_noFailFast_ok hash t node tm s h
  · exact ⟨f, w, l, m, rfl, hcontract f w l m rfl htm hm hsz.symm⟩
  · refine ⟨f, w, l, m, rfl, ?_⟩
    obtain ⟨hszfull, hall_true⟩ := needsRestore_some_eq_false.mp hn
    have hsz : node.size = f.len := of_decide_eq_true (Bool.and_eq_true _ _ ▸ hszfull).1
    -- every blob is flagged, so every blob is present
    obtain ⟨hmslen, hsound⟩ := verifyBlobs_sound hash false f node.content 0 0 ms full hv
    refine toBytes_eq_concat_of_matches hnc (hsz.symm.trans hwf.size) fun x hx => hsound x hx (.inr ?_)
    have hidx : x.idx < ms.length := by
      have := (blobWrites_mem node.content 0 0 x hx).idx_lt
      omega
    show ms.getD x.idx false = true
    rw [List.getD_eq_getElem?_getD, List.getElem?_eq_getElem hidx]
    exact hall_true _ (List.getElem_mem hidx)

omit [DecidableEq ID] in
/-- The core of C19: a base file plus the missing writes, in any order, is the concatenation. `g i`:
    blob `i` is in place already and is not written (`hasMatchingBlob`); the base is no longer than the
    content (`h1`), holds the blobs so flagged (`h2`), and is all zero for a sparse restore (`h3`), since
    `WriteAt` then skips the zero prefix of every blob. -/
theorem writes_give_concat (bs : List (Blob ID)) (g : Nat → Bool) (sp : Bool) (f0 : File)
    (ws : List (Write ID))
    (hws : ∀ w, w ∈ ws ↔ (w ∈ blobWrites bs 0 0 ∧ g w.idx = false))
    (h1 : f0.len ≤ totalLen bs)
    (h2 : ∀ w ∈ blobWrites bs 0 0, g w.idx = true → Present f0 w)
    (h3 : sp = true → f0.len = totalLen bs ∧ ∀ i, f0.read i = 0) :
    (ws.foldl (pwrite sp) f0).toBytes = concat bs := by
  have hW := blobWrites_disj bs 0 0
  have hends : ∀ w ∈ blobWrites bs 0 0, w.off + w.data.length ≤ totalLen bs := fun w hw =>
    Nat.zero_add (totalLen bs) ▸ (blobWrites_mem bs 0 0 w hw).end_le
  have hdisj : Disj ws := fun a ha b hb i => hW a ((hws a).mp ha).1 b ((hws b).mp hb).1 i
  obtain ⟨hf0, hle, hend⟩ := len_foldl sp ws f0 _ (fun w hw => hends w ((hws w).mp hw).1) h1
  -- the file ends where the last non-empty blob ends
  have hge : totalLen bs ≤ (ws.foldl (pwrite sp) f0).len := by
    by_cases hpos : 0 < totalLen bs
    · obtain ⟨w, hw, hne, hwend⟩ := blobWrites_last bs 0 0 hpos
      cases sp with
      | true => have := (h3 rfl).1; omega
      | false =>
        cases hg : g w.idx with
        | true =>
          have := (h2 w hw hg).1.resolve_left hne
          omega
        | false =>
          have := hend rfl w ((hws w).mpr ⟨hw, hg⟩) hne
          omega
    · omega
  have hlen : (ws.foldl (pwrite sp) f0).len = totalLen bs := Nat.le_antisymm hle hge
  refine (toBytes_eq_concat_iff _ bs).mpr ⟨hlen, fun w hw => ⟨.inr (hlen ▸ hends w hw), fun i hin => ?_⟩⟩
  cases hg : g w.idx with
  | false =>
    exact read_foldl_in sp ws hdisj f0 w ((hws w).mpr ⟨hw, hg⟩) i hin (fun hs => Or.inl ((h3 hs).2 i))
  | true =>
    -- no write touches a blob that is present already
    rw [read_foldl_out sp ws f0 i fun x hx hxin => ?_]
    · exact (h2 w hw hg).2 i hin
    · have hx' := (hws x).mp hx
      rw [hW x hx'.1 w hw i hxin hin, hg] at hx'
      exact Bool.noConfusion hx'.2

omit [DecidableEq ID] in
theorem mem_todoWrites (node : FNode ID) (st : Option FileState) (w : Write ID) :
    w ∈ todoWrites node st ↔ (w ∈ blobWrites node.content 0 0 ∧ hasMatchingBlob st w.idx = false) := by
  simp [todoWrites, List.mem_filter]

theorem hasMatchingBlob_none (i : Nat) : hasMatchingBlob none i = false := rfl

/-- `restoreFiles` switches sparse writing off for a file that has a state -/
theorem fileSparse_some (cfg : Cfg) (zc : ID) (node : FNode ID) (s : FileState) :
    fileSparse cfg zc node (some s) = false := rfl

/-- `hsparse`: a sparse restore starts from zeros (fix 1, or the target is missing or empty).
    `hmatch`: what is flagged as matching is in the file `createFile` opens, which for a hard linked
    file is not the file `verifyFile` read (fix 2, `baseOf_of_kept`). -/
theorem restoreContent_exact (hash : Bytes → ID) (cfg : Cfg) (zc : ID) (t : Target) (node : FNode ID)
    (hwf : WF hash node) (st : Option FileState) (order : List (Write ID))
    (hord : order.Perm (todoWrites node st))
    (hsparse : fileSparse cfg zc node st = true → cfg.sparseTruncFirst = true ∨ (baseOf t).len = 0)
    (hmatch : ∀ w ∈ blobWrites node.content 0 0, hasMatchingBlob st w.idx = true → Present (baseOf t) w)
    (f : File) (h : restoreContent cfg zc t node st order = .ok f) :
    f.toBytes = concat node.content := by
  -- both branches are `createFile` followed by the writes of some `ws`, sparse only without a state
  obtain ⟨sp, ws, f0, hws, hc, hsp, rfl⟩ : ∃ sp, ∃ ws : List (Write ID), ∃ f0, (∀ w, w ∈ ws ↔ w ∈ todoWrites node st) ∧
      createFile cfg t node.size sp = .ok f0 ∧ (sp = true → fileSparse cfg zc node st = true) ∧
      f = ws.foldl (pwrite sp) f0 := by
    unfold restoreContent at h
    by_cases hempty : (todoWrites node st).isEmpty = true
    · rw [if_pos hempty] at h
      exact ⟨false, [], f, fun w => by rw [List.isEmpty_iff.mp hempty], h, nofun, rfl⟩
    · simp only [if_neg hempty] at h
      cases hc : createFile cfg t node.size (fileSparse cfg zc node st) with
      | error e => rw [hc] at h; cases h
      | ok f0 => rw [hc] at h; cases h; exact ⟨_, order, f0, fun w => hord.mem_iff, hc, id, rfl⟩
  obtain rfl := createFile_ok cfg t node.size sp f0 hc
  refine writes_give_concat node.content (hasMatchingBlob st) sp _ ws
    (fun w => (hws w).trans (mem_todoWrites node st w)) ?_ (fun w hw hg => ?_) ?_
  · rw [← hwf.size]
    cases sp with
    | false => exact (ensureSize_dense cfg _ _).1
    | true => exact Nat.le_of_eq (ensureSize_sparse cfg _ _ (hsparse (hsp rfl))).1
  · cases sp with
    | false =>
      -- what was present in the old file below `node.size` still is
      obtain ⟨_, hge, hread⟩ := ensureSize_dense cfg (baseOf t) node.size
      obtain ⟨hb, hr⟩ := hmatch w hw hg
      have hend : w.off + w.data.length ≤ node.size := by
        have := (blobWrites_mem node.content 0 0 w hw).end_le
        rw [hwf.size]
        omega
      exact ⟨hb.imp_right fun hb => by omega,
        fun i hin => (hread i (Nat.lt_of_lt_of_le hin.2 hend)).trans (hr i hin)⟩
    | true =>
      -- a sparse restore starts without a state: nothing is flagged
      have hs := hsp rfl
      cases st with
      | none => rw [hasMatchingBlob_none] at hg; cases hg
      | some s => rw [fileSparse_some] at hs; cases hs
  · rintro rfl
    rw [← hwf.size]
    exact ensureSize_sparse cfg _ _ (hsparse (hsp rfl))

theorem dropIfHardlinked_cases (cfg : Cfg) (t : Target) (s : FileState) :
    dropIfHardlinked cfg t s = none ∨ dropIfHardlinked cfg t s = some s := by
  unfold dropIfHardlinked
  split
  · exact .inl rfl
  · exact .inr rfl

theorem stateOf_cases (hash : Bytes → ID) (cfg : Cfg) (ow : Overwrite) (t : Target) (node : FNode ID) :
    stateOf hash cfg ow t node = none ∨ ∃ s, verifyFile hash t node false (ow == .ifChanged) = .ok s ∧
      dropIfHardlinked cfg t s = some s ∧ stateOf hash cfg ow t node = some s := by
  unfold stateOf
  cases hv : verifyFile hash t node false (ow == .ifChanged) with
  | error e => exact .inl rfl
  | ok s => exact (dropIfHardlinked_cases cfg t s).imp_right fun hd => ⟨s, rfl, hd, hd⟩

/-- a kept state belongs to a file without further hard links, which `createFile` opens in place -/
theorem baseOf_of_kept (cfg : Cfg) (hfix2 : cfg.hardlinkDropsState = true) (f : File) (r w : Bool) (l : Nat)
    (m : Int) (s : FileState) (hn : needsRestore (some s) = true)
    (hkeep : dropIfHardlinked cfg (.regular f r w l m) s = some s) : baseOf (.regular f r w l m) = f := by
  unfold dropIfHardlinked at hkeep
  rw [hfix2, hn] at hkeep
  by_cases hl : l > 1
  · rw [if_pos (by simpa [Target.links] using hl)] at hkeep
    cases hkeep
  · exact if_neg hl

/-- Every mode that overwrites: whenever `shouldOverwrite` says yes (always, if-changed, if-newer with a
    newer snapshot file, never with nothing in the way) and the if-changed contract holds, a restore
    that did not report an error leaves exactly the snapshot content, or a hash collision is
    exhibited. `hfix1`/`hfix2` say that `cfg` has the two fixes which `source_has_fixes` finds in the
    current source; the driver builds its `cfg` from those. -/
theorem restoreFile_exact (hash : Bytes → ID) (cfg : Cfg) (zc : ID) (ow : Overwrite)
    (t : Target) (node : FNode ID) (hwf : WF hash node)
    (order : Option FileState → List (Write ID))
    (hord : ∀ st, (order st).Perm (todoWrites node st))
    (hfix1 : cfg.sparseTruncFirst = true) (hfix2 : cfg.hardlinkDropsState = true)
    (hso : shouldOverwrite ow node t = true) (hcontract : contractBoundary ow t node = false) :
    (∀ o, restoreFile hash cfg zc ow t node order = o → (∀ e, o ≠ .failed e) →
      o.finalBytes t = some (concat node.content)) ∨ Collision hash := by
  by_cases hnc : NoCol hash node
  case neg => exact Or.inr (collision_of_not_noCol hash node hwf hnc)
  left
  rintro o rfl hne
  simp only [restoreFile_eq, hso, Bool.not_true, Bool.false_eq_true, if_false, restoreWith] at hne ⊢
  have hst := stateOf_cases hash cfg ow t node
  generalize stateOf hash cfg ow t node = st at hst hne ⊢
  cases hn : needsRestore st with
  | false =>
    rcases hst with rfl | ⟨s, hv, _, rfl⟩
    · cases hn
    · obtain ⟨f, w, l, m, rfl, hsame⟩ := verifyFile_no_restore hash t node _ hwf hnc s hv hn
        fun f w l m ht hic hm hl => by
          cases beq_iff_eq.mp hic
          subst ht
          exact (contractBoundary_ifChanged f w l m node).mp hcontract hm hl
      exact congrArg some hsame
  | true =>
    simp only [hn, Bool.not_true, Bool.false_eq_true, if_false] at hne ⊢
    cases hr : restoreContent cfg zc t node st (order st) with
    | error e => rw [hr] at hne; exact absurd rfl (hne e)
    | ok f =>
      refine congrArg some (restoreContent_exact hash cfg zc t node hwf st (order st) (hord st)
        (fun _ => Or.inl hfix1) ?_ f hr)
      rcases hst with rfl | ⟨s, hv, hkeep, rfl⟩
      · exact fun w _ hg => nomatch (hasMatchingBlob_none _).symm.trans hg
      · obtain ⟨f0, w, l, m, rfl, hsound⟩ := verifyFile_state_sound hash t node _ hnc s hv
        rw [baseOf_of_kept cfg hfix2 f0 true w l m s hn hkeep]
        exact hsound

/-- `restoreFile_exact` for always / if-changed, which always overwrite -/
theorem restore_file_exact (hash : Bytes → ID) (cfg : Cfg) (zc : ID) (ow : Overwrite)
    (how : ow = .always ∨ ow = .ifChanged) (t : Target) (node : FNode ID) (hwf : WF hash node)
    (order : Option FileState → List (Write ID))
    (hord : ∀ st, (order st).Perm (todoWrites node st))
    (hfix1 : cfg.sparseTruncFirst = true) (hfix2 : cfg.hardlinkDropsState = true)
    (hcontract : contractBoundary ow t node = false) :
    (match restoreFile hash cfg zc ow t node order with
      | .failed _ => True
      | o => o.finalBytes t = some (concat node.content)) ∨ Collision hash :=
  (restoreFile_exact hash cfg zc ow t node hwf order hord hfix1 hfix2
    (by rcases how with h | h <;> subst h <;> rfl) hcontract).imp_left fun h => by
    cases ho : restoreFile hash cfg zc ow t node order with
    | failed e => trivial
    | _ => exact h _ ho nofun

/-- `restoreWith` unfolded, its inputs free: never `.untouched` -/
theorem body_ne_untouched (c : Bool) (r : Except CErr File) :
    (match (if c = true then Outcome.metadataOnly else
        match r with | .ok f => Outcome.restored f | .error e => Outcome.failed e) with
      | .untouched => True | _ => False) ↔ False := by
  cases c <;> cases r <;> simp

omit [DecidableEq ID] in
theorem shouldOverwrite_eq_false_iff (ow : Overwrite) (node : FNode ID) (t : Target) :
    shouldOverwrite ow node t = false ↔
      (t ≠ .missing ∧ (ow = .never ∨ (ow = .ifNewer ∧ ¬ node.mtime > t.mtime))) := by
  cases ow with
  | always | ifChanged => simp [shouldOverwrite]
  | ifNewer | never => cases t <;> simp [shouldOverwrite]

/-- if-newer / never: the existing item is left untouched exactly when the mode says so -/
theorem skip_iff (hash : Bytes → ID) (cfg : Cfg) (zc : ID) (ow : Overwrite) (t : Target) (node : FNode ID)
    (order : Option FileState → List (Write ID)) :
    (match restoreFile hash cfg zc ow t node order with | .untouched => True | _ => False) ↔
      (t ≠ .missing ∧ (ow = .never ∨ (ow = .ifNewer ∧ ¬ node.mtime > t.mtime))) := by
  rw [← shouldOverwrite_eq_false_iff, restoreFile_eq]
  cases shouldOverwrite ow node t with
  | false => simp
  | true =>
    simp only [restoreWith, Bool.not_true, Bool.false_eq_true, if_false]
    exact (body_ne_untouched _ _).trans (by simp)

/-- what `.untouched` means for the bytes; when it is the outcome is `skip_iff` -/
theorem untouched_same (t : Target) (f : File) (r w : Bool) (l : Nat) (m : Int)
    (h : t = .regular f r w l m) : Outcome.untouched.finalBytes t = some f.toBytes := by
  subst h; rfl

/-- `restoreFile_exact` for if-newer / never when they do overwrite (nothing there, or the snapshot's
    file is newer) -/
theorem restore_file_exact_when_overwriting (hash : Bytes → ID) (cfg : Cfg) (zc : ID) (ow : Overwrite)
    (how : ow = .ifNewer ∨ ow = .never) (t : Target) (node : FNode ID) (hwf : WF hash node)
    (hso : shouldOverwrite ow node t = true)
    (order : Option FileState → List (Write ID))
    (hord : ∀ st, (order st).Perm (todoWrites node st))
    (hfix1 : cfg.sparseTruncFirst = true) (hfix2 : cfg.hardlinkDropsState = true) :
    (match restoreFile hash cfg zc ow t node order with
      | .failed _ => True
      | o => o.finalBytes t = some (concat node.content)) ∨ Collision hash :=
  -- the if-changed contract does not apply to these modes
  (restoreFile_exact hash cfg zc ow t node hwf order hord hfix1 hfix2 hso
    (by rcases how with h | h <;> subst h <;> rfl)).imp_left fun h => by
    cases ho : restoreFile hash cfg zc ow t node order with
    | failed e => trivial
    | _ => exact h _ ho nofun

theorem restoreFile_meets_spec (hash : Bytes → ID) (cfg : Cfg) (zc : ID) (ow : Overwrite)
    (t : Target) (node : FNode ID) (hwf : WF hash node)
    (order : Option FileState → List (Write ID))
    (hord : ∀ st, (order st).Perm (todoWrites node st))
    (hfix1 : cfg.sparseTruncFirst = true) (hfix2 : cfg.hardlinkDropsState = true) :
    (match restoreFile hash cfg zc ow t node order with
      | .failed _ => True
      | o => specRestore ow t node (o.finalBytes t) = true) ∨ Collision hash := by
  by_cases hc : Collision hash
  · exact Or.inr hc
  left
  cases hso : shouldOverwrite ow node t with
  | false =>
    rw [restoreFile_eq, hso, Bool.not_false, if_pos rfl]
    simp only [specRestore, hso, Bool.false_eq_true, if_false]
    cases t <;> exact beq_self_eq_true _
  | true =>
    by_cases hcb : contractBoundary ow t node = true
    · -- outside the documented contract of if-changed `specRestore` asks nothing
      cases hr : restoreFile hash cfg zc ow t node order <;> simp [specRestore, hso, hcb]
    · have key := (restoreFile_exact hash cfg zc ow t node hwf order hord hfix1 hfix2 hso
        (by simpa using hcb)).resolve_right hc
      cases ho : restoreFile hash cfg zc ow t node order with
      | failed e => trivial
      | _ => simp [specRestore, hso, key _ ho nofun]

/-- On the current source `ensureSize` truncates to 0 before the sparse truncate and
    `verifyFile` consults the link count; the other two conjuncts are the shape of `createFile` and
    `WriteAt` that the model transcribes. Fails to build on the unmodified tree (F6 and the
    hard-link finding), which `vcheck` reports together with a concrete failing input. -/
theorem source_has_fixes :
    sparseTruncFirstOfSource = true ∧ hardlinkDropsStateOfSource = true ∧
    createFileEndsInEnsureSize = true ∧ writeAtUsesZeroPrefix = true := by decide +kernel

/-! Negation witnesses for the unmodified source. `Cfg` is
    `⟨sparse, delete, prealloc, sparseTruncFirst, hardlinkDropsState⟩`. -/

def idh (b : Bytes) : Bytes := b

def zeros5 : FNode Bytes := ⟨5, [⟨[0, 0, 0, 0, 0], [0, 0, 0, 0, 0]⟩], 0⟩
def twoBlobs : FNode Bytes := ⟨3, [⟨[1, 2], [1, 2]⟩, ⟨[3], [3]⟩], 0⟩

/-- F6: snapshot file = five zero bytes (one blob), existing file `b0 31` not readable,
    `--sparse`. Without the truncate-to-0 the "restored" file is `b0 31 00 00 00`. -/
theorem f6_witness :
    (match restoreFile idh ⟨true, false, true, false, true⟩ [9] .always
        (.regular (File.ofBytes [0xb0, 0x31]) false true 1 0)
        zeros5 (fun st => todoWrites zeros5 st) with
      | .restored f => f.toBytes == [0xb0, 0x31, 0, 0, 0]
      | _ => false) = true := by decide

theorem f6_fixed :
    (match restoreFile idh ⟨true, false, true, true, true⟩ [9] .always
        (.regular (File.ofBytes [0xb0, 0x31]) false true 1 0)
        zeros5 (fun st => todoWrites zeros5 st) with
      | .restored f => f.toBytes == [0, 0, 0, 0, 0]
      | _ => false) = true := by decide

/-- hard-link finding: snapshot file `01 02` + `03` (two blobs), existing file `01 02 07` with two
    hard links. Blob 0 matches and is skipped, `createFile` replaces the file by an empty one:
    the result is `00 00 03`. -/
theorem hardlink_witness :
    (match restoreFile idh ⟨false, false, true, true, false⟩ [9] .always
        (.regular (File.ofBytes [1, 2, 7]) true true 2 0)
        twoBlobs (fun st => todoWrites twoBlobs st) with
      | .restored f => f.toBytes == [0, 0, 3]
      | _ => false) = true := by decide

theorem hardlink_fixed :
    (match restoreFile idh ⟨false, false, true, true, true⟩ [9] .always
        (.regular (File.ofBytes [1, 2, 7]) true true 2 0)
        twoBlobs (fun st => todoWrites twoBlobs st) with
      | .restored f => f.toBytes == [1, 2, 3]
      | _ => false) = true := by decide

/-- `WF` is satisfiable; below, `restoreFile` evaluated on a partially matching, longer existing
    file with reversed delivery order -/
example : WF idh twoBlobs := ⟨by decide, by decide⟩

example :
    (match restoreFile idh ⟨false, false, false, true, true⟩ [9] .ifChanged
        (.regular (File.ofBytes [1, 2, 7, 7]) true true 1 5)
        twoBlobs (fun st => (todoWrites twoBlobs st).reverse) with
      | .restored f => f.toBytes == [1, 2, 3]
      | _ => false) = true := by decide +kernel

example : (todoWrites twoBlobs none).reverse.Perm (todoWrites twoBlobs none) := List.reverse_perm _

end Restic.Props.C19
