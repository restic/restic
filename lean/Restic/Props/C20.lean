import Restic.Proofs.C20_Traverse
import Restic.Proofs.Select_Link
import Restic.Gen.Source
/-!
# C20 — Restore includes / excludes and `--delete` select exactly the matching paths

About the transcription in `Restic.Model.Select` of `selectIncludeFilter` / `selectExcludeFilter`
(cmd/restic/cmd_restore.go), the pruned traversal `traverseTreeInner` and `removeUnexpectedFiles`
(internal/restorer/restorer.go), for ALL snapshot trees and pattern lists. The exactness corollaries
use the C28 theorems (`list_upward`, `list_child_sound`, `list_matched_child`) and carry their
hypotheses (`ValidLists`: validated patterns, oracle law G1).

An `enter p` event is `ensureDir` of the directory `p` (first pass), a `visit p` event is the
creation of the non-directory `p` after `ensureDir` of its parent; `leave p names` is the
`leaveDir` call of the second pass, where `--delete` removes unexpected entries; `skipped p names`
is the `skippedDir` call, which does the same for a traversed directory in which nothing was restored.
-/
namespace Restic.Props.C20
open Restic.Model.Filter Restic.Model.Select Restic.Proofs.C20 Restic.Proofs.Select Restic.Props.C28 Restic.Proofs.C28

/-- With include patterns, restore writes exactly the snapshot items (files, other nodes and
    directories alike) whose path matches a pattern list: the `childMayBeSelected` pruning never
    cuts off a matching item (C28 `list_child_sound`). -/
theorem include_exact (glob : Glob) (lists : List PatList) (hv : ValidLists glob lists)
    (root : List Node) (p : List Str) (d f : Bool) :
    (∃ ev ∈ (trList (selectInclude glob lists) [] root).1, evItem ev = some (p, d, f)) ↔
      (HasItem [] root p d f ∧ (selectInclude glob lists p d).1 = true) := by
  rw [tr_list_item]
  exact and_congr_right fun _ => and_iff_left_of_imp (selectInclude_ancestors glob lists hv)

theorem mem_prefixes {p q : List Str} :
    q ∈ (List.range (p.length + 1)).map p.take ↔ ∃ k, k ≤ p.length ∧ q = p.take k := by
  simp only [List.mem_map, List.mem_range, Nat.lt_succ_iff, eq_comm]

/-- every directory that exists after an include-restore into an empty target is, or lies above, a
    written matching item -/
theorem created_iff (evs : List Ev) (q : List Str) :
    q ∈ created evs ↔ ∃ ev ∈ evs, ∃ p d f, evItem ev = some (p, d, f) ∧ ∃ k, k ≤ p.length ∧ q = p.take k := by
  unfold created
  rw [List.mem_flatMap]
  refine exists_congr fun ev => and_congr_right fun _ => ?_
  cases ev with
  | enter p =>
    exact mem_prefixes.trans ⟨fun h => ⟨p, _, _, rfl, h⟩, fun ⟨_, _, _, hi, h⟩ => by cases hi; exact h⟩
  | visit p f =>
    exact mem_prefixes.trans ⟨fun h => ⟨p, _, _, rfl, h⟩, fun ⟨_, _, _, hi, h⟩ => by cases hi; exact h⟩
  | leave => exact ⟨nofun, fun ⟨_, _, _, hi, _⟩ => nomatch hi⟩
  | skipped => exact ⟨nofun, fun ⟨_, _, _, hi, _⟩ => nomatch hi⟩

/-- a directory selected by include patterns is always traversed, so `leaveDir` never receives a
    nil name list for it (which would make `--delete` treat every entry as unexpected) -/
theorem include_leave_has_names (glob : Glob) (lists : List PatList) (hv : ValidLists glob lists)
    (root : List Node) (p : List Str) (exp : Option (List Str))
    (h : Ev.leave p exp ∈ (trList (selectInclude glob lists) [] root).1)
    (hsel : (selectInclude glob lists p true).1 = true) : ∃ names, exp = some names :=
  have ⟨ns, _, _, hx⟩ := tr_list_del (selectInclude glob lists) [] root _ p exp h rfl
  ⟨ns, (if_pos (selectInclude_matched_child glob lists hv p hsel)).mp hx⟩

theorem selectExclude_fst (glob : Glob) (lists : List PatList) (p : List Str) (d : Bool) :
    (selectExclude glob lists p d).1 = exSelect glob lists p := rfl

theorem selectExclude_snd (glob : Glob) (lists : List PatList) (p : List Str) :
    (selectExclude glob lists p true).2 = exSelect glob lists p := Bool.and_true _

/-- General form (negated patterns allowed): an item is written iff neither it nor a directory
    above it matches the exclude lists. -/
theorem exclude_general (glob : Glob) (lists : List PatList) (root : List Node) (p : List Str) (d f : Bool) :
    (∃ ev ∈ (trList (selectExclude glob lists) [] root).1, evItem ev = some (p, d, f)) ↔
      (HasItem [] root p d f ∧ exSelect glob lists p = true ∧
        ∀ k, 0 < k → k < p.length → exSelect glob lists (p.take k) = true) := by
  rw [tr_list_item]
  unfold ChainT
  simp only [selectExclude_fst, selectExclude_snd, List.length_nil]

/-- Without negated patterns restore writes exactly the items that match no pattern: a match on a
    directory covers its contents (C28 `list_upward`), so pruning at excluded directories loses
    nothing that should be written and an unmatched item has no excluded ancestor. -/
theorem exclude_exact (glob : Glob) (lists : List PatList) (hv : ValidLists glob lists) (hn : NoNeg lists)
    (root : List Node) (p : List Str) (d f : Bool) :
    (∃ ev ∈ (trList (selectExclude glob lists) [] root).1, evItem ev = some (p, d, f)) ↔
      (HasItem [] root p d f ∧ exSelect glob lists p = true) := by
  rw [exclude_general]
  exact and_congr_right fun _ => and_iff_left_of_imp (exSelect_ancestors glob lists hv hn)

theorem deletedTops_iff (sel : List Str → Bool → Bool × Bool) (evs : List Ev) (pre : List (List Str))
    (e : List Str) :
    e ∈ deletedTops sel evs pre ↔
      ∃ ev ∈ evs, ∃ p exp, delDir ev = some (p, exp) ∧ e ∈ pre ∧ e.length = p.length + 1 ∧
        isPrefix p e = true ∧ (exp.getD []).contains (e.getLast?.getD []) = false ∧ (sel e false).1 = true := by
  unfold deletedTops
  rw [List.mem_flatMap]
  refine exists_congr fun ev => and_congr_right fun _ => ?_
  cases hd : delDir ev with
  | none => exact ⟨nofun, fun ⟨_, _, h, _⟩ => nomatch h⟩
  | some pe =>
    dsimp only
    rw [List.mem_filter, Bool.and_eq_true, Bool.and_eq_true, Bool.and_eq_true, decide_eq_true_eq,
      Bool.not_eq_true']
    exact ⟨fun ⟨h1, ⟨⟨h2, h3⟩, h4⟩, h5⟩ => ⟨_, _, rfl, h1, h2, h3, h4, h5⟩,
      fun ⟨_, _, hpe, h1, h2, h3, h4, h5⟩ => by cases hpe; exact ⟨h1, ⟨⟨h2, h3⟩, h4⟩, h5⟩⟩

/-- completeness of `--delete`: every pre-existing entry directly inside a snapshot directory that
    the traversal reaches (the root included), not named in that directory's listing and selected,
    is removed -/
def DeleteComplete (sel : List Str → Bool → Bool × Bool) (root : List Node) (evs : List Ev)
    (pre : List (List Str)) : Prop :=
  ∀ parent ns, (parent, ns) ∈ dirListings root →
    (∀ k, 0 < k → k ≤ parent.length → (sel (parent.take k) true).2 = true) →
    ∀ e ∈ pre, e.length = parent.length + 1 → isPrefix parent e = true →
      ns.contains (e.getLast?.getD []) = false → (sel e false).1 = true →
        e ∈ deletedTops sel evs pre

/-- completeness half; holds thanks to `skippedDir` (the fix for finding
    C20:delete:selected-stale-entry-survives…) and is false of `traverseOld`: negation witness below. -/
theorem delete_complete (sel : List Str → Bool → Bool × Bool) (root : List Node) (pre : List (List Str)) :
    DeleteComplete sel root (traverse sel root) pre := by
  intro parent ns hmem hchain e he hlen hpre hns hsel
  rw [deletedTops_iff]
  rcases List.mem_cons.mp hmem with h | h
  · cases h
    obtain ⟨ev, hev, hd⟩ := traverse_del_root sel root
    exact ⟨ev, hev, [], _, hd, he, hlen, hpre, hns, hsel⟩
  · obtain ⟨x, hx, rfl, _⟩ := listing_item [] root parent ns h
    obtain ⟨n, rest, hr⟩ := entries_prefix [] root x hx
    have hs := hchain x.path.length (by rw [hr]; exact Nat.succ_pos _) (Nat.le_refl _)
    rw [List.take_length] at hs
    obtain ⟨ev, hev, hd⟩ := tr_list_deldir sel [] root x.path ns h
      (fun k h1 h2 => hchain k h1 (Nat.le_of_lt h2)) hs
    exact ⟨ev, traverse_sub hev, _, _, hd, he, hlen, hpre, hns, hsel⟩

/-- soundness half: a removed entry existed before, is selected, and lies directly inside a snapshot
    directory handed to `removeUnexpectedFiles` with a name list that does not contain its name -/
theorem delete_sound (sel : List Str → Bool → Bool × Bool) (root : List Node)
    (pre : List (List Str)) (e : List Str) (h : e ∈ deletedTops sel (traverse sel root) pre) :
    e ∈ pre ∧ (sel e false).1 = true ∧
      ∃ (parent : List Str) (exp : Option (List Str)), e.length = parent.length + 1 ∧
        isPrefix parent e = true ∧ (exp.getD []).contains (e.getLast?.getD []) = false := by
  obtain ⟨ev, _, p, exp, _, h1, h2, h3, h4, h5⟩ := (deletedTops_iff sel _ pre e).mp h
  exact ⟨h1, h5, p, exp, h2, h3, h4⟩

/-- with include patterns no reachability hypothesis is needed: a selected stale entry directly
    inside ANY directory of the snapshot is removed (a match below a directory makes every
    directory above it traversable, C28 `list_child_sound`) -/
theorem include_delete_complete (glob : Glob) (lists : List PatList) (hv : ValidLists glob lists)
    (root : List Node) (pre : List (List Str)) (parent ns : List Str)
    (hmem : (parent, ns) ∈ dirListings root) (e : List Str) (he : e ∈ pre)
    (hlen : e.length = parent.length + 1) (hpre : isPrefix parent e = true)
    (hns : ns.contains (e.getLast?.getD []) = false)
    (hsel : (selectInclude glob lists e false).1 = true) :
    e ∈ deletedTops (selectInclude glob lists) (traverse (selectInclude glob lists) root) pre := by
  apply delete_complete (selectInclude glob lists) root pre parent ns hmem _ e he hlen hpre hns hsel
  intro k hk1 hk2
  -- the directories above `parent`, and `parent` itself, are directories above `e`
  have hpe : e.take parent.length = parent := by
    rw [isPrefix, Bool.and_eq_true, beq_iff_eq] at hpre
    exact hpre.2
  rw [← hpe, List.take_take, Nat.min_eq_left hk2]
  exact selectInclude_ancestors glob lists hv hsel k hk1 (by omega)

/-- `--delete` never removes an entry that bears the name of ANY node of the snapshot directory
    it lies in — unselected nodes and sockets (which restore cannot recreate) included: the name
    list handed to `removeUnexpectedFiles` is the full listing of the snapshot directory.
    (`hsel`: a selected directory is traversed — true for exclude filters by definition and for
    validated include filters by `selectInclude_matched_child`.) -/
theorem delete_keeps_listed_names (sel : List Str → Bool → Bool × Bool) (root : List Node)
    (hsel : ∀ p, (sel p true).1 = true → (sel p true).2 = true)
    (pre : List (List Str)) (e : List Str) (h : e ∈ deletedTops sel (traverse sel root) pre) :
    ∃ parent ns, (parent, ns) ∈ dirListings root ∧ e.length = parent.length + 1 ∧
      isPrefix parent e = true ∧ ns.contains (e.getLast?.getD []) = false := by
  obtain ⟨ev, hev, p, exp, hd, _, h2, h3, h4, _⟩ := (deletedTops_iff sel _ pre e).mp h
  rcases traverse_del hev hd with ⟨rfl, rfl⟩ | hev
  · exact ⟨[], _, List.mem_cons_self, h2, h3, h4⟩
  · obtain ⟨ns, hm, _, hx⟩ := tr_list_del sel [] root ev p exp hev hd
    by_cases hs2 : (sel p true).2 = true
    · rw [if_pos hs2] at hx; subst hx
      exact ⟨p, ns, List.mem_cons_of_mem _ hm, h2, h3, h4⟩
    · -- a nil name list only reaches `leaveDir` for a selected directory that was not traversed
      rw [if_neg hs2] at hx
      exact absurd (hsel p hx.2.1) hs2

theorem validateAll_parsed (clean : Str → Str) (glob : Glob) (hg : G1 glob) (h3 : G3 glob) (raw : List Str)
    (h : validateAll clean glob raw = true) : ValidPats glob (parsedOr clean raw) := by
  unfold validateAll at h
  unfold parsedOr
  cases hp : parsePatterns clean raw with
  | ok ps =>
    rw [hp] at h
    simp only at h ⊢
    rw [List.all_eq_true] at h
    exact ⟨hg, fun p hpm => noErr_of_valid glob h3 p (h p hpm), parsePatterns_parts_ne clean raw ps hp⟩
  | err e => rw [hp] at h; cases h
  | panic => rw [hp] at h; cases h
  | fuel => rw [hp] at h; cases h

/-- what `CollectPatterns` hands to the command: the case-sensitive list is validated (so the C28
    theorems apply) and is the flag values followed by the lines of the pattern files; the
    case-insensitive list is the `--i…` flag values followed by the lines of the `--i…-file`s,
    lower-cased after validation, hence without `ValidPats` -/
theorem collect_spec (clean : Str → Str) (glob : Glob) (hg : G1 glob) (h3 : G3 glob)
    (o : PatternOpts) (lists : List PatList) (h : collectPatterns clean glob o = some lists) :
    ∀ l ∈ lists,
      (l.insensitive = false → ValidPats glob l.pats ∧ l.pats = parsedOr clean o.sens) ∧
      (l.insensitive = true → l.pats = parsedOr clean (o.insens.map lowerStr)) := by
  unfold collectPatterns at h
  -- source order; only the last validation is of the case-sensitive list
  obtain ⟨-, h⟩ := Option.ite_none_left_eq_some.mp h
  obtain ⟨-, h⟩ := Option.ite_none_left_eq_some.mp h
  obtain ⟨-, h⟩ := Option.ite_none_left_eq_some.mp h
  obtain ⟨c4, h⟩ := Option.ite_none_left_eq_some.mp h
  cases h
  intro l hl
  rcases List.mem_append.mp hl with hl | hl
  · by_cases hi : o.insens.isEmpty = true
    · rw [if_pos hi] at hl; cases hl
    · rw [if_neg hi] at hl
      cases List.mem_singleton.mp hl
      exact ⟨nofun, fun _ => rfl⟩
  · by_cases hs : o.sens.isEmpty = true
    · rw [if_pos hs] at hl; cases hl
    · rw [if_neg hs] at hl
      cases List.mem_singleton.mp hl
      refine ⟨fun _ => ⟨validateAll_parsed clean glob hg h3 _ ?_, rfl⟩, nofun⟩
      simpa [hs] using c4

theorem source_shape :
    Restic.Gen.restorer_traverseTreeInner_calls.filter
        (fun c => c = "res.SelectFilter" || c = "visitor.enterDir" || c = "res.traverseTreeInner" ||
          c = "visitor.leaveDir" || c = "visitor.visitNode") =
      ["res.SelectFilter", "visitor.enterDir", "res.traverseTreeInner", "visitor.leaveDir", "visitor.visitNode"] ∧
    Restic.Gen.restorer_removeUnexpectedFiles_calls.filter
        (fun c => c = "fs.Readdirnames" || c = "res.SelectFilter" || c = "fs.RemoveAll") =
      ["fs.Readdirnames", "res.SelectFilter", "fs.RemoveAll"] := by
  decide +kernel

def exTree : List Node :=
  [.dir "a".toList [.file "z".toList 3], .dir "b".toList [.file "x1".toList 1], .file "x".toList 5]

def exLists (pats : List String) : List PatList :=
  [⟨false, pats.map fun s => match preparePattern id s.toList with | .ok p => p | _ => ⟨[], false⟩⟩]

def gl : Glob := fun p c => some (if p = ['*'] then decide ('/' ∉ c)
  else if p = "x*".toList then c.head? = some 'x' else p == c)

example : traverse (selectInclude gl (exLists ["x*"])) exTree =
    [.enter [], .skipped ["a".toList] (some ["z".toList]),
     .visit ["b".toList, "x1".toList] true, .leave ["b".toList] (some ["x1".toList]),
     .visit ["x".toList] true, .leave [] (some ["a".toList, "b".toList, "x".toList])] := by decide +kernel

/-- both stale selected entries are removed … -/
example : deletedTops (selectInclude gl (exLists ["x*"])) (traverse (selectInclude gl (exLists ["x*"])) exTree)
    [["a".toList, "xold".toList], ["b".toList, "xold".toList]] =
      [["a".toList, "xold".toList], ["b".toList, "xold".toList]] := by decide +kernel

/-- … whereas before the fix `a/xold` survived, because nothing below `a` is restored and
    `leaveDir` is not called for `a`: completeness was false (negation witness, replayed on the
    real code by the harness: `restore --include X.TXT --delete`). -/
example : ¬ DeleteComplete (selectInclude gl (exLists ["x*"])) exTree
    (traverseOld (selectInclude gl (exLists ["x*"])) exTree)
    [["a".toList, "xold".toList], ["b".toList, "xold".toList]] := by
  intro h
  have := h ["a".toList] ["z".toList] (by decide)
    (by intro k h1 h2
        have hk : k = 1 := by simp at h2; omega
        subst hk; decide)
    ["a".toList, "xold".toList] (by simp) (by decide) (by decide) (by decide) (by decide)
  revert this
  decide

example : specDeleteOK (selectInclude gl (exLists ["x*"])) exTree true
    [["a".toList, "xold".toList], ["b".toList, "xold".toList]]
    [[], ["b".toList], ["b".toList, "x1".toList], ["x".toList]] = true := by decide +kernel

example : specDeleteOK (selectInclude gl (exLists ["x*"])) exTree true
    [["a".toList, "xold".toList], ["b".toList, "xold".toList]]
    [[], ["b".toList], ["b".toList, "x1".toList], ["x".toList], ["a".toList, "xold".toList]] = false := by decide +kernel

end Restic.Props.C20
