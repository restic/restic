import Restic.Model.Lru
import Restic.Gen.Consts
/-!
# C47 — The in-memory blob cache stays within its budget and returns correct blobs

Theorems about `Restic.Model.Lru` (transcription of `bloblru.Cache` over `simplelru.LRU`, and of
`GetOrCompute` as a machine of atomic steps). Statements about `run` quantify over all schedules:
any number of concurrent callers, any interleaving of their atomic steps, any results (success
with any value/capacity, or failure) of their `compute()` calls.
-/
namespace Restic.Props.C47
open Restic.Model.Lru

theorem cost_append (ov : Nat) (a b : List Entry) : cost ov (a ++ b) = cost ov a + cost ov b := by
  induction a with
  | nil => simp [cost]
  | cons e es ih => simp only [List.cons_append, cost, ih]; omega

theorem cost_nonneg (ov : Nat) (es : List Entry) : 0 ≤ cost ov es := by
  induction es with
  | nil => simp [cost]
  | cons e es ih => simp only [cost]; omega

theorem held_le_cost (ov : Nat) (es : List Entry) : held es ≤ cost ov es := by
  induction es with
  | nil => simp [cost, held]
  | cons e es ih => simp only [cost, held]; omega

theorem length_mul_le_cost (ov : Nat) (es : List Entry) : (es.length : Int) * ov ≤ cost ov es := by
  induction es with
  | nil => exact Int.le_of_eq (Int.zero_mul _)
  | cons e es ih =>
    rw [List.length_cons, cost, Int.natCast_add, Int.add_mul, Int.natCast_add, Int.natCast_one, Int.one_mul]
    omega

theorem cost_perm (ov : Nat) {a b : List Entry} (h : a.Perm b) : cost ov a = cost ov b := by
  induction h with
  | nil => rfl
  | cons _ _ ih => simp only [cost, ih]
  | swap => simp only [cost]; omega
  | trans _ _ ih₁ ih₂ => exact ih₁.trans ih₂

theorem extract_some {k : Key} {es : List Entry} {e : Entry} {rest : List Entry}
    (h : extract k es = some (e, rest)) : e.key = k ∧ es.Perm (e :: rest) := by
  induction es generalizing rest with
  | nil => cases h
  | cons a as ih =>
    rw [extract] at h
    by_cases hk : (a.key == k) = true
    · rw [if_pos hk] at h; cases h; exact ⟨eq_of_beq hk, .refl _⟩
    · rw [if_neg hk] at h
      cases hx : extract k as with
      | none => rw [hx] at h; cases h
      | some p =>
        rw [hx] at h; cases h
        exact ⟨(ih hx).1, ((ih hx).2.cons a).trans (.swap _ _ _)⟩

theorem extract_none (k : Key) (es : List Entry) :
    extract k es = none ↔ ∀ e ∈ es, e.key ≠ k := by
  induction es with
  | nil => exact ⟨nofun, fun _ => rfl⟩
  | cons a as ih =>
    rw [extract, List.forall_mem_cons, ← ih]
    by_cases hk : (a.key == k) = true
    · rw [if_pos hk]; exact ⟨nofun, fun h => absurd (eq_of_beq hk) h.1⟩
    · rw [if_neg hk]
      cases extract k as with
      | none => exact ⟨fun _ => ⟨fun h => hk (beq_iff_eq.2 h), rfl⟩, fun _ => rfl⟩
      | some p => exact ⟨nofun, fun h => nomatch h.2⟩

/-- the loop `for size > c.free { RemoveOldest }`: if the requested size fits into `free +` what the
    entries account for, it never spins on an empty LRU; it drops a prefix of the entries and gives
    back exactly what they were charged -/
theorem evictLoop_terminates (ov : Nat) (sz : Int) (es : List Entry) (free : Int)
    (h : sz ≤ free + cost ov es) :
    ∃ es' free', evictLoop ov sz es free = some (es', free') ∧
      free' + cost ov es' = free + cost ov es ∧ sz ≤ free' ∧ ∃ pre, es = pre ++ es' := by
  fun_induction evictLoop ov sz es free with
  | case1 free hs => simp only [cost] at h; omega  -- would spin on the empty LRU: excluded by `h`
  | case2 free hs => exact ⟨_, _, rfl, rfl, Int.not_lt.1 hs, [], rfl⟩
  | case3 e rest free hs ih =>  -- `RemoveOldest`, once more round the loop
    obtain ⟨es', free', h0, h1, h2, pre, h4⟩ := ih (by simp only [cost] at h; omega)
    exact ⟨es', free', h0, h1.trans (Int.add_assoc ..), h2, e :: pre, by rw [h4]; rfl⟩
  | case4 e rest free hs => exact ⟨_, _, rfl, rfl, Int.not_lt.1 hs, [], rfl⟩

def Inv (c : Cache) : Prop := 0 ≤ c.free ∧ c.free + cost c.overhead c.entries = c.size

theorem inv_held_le_size (c : Cache) (h : Inv c) : held c.entries ≤ c.size :=
  h.2 ▸ Int.le_trans (held_le_cost c.overhead c.entries) (Int.le_add_of_nonneg_left h.1)

theorem inv_budgetOK (c : Cache) (h : Inv c) : budgetOK c = true := by
  simp only [budgetOK, Bool.and_eq_true, decide_eq_true_eq]
  exact ⟨h, inv_held_le_size c h⟩

theorem tdiv_pos_iff (size : Int) (ov : Nat) : 0 < size.tdiv ov ↔ 0 < ov ∧ (ov : Int) ≤ size := by
  constructor
  · intro h
    have hov : 0 < ov := Nat.pos_of_ne_zero fun h0 => by simp [h0] at h
    refine ⟨hov, Int.not_lt.1 fun hlt => Int.not_le.2 h ?_⟩
    by_cases h0 : 0 ≤ size
    · exact Int.le_of_eq (Int.tdiv_eq_zero_of_lt h0 hlt)
    · have := Int.tdiv_le_tdiv (Int.natCast_pos.2 hov) (Int.le_of_lt (Int.not_le.1 h0))
      rwa [Int.zero_tdiv] at this
  · intro ⟨hov, h⟩
    exact Int.le_tdiv_of_mul_le (Int.natCast_pos.2 hov) (by omega)

theorem new_ok_iff (ov : Nat) (size : Int) : (∃ c, new ov size = .ok c) ↔ 0 < ov ∧ (ov : Int) ≤ size := by
  rw [new, ← tdiv_pos_iff, ← Int.not_le]
  constructor
  · rintro ⟨c, h⟩
    split at h
    · cases h
    · assumption
  · intro h
    rw [if_neg h]
    exact ⟨_, rfl⟩

theorem new_inv (ov : Nat) (size : Int) (c : Cache) (h : new ov size = .ok c) :
    Inv c ∧ c.size = size ∧ c.overhead = ov ∧ c.entries = [] := by
  have hsz := ((new_ok_iff ov size).1 ⟨c, h⟩).2
  rw [new] at h
  split at h
  · cases h
  · cases h
    exact ⟨⟨Int.le_trans (Int.natCast_nonneg ov) hsz, Int.add_zero _⟩, rfl, rfl, rfl⟩

theorem cacheGet_spec (c : Cache) (k : Key) :
    ∃ es, (cacheGet c k).2 = { c with entries := es } ∧ es.Perm c.entries ∧
      match (cacheGet c k).1 with
      | some v => ∃ e ∈ c.entries, e.key = k ∧ e.val = v
      | none => es = c.entries ∧ ∀ e ∈ c.entries, e.key ≠ k := by
  unfold cacheGet lruGet
  cases hx : extract k c.entries with
  | none => exact ⟨_, rfl, .refl _, rfl, (extract_none k _).mp hx⟩
  | some p =>
    obtain ⟨hk, hp⟩ := extract_some hx
    exact ⟨_, rfl, (List.perm_append_singleton _ _).trans hp.symm, p.1, hp.mem_iff.2 List.mem_cons_self, hk, rfl⟩

theorem lruAdd_spec (c : Cache) (e : Entry) (h : ∀ x ∈ c.entries, x.key ≠ e.key) :
    ∃ es free, lruAdd c e = { c with entries := es, free := free } ∧
      free + cost c.overhead es = c.free + cost c.overhead (c.entries ++ [e]) ∧ c.free ≤ free ∧
      ∀ x ∈ es, x ∈ c.entries ++ [e] := by
  rw [lruAdd, (extract_none _ _).mpr h]
  by_cases hlen : (c.entries ++ [e]).length > c.maxEntries
  · simp only [if_pos hlen]
    cases hes : c.entries ++ [e] with
    | nil => exact absurd hes (List.append_ne_nil_of_right_ne_nil _ (List.cons_ne_nil _ _))
    | cons o rest =>
      -- the `evict` callback gives back what the oldest entry was charged
      exact ⟨rest, c.free + ((o.cap + c.overhead : Nat) : Int), rfl, Int.add_assoc ..,
        Int.le_add_of_nonneg_right (Int.natCast_nonneg _), fun x hx => List.mem_cons_of_mem _ hx⟩
  · simp only [if_neg hlen]
    exact ⟨_, _, rfl, rfl, Int.le_refl _, fun _ hx => hx⟩

/-- `Cache.add` returns (the eviction loop does not spin), keeps the budget invariant and at most
    inserts the given entry. -/
theorem add_spec (c : Cache) (k : Key) (v : Val) (cap : Nat) (hi : Inv c) :
    ∃ es free, cacheAdd c k v cap = .done { c with entries := es, free := free } ∧
      Inv { c with entries := es, free := free } ∧ ∀ e ∈ es, e ∈ c.entries ∨ e = ⟨k, v, cap⟩ := by
  unfold cacheAdd
  by_cases hbig : (((cap + c.overhead : Nat) : Int)) > c.size
  · exact ⟨_, _, if_pos hbig, hi, fun e he => .inl he⟩
  by_cases hc : contains c k = true
  · exact ⟨_, _, (if_neg hbig).trans (if_pos hc), hi, fun e he => .inl he⟩
  rw [if_neg hbig, if_neg hc]
  obtain ⟨es, free, hev, h1, h2, pre, h4⟩ := evictLoop_terminates c.overhead ((cap + c.overhead : Nat) : Int)
    c.entries c.free (hi.2 ▸ Int.not_lt.1 hbig)
  have hsub : ∀ e ∈ es, e ∈ c.entries := fun e he => h4 ▸ List.mem_append_right _ he
  -- `k` is not among the entries, so `simplelru.Add` pushes a new item
  obtain ⟨es', free', hadd, h5, h6, h7⟩ := lruAdd_spec { c with entries := es, free := free } ⟨k, v, cap⟩
    fun e he hek => hc (List.any_eq_true.2 ⟨e, hsub e he, beq_iff_eq.2 hek⟩)
  rw [hev]; dsimp only; rw [hadd]
  rw [cost_append, cost, cost] at h5; dsimp only at h5 h6
  have hinv : 0 ≤ free' - ((cap + c.overhead : Nat) : Int) ∧
      free' - ((cap + c.overhead : Nat) : Int) + cost c.overhead es' = c.size := by
    have := hi.2; omega
  exact ⟨es', _, rfl, hinv, fun e he => (List.mem_append.1 (h7 e he)).imp (hsub e) List.mem_singleton.1⟩

theorem add_ne_hang {c : Cache} (k : Key) (v : Val) (cap : Nat) (hi : Inv c) : cacheAdd c k v cap ≠ .hang := by
  obtain ⟨_, _, h, _⟩ := add_spec c k v cap hi
  rw [h]; nofun

/-- the byte budget already implies `#entries * overhead ≤ size`, which is the bound the LRU's own
    capacity `maxEntries = size / overhead` puts on the number of entries -/
theorem entries_le_maxEntries (c : Cache) (hi : Inv c) :
    (c.entries.length : Int) * c.overhead ≤ c.size :=
  hi.2 ▸ Int.le_trans (length_mul_le_cost c.overhead c.entries) (Int.le_add_of_nonneg_left hi.1)

/-- Prop version of `resultOK` -/
def ResOK (produced : List (Key × Val)) (th : Thread) : Res → Prop
  | .ok v => (th.key, v) ∈ produced
  | .err => th.ownFailed = true

/-- `.hung => False`: as part of the invariant this is `evict_terminates` -/
def ThreadOK (s : Sys) (th : Thread) : Prop :=
  match th.pc with
  | .adding _ v _ => (th.key, v) ∈ s.produced
  | .cleanupDelete r => ResOK s.produced th r
  | .cleanupClose r => ResOK s.produced th r
  | .done r => ResOK s.produced th r
  | .hung => False
  | _ => True

/-- budget; every cached value was produced by a compute for its key; every pending or returned
    result is justified, and nobody is stuck in the eviction loop -/
def SysInv (s : Sys) : Prop :=
  Inv s.cache ∧ (∀ e ∈ s.cache.entries, (e.key, e.val) ∈ s.produced) ∧ ∀ th ∈ s.threads, ThreadOK s th

def Enabled (s : Sys) (th : Thread) : Prop :=
  match th.pc with
  | .done _ => False
  | .hung => False
  | .waiting ch => s.closed.contains ch = true
  | _ => True

variable {s s' : Sys} {t : Nat} {th th' : Thread} {o : Oracle}

/-- A step of call `t` with entry `th` and compute result `o` leaves the shared state and the entry
    as the last two arguments say: one constructor per branch of `stepThread`, with its guard. -/
inductive Move (s : Sys) (t : Nat) (th : Thread) (o : Oracle) : Sys → Thread → Prop
  | stay : ¬ Enabled s th → Move s t th o s th
  | hit {v c} : th.pc = .start → cacheGet s.cache th.key = (some v, c) →
      Move s t th o { s with cache := c } { th with pc := .done (.ok v) }
  | miss {c} : th.pc = .start → cacheGet s.cache th.key = (none, c) →
      Move s t th o { s with cache := c } { th with pc := .checkProgress }
  | wait {ch} : th.pc = .checkProgress → lookupCh th.key s.inProgress = some ch →
      Move s t th o s { th with pc := .waiting ch }
  | register : th.pc = .checkProgress → lookupCh th.key s.inProgress = none →
      Move s t th o { s with inProgress := (th.key, t) :: s.inProgress } { th with pc := .secondGet true }
  | wake {ch} : th.pc = .waiting ch → s.closed.contains ch = true →
      Move s t th o s { th with pc := .secondGet false }
  | hit2 {ow v c} : th.pc = .secondGet ow → cacheGet s.cache th.key = (some v, c) →
      Move s t th o { s with cache := c } { th with pc := finishPC ow (.ok v) }
  | miss2 {ow c} : th.pc = .secondGet ow → cacheGet s.cache th.key = (none, c) →
      Move s t th o { s with cache := c } { th with pc := .computing ow }
  | computed {ow v cap} : th.pc = .computing ow → o = .ok v cap →
      Move s t th o { s with produced := (th.key, v) :: s.produced } { th with pc := .adding ow v cap }
  | failed {ow} : th.pc = .computing ow → o = .fail →
      Move s t th o s { th with pc := finishPC ow .err, ownFailed := true }
  | added {ow v cap c} : th.pc = .adding ow v cap → cacheAdd s.cache th.key v cap = .done c →
      Move s t th o { s with cache := c } { th with pc := finishPC ow (.ok v) }
  | hang {ow v cap} : th.pc = .adding ow v cap → cacheAdd s.cache th.key v cap = .hang →
      Move s t th o s { th with pc := .hung }
  | unregister {r} : th.pc = .cleanupDelete r →
      Move s t th o { s with inProgress := s.inProgress.filter (fun p => p.1 != th.key) }
        { th with pc := .cleanupClose r }
  | close {r} : th.pc = .cleanupClose r → Move s t th o { s with closed := t :: s.closed } { th with pc := .done r }

theorem stepThread_move (s : Sys) (t : Nat) (th : Thread) (o : Oracle) :
    Move s t th o (stepThread s t th o).1 (stepThread s t th o).2 := by
  unfold stepThread
  cases h : th.pc with
  | start =>
    cases hg : cacheGet s.cache th.key with | mk r c
    cases r with
    | some v => exact .hit h hg
    | none => exact .miss h hg
  | checkProgress =>
    cases hl : lookupCh th.key s.inProgress with
    | some ch => exact .wait h hl
    | none => exact .register h hl
  | waiting ch =>
    dsimp only
    by_cases hc : s.closed.contains ch = true
    · rw [if_pos hc]; exact .wake h hc
    · rw [if_neg hc]; exact .stay (by simp only [Enabled, h]; exact hc)
  | secondGet ow =>
    cases hg : cacheGet s.cache th.key with | mk r c
    cases r with
    | some v => exact .hit2 h hg
    | none => exact .miss2 h hg
  | computing ow =>
    cases o with
    | ok v cap => exact .computed h rfl
    | fail => exact .failed h rfl
  | adding ow v cap =>
    dsimp only
    cases ha : cacheAdd s.cache th.key v cap with
    | hang => exact .hang h ha
    | done c => exact .added h ha
  | cleanupDelete r => exact .unregister h
  | cleanupClose r => exact .close h
  | done | hung => exact .stay (by simp only [Enabled, h, not_false_eq_true])

theorem Move.frame (mv : Move s t th o s' th') : s'.threads = s.threads ∧ th'.key = th.key := by
  cases mv <;> exact ⟨rfl, rfl⟩

inductive ActCase (s : Sys) : Action → Sys → Prop
  | spawn (k : Key) : ActCase s (.spawn k) { s with threads := s.threads ++ [{ key := k, pc := .start }] }
  | noop {t : Nat} {o : Oracle} : s.threads[t]? = none → ActCase s (.step t o) s
  | step {t : Nat} {o : Oracle} {th th' : Thread} {s' : Sys} : s.threads[t]? = some th → Move s t th o s' th' →
      ActCase s (.step t o) { s' with threads := s.threads.set t th' }

theorem act_case (s : Sys) (a : Action) : ActCase s a (act s a) := by
  cases a with
  | spawn k => exact .spawn k
  | step t o =>
    rw [act]
    cases hth : s.threads[t]? with
    | none => exact .noop hth
    | some th =>
      have mv := stepThread_move s t th o
      dsimp only
      rw [mv.frame.1]
      exact .step hth mv

theorem resOK_mono {p q : List (Key × Val)} (hpq : ∀ x ∈ p, x ∈ q) (th : Thread) (r : Res)
    (h : ResOK p th r) : ResOK q th r := by
  cases r with
  | ok v => exact hpq _ h
  | err => exact h

theorem threadOK_mono (s s' : Sys) (hpq : ∀ x ∈ s.produced, x ∈ s'.produced) (th : Thread)
    (h : ThreadOK s th) : ThreadOK s' th := by
  unfold ThreadOK at *
  cases hpc : th.pc with
  | adding => rw [hpc] at h; exact hpq _ h
  | cleanupDelete | cleanupClose | done => rw [hpc] at h; exact resOK_mono hpq th _ h
  | hung => rw [hpc] at h; exact h
  | _ => trivial

theorem threadOK_finish (ow : Bool) {r : Res} (hpc : th.pc = finishPC ow r)
    (h : ResOK s.produced th r) : ThreadOK s th := by
  unfold ThreadOK; rw [hpc]
  cases ow <;> exact h

/-- What a step keeps of `SysInv`, for the cache and the acting call (the other calls:
    `threadOK_mono`); `size` and `overhead` never change. -/
structure Kept (s s' : Sys) (th' : Thread) : Prop where
  inv : Inv s'.cache
  cached : ∀ e ∈ s'.cache.entries, (e.key, e.val) ∈ s'.produced
  thread : ThreadOK s' th'
  size : s'.cache.size = s.cache.size
  overhead : s'.cache.overhead = s.cache.overhead

theorem Kept.of_cache (hs : SysInv s) (hc : s'.cache = s.cache) (hp : ∀ x ∈ s.produced, x ∈ s'.produced)
    (hth : ThreadOK s' th') : Kept s s' th' :=
  { inv := hc ▸ hs.1, cached := fun e he => hp _ (hs.2.1 e (hc ▸ he)), thread := hth,
    size := congrArg _ hc, overhead := congrArg _ hc }

/-- a `cacheGet` step; the call's new pc may rest on a value found having been produced for `k` -/
theorem Kept.of_get {k : Key} {r : Option Val} {c : Cache} (hs : SysInv s) (hg : cacheGet s.cache k = (r, c))
    (hth : (∀ v, r = some v → (k, v) ∈ s.produced) → ThreadOK { s with cache := c } th') :
    Kept s { s with cache := c } th' := by
  obtain ⟨es, h1, h2, h3⟩ := cacheGet_spec s.cache k
  rw [hg] at h1 h3; subst h1
  refine { inv := ⟨hs.1.1, cost_perm _ h2 ▸ hs.1.2⟩, cached := fun e he => hs.2.1 e (h2.mem_iff.1 he),
           thread := hth ?_, size := rfl, overhead := rfl }
  rintro v rfl
  obtain ⟨e, he, rfl, rfl⟩ := h3
  exact hs.2.1 e he

theorem threadOK_adding {ow v cap} (h : th.pc = .adding ow v cap) (hth : ThreadOK s th) :
    (th.key, v) ∈ s.produced := by
  unfold ThreadOK at hth; rw [h] at hth; exact hth

theorem threadOK_done {r} (h : th.pc = .done r) (hth : ThreadOK s th) : ResOK s.produced th r := by
  unfold ThreadOK at hth; rw [h] at hth; exact hth

theorem threadOK_hung (h : th.pc = .hung) : ¬ ThreadOK s th := fun hth => by
  unfold ThreadOK at hth; rw [h] at hth; exact hth

theorem Move.inv (mv : Move s t th o s' th') (hs : SysInv s) (hth : ThreadOK s th) : Kept s s' th' := by
  have same : ∀ x ∈ s.produced, x ∈ s.produced := fun _ h => h
  cases mv with
  | stay => exact .of_cache hs rfl same hth
  | hit _ hg => exact .of_get hs hg fun h => h _ rfl
  | hit2 _ hg => exact .of_get hs hg fun h => threadOK_finish _ rfl (h _ rfl)
  | miss _ hg | miss2 _ hg => exact .of_get hs hg fun _ => trivial
  | wait | register | wake => exact .of_cache hs rfl same trivial
  | computed => exact .of_cache hs rfl (fun _ => List.mem_cons_of_mem _) List.mem_cons_self
  | failed => exact .of_cache hs rfl same (threadOK_finish _ rfl rfl)
  | added h ha =>
    obtain ⟨es, free, h1, h2, h3⟩ := add_spec s.cache th.key _ _ hs.1
    cases h1.symm.trans ha
    have hp := threadOK_adding h hth
    refine { inv := h2, cached := fun e he => (h3 e he).elim (hs.2.1 e) ?_, thread := threadOK_finish _ rfl hp,
             size := rfl, overhead := rfl }
    rintro rfl
    exact hp
  | hang _ ha => exact absurd ha (add_ne_hang _ _ _ hs.1)
  | unregister h | close h => exact .of_cache hs rfl same (by unfold ThreadOK at hth; rw [h] at hth; exact hth)

theorem Move.produced (mv : Move s t th o s' th') :
    s'.produced = s.produced ∨ ∃ v cap, o = .ok v cap ∧ s'.produced = (th.key, v) :: s.produced := by
  cases mv with
  | computed _ ho => exact .inr ⟨_, _, ho, rfl⟩
  | _ => exact .inl rfl

theorem Move.produced_mono (mv : Move s t th o s' th') : ∀ x ∈ s.produced, x ∈ s'.produced := by
  obtain h | ⟨_, _, _, h⟩ := mv.produced <;> rw [h]
  · exact fun _ hx => hx
  · exact fun _ hx => List.mem_cons_of_mem _ hx

theorem act_inv (s : Sys) (a : Action) (hs : SysInv s) :
    SysInv (act s a) ∧ (act s a).cache.size = s.cache.size ∧ (act s a).cache.overhead = s.cache.overhead := by
  match act s a, act_case s a with
  | _, .spawn k =>
    refine ⟨⟨hs.1, hs.2.1, fun th hth => ?_⟩, rfl, rfl⟩
    obtain h | h := List.mem_append.1 hth
    · exact hs.2.2 th h
    · cases List.mem_singleton.1 h; trivial
  | _, .noop _ => exact ⟨hs, rfl, rfl⟩
  | _, .step hth mv =>
    have k := mv.inv hs (hs.2.2 _ (List.mem_of_getElem? hth))
    refine ⟨⟨k.inv, k.cached, fun x hx => ?_⟩, k.size, k.overhead⟩
    obtain hx | rfl := List.mem_or_eq_of_mem_set hx
    · exact threadOK_mono s _ mv.produced_mono x (hs.2.2 x hx)
    · exact k.thread

theorem run_inv_const (s : Sys) (acts : List Action) (hs : SysInv s) :
    SysInv (run s acts) ∧ (run s acts).cache.size = s.cache.size ∧ (run s acts).cache.overhead = s.cache.overhead :=
  List.foldlRecOn acts act
    (motive := fun s' => SysInv s' ∧ s'.cache.size = s.cache.size ∧ s'.cache.overhead = s.cache.overhead)
    ⟨hs, rfl, rfl⟩ fun s' h a _ =>
      have ⟨h1, h2, h3⟩ := act_inv s' a h.1
      ⟨h1, h2.trans h.2.1, h3.trans h.2.2⟩

theorem run_inv (s : Sys) (acts : List Action) (hs : SysInv s) : SysInv (run s acts) :=
  (run_inv_const s acts hs).1

theorem init_sysInv {ov : Nat} {size : Int} {c : Cache} (hnew : new ov size = .ok c) : SysInv (initSys c) := by
  obtain ⟨hi, -, -, he⟩ := new_inv _ _ _ hnew
  exact ⟨hi, fun e h => (by rw [show (initSys c).cache.entries = [] from he] at h; cases h), fun _ h => nomatch h⟩

theorem reach_inv {ov : Nat} {size : Int} {c : Cache} (hnew : new ov size = .ok c) (acts : List Action) :
    SysInv (run (initSys c) acts) ∧ (run (initSys c) acts).cache.size = size ∧
      (run (initSys c) acts).cache.overhead = ov := by
  obtain ⟨-, hsz, hov, -⟩ := new_inv _ _ _ hnew
  obtain ⟨h1, h2, h3⟩ := run_inv_const (initSys c) acts (init_sysInv hnew)
  exact ⟨h1, h2.trans hsz, h3.trans hov⟩

/-- **budget** (T1: `overhead` is the constant regenerated from cache.go). For every cache size
    accepted by `New`, every set of concurrent callers and every interleaving of their atomic steps
    with arbitrary compute results: `free ≥ 0`, `free + Σ(cap+overhead) = size`, and the blob bytes
    held are at most the configured size. -/
theorem budget (size : Int) (c : Cache) (acts : List Action)
    (hnew : new Restic.Gen.bloblru_overhead size = .ok c) :
    let s := run (initSys c) acts
    0 ≤ s.cache.free ∧ s.cache.free + cost Restic.Gen.bloblru_overhead s.cache.entries = size ∧
      held s.cache.entries ≤ size ∧ budgetOK s.cache = true := by
  obtain ⟨hs, hsz, hov⟩ := reach_inv hnew acts
  have h1 := hs.1.2
  have h2 := inv_held_le_size _ hs.1
  rw [hsz] at h1 h2; rw [hov] at h1
  exact ⟨hs.1.1, h1, h2, inv_budgetOK _ hs.1⟩

/-- **evict_terminates**: in no reachable state is a caller stuck in `add`'s eviction loop. -/
theorem evict_terminates (size : Int) (c : Cache) (acts : List Action)
    (hnew : new Restic.Gen.bloblru_overhead size = .ok c) :
    ∀ th ∈ (run (initSys c) acts).threads, th.pc ≠ .hung := by
  intro th hth hp
  exact threadOK_hung hp ((reach_inv hnew acts).1.2.2 th hth)

/-- **value_correct**: whatever the interleaving, a call `GetOrCompute(k, f)` that has returned
    `ok v` returns a value some `compute()` *for the same key `k`* has produced (its own or an
    earlier one); an error is returned only to a caller whose own `compute()` failed. Every value
    sitting in the cache is such a produced value too. -/
theorem value_correct (size : Int) (c : Cache) (acts : List Action)
    (hnew : new Restic.Gen.bloblru_overhead size = .ok c) :
    let s := run (initSys c) acts
    (∀ th ∈ s.threads, ∀ r, th.pc = .done r → resultOK s.produced th r = true) ∧
    (∀ e ∈ s.cache.entries, (e.key, e.val) ∈ s.produced) := by
  have hrun := (reach_inv hnew acts).1
  refine ⟨fun th hth r hp => ?_, hrun.2.1⟩
  have := threadOK_done hp (hrun.2.2 th hth)
  cases r with
  | ok v => exact List.contains_iff_mem.2 this
  | err => exact this

/-- every produced pair really is the result of a compute step of the schedule (or was there
    before): `produced` is not a loophole of `value_correct`. -/
theorem produced_from_compute (s : Sys) (acts : List Action) (k : Key) (v : Val)
    (h : (k, v) ∈ (run s acts).produced) :
    (k, v) ∈ s.produced ∨ ∃ t cap, Action.step t (.ok v cap) ∈ acts := by
  induction acts generalizing s with
  | nil => exact Or.inl h
  | cons a as ih =>
    obtain h1 | ⟨t, cap, h1⟩ := ih (act s a) h
    · match a, act s a, act_case s a, h1 with
      | _, _, .spawn _, h1 | _, _, .noop _, h1 => exact .inl h1
      | _, _, .step (t := t) (s' := s') _ mv, h1 =>
        replace h1 : (k, v) ∈ s'.produced := h1
        obtain hs | ⟨v', cap', rfl, hs⟩ := mv.produced <;> rw [hs] at h1
        · exact .inl h1
        · obtain _ | ⟨_, h1⟩ := h1
          · exact .inr ⟨t, cap', List.mem_cons_self⟩
          · exact .inl h1
    · exact .inr ⟨t, cap, List.mem_cons_of_mem _ h1⟩

/-- **failure_not_cached**: the step in which a `compute()` fails leaves the cache (entries,
    free) exactly as it was and makes the caller return the error. -/
theorem failure_not_cached (s : Sys) (t : Nat) (th : Thread) (ow : Bool)
    (hth : s.threads[t]? = some th) (hpc : th.pc = .computing ow) :
    (act s (.step t .fail)).cache = s.cache ∧
      (act s (.step t .fail)).threads[t]? = some { th with pc := finishPC ow .err, ownFailed := true } := by
  have hstep : stepThread s t th .fail = (s, { th with pc := finishPC ow .err, ownFailed := true }) := by
    simp only [stepThread, hpc]
  rw [act, hth]; dsimp only; rw [hstep]
  exact ⟨rfl, List.getElem?_set_self (List.getElem?_eq_some_iff.1 hth).1⟩

/-- T1: the constant the accounting depends on is positive in the current source, so `New`
    accepts every size ≥ overhead and rejects (panics on) smaller ones. -/
theorem new_accepts_iff (size : Int) :
    (∃ c, new Restic.Gen.bloblru_overhead size = .ok c) ↔ (Restic.Gen.bloblru_overhead : Int) ≤ size :=
  (new_ok_iff _ size).trans (and_iff_right (by decide))

/-- an owner whose `finish` channel is registered in `inProgress` -/
def OwnerRegistered : PC → Prop
  | .secondGet ow | .computing ow | .adding ow _ _ => ow = true
  | .cleanupDelete _ => True
  | _ => False

/-- an owner that has not yet closed its channel -/
def OwnerActive : PC → Prop
  | .cleanupClose _ => True
  | pc => OwnerRegistered pc

theorem ownerRegistered_active {pc : PC} (h : OwnerRegistered pc) : OwnerActive pc := by
  cases pc with
  | cleanupClose => trivial
  | _ => exact h

theorem enabled_of_active (h : OwnerActive th.pc) : Enabled s th := by
  unfold Enabled
  cases hpc : th.pc with
  | start | checkProgress | waiting | done | hung => rw [hpc] at h; exact h.elim
  | _ => trivial

theorem finishPC_registered {ow : Bool} (r : Res) (h : ow = true) : OwnerRegistered (finishPC ow r) := by
  subst h; trivial

theorem finishPC_not_waiting (ow : Bool) (r : Res) (ch : Nat) : finishPC ow r ≠ .waiting ch := by
  cases ow <;> nofun

/-- closed, or the owner is still on its way to closing it -/
def Live (s : Sys) (ch : Nat) : Prop :=
  s.closed.contains ch = true ∨ ∃ o, s.threads[ch]? = some o ∧ OwnerActive o.pc

/-- behind deadlock-freedom: whoever waits, waits for a `Live` channel (`waits`); `owned` keeps the
    owners found through `inProgress` on that way -/
structure ProgInv (s : Sys) : Prop where
  owned : ∀ k ch, (k, ch) ∈ s.inProgress → ∃ th, s.threads[ch]? = some th ∧ th.key = k ∧ OwnerRegistered th.pc
  waits : ∀ th ∈ s.threads, ∀ ch, th.pc = .waiting ch → Live s ch

theorem lookupCh_mem (k : Key) (l : List (Key × Nat)) (ch : Nat) (h : lookupCh k l = some ch) : (k, ch) ∈ l := by
  induction l with
  | nil => cases h
  | cons p ps ih =>
    rw [lookupCh] at h
    by_cases hk : (p.1 == k) = true
    · rw [if_pos hk] at h; cases h; cases eq_of_beq hk; exact List.mem_cons_self
    · exact List.mem_cons_of_mem _ (ih (by rwa [if_neg hk] at h))

/-- a step of call `t`, seen from `ProgInv` -/
structure Bookkeeping (s : Sys) (t : Nat) (th : Thread) (s' : Sys) (th' : Thread) : Prop where
  /-- serves `owned`; with an entry under `t` the caller stays registered -/
  inProgress : ∀ k ch, (k, ch) ∈ s'.inProgress →
    ((k, ch) ∈ s.inProgress ∨ (k = th.key ∧ ch = t)) ∧ (ch = t → OwnerRegistered th'.pc)
  /-- `closed`, `active`: the two alternatives of `Live` are kept -/
  closed : ∀ ch, s.closed.contains ch = true → s'.closed.contains ch = true
  active : OwnerActive th.pc → OwnerActive th'.pc ∨ s'.closed.contains t = true
  /-- serves `waits` -/
  wait : ∀ ch, th'.pc = .waiting ch → th.pc = .waiting ch ∨ (th.key, ch) ∈ s.inProgress

/-- the moves that touch neither `inProgress` nor `closed` -/
theorem bookkeeping_plain {pc : PC} (hreg : ∀ k, (k, t) ∈ s.inProgress → OwnerRegistered th.pc) (hpc : th.pc = pc)
    (hprog : s'.inProgress = s.inProgress) (hclosed : s'.closed = s.closed)
    (hR : OwnerRegistered pc → OwnerRegistered th'.pc) (hA : OwnerActive pc → OwnerActive th'.pc)
    (hwait : ∀ ch, th'.pc = .waiting ch → th.pc = .waiting ch ∨ (th.key, ch) ∈ s.inProgress) :
    Bookkeeping s t th s' th' :=
  { inProgress := fun k _ h => ⟨.inl (hprog ▸ h), fun e => hR (hpc ▸ hreg k (e ▸ hprog ▸ h))⟩
    closed := fun _ h => hclosed ▸ h, active := fun h => .inl (hA (hpc ▸ h)), wait := hwait }

/-- Only `register`, `unregister` and `close` touch the bookkeeping; every other move keeps the
    owner flags of the pc. `hreg`: an entry under channel `t` is the caller's own. -/
theorem Move.bookkeeping (mv : Move s t th o s' th') (hi : Inv s.cache)
    (hreg : ∀ k, (k, t) ∈ s.inProgress → OwnerRegistered th.pc ∧ k = th.key) : Bookkeeping s t th s' th' := by
  have hreg' := fun k h => (hreg k h).1
  cases mv with
  | stay => exact bookkeeping_plain hreg' rfl rfl rfl id id fun _ h => .inl h
  | hit h | miss h | wake h => exact bookkeeping_plain hreg' h rfl rfl False.elim False.elim fun _ e => nomatch e
  | wait h hl =>
    exact bookkeeping_plain hreg' h rfl rfl False.elim False.elim
      fun ch e => .inr (PC.waiting.inj e ▸ lookupCh_mem _ _ _ hl)
  | miss2 h | computed h => exact bookkeeping_plain hreg' h rfl rfl id id fun _ e => nomatch e
  | hit2 h | failed h | added h =>
    exact bookkeeping_plain hreg' h rfl rfl (finishPC_registered _)
      (fun e => ownerRegistered_active (finishPC_registered _ e)) fun ch e => absurd e (finishPC_not_waiting _ _ ch)
  | hang _ ha => exact absurd ha (add_ne_hang _ _ _ hi)
  | register h =>
    refine { inProgress := fun k ch hm => ?_, closed := fun _ hc => hc,
             active := fun ha => (h ▸ ha : OwnerActive .checkProgress).elim, wait := fun _ e => nomatch e }
    obtain _ | ⟨_, hm⟩ := hm
    · exact ⟨.inr ⟨rfl, rfl⟩, fun _ => rfl⟩
    · exact ⟨.inl hm, fun e => ((h ▸ hreg' k (e ▸ hm) : OwnerRegistered .checkProgress)).elim⟩
  | unregister h =>
    refine { inProgress := fun k ch hm => ?_, closed := fun _ hc => hc, active := fun _ => .inl trivial,
             wait := fun _ e => nomatch e }
    obtain ⟨hm, hk⟩ := List.mem_filter.1 hm
    exact ⟨.inl hm, fun e => absurd (hreg k (e ▸ hm)).2 (by simpa using hk)⟩
  | close h =>
    refine { inProgress := fun k ch hm => ⟨.inl hm, fun e => ?_⟩, closed := fun ch hc => ?_, active := fun _ => .inr ?_,
             wait := fun _ e => nomatch e }
    · exact (h ▸ hreg' k (e ▸ hm) : OwnerRegistered (.cleanupClose _)).elim
    · exact List.contains_cons.trans (Bool.or_eq_true_iff.2 (.inr hc))
    · exact List.contains_cons.trans (Bool.or_eq_true_iff.2 (.inl (beq_self_eq_true t)))

theorem act_progInv (s : Sys) (a : Action) (hs : SysInv s) (hp : ProgInv s) : ProgInv (act s a) := by
  match act s a, act_case s a with
  | _, .spawn k =>
    -- a new call: old indices still name the same calls
    have hget : ∀ {ch : Nat} {x : Thread}, s.threads[ch]? = some x →
        (s.threads ++ [({ key := k, pc := .start } : Thread)])[ch]? = some x := fun h =>
      (List.getElem?_append_left (List.getElem?_eq_some_iff.1 h).1).trans h
    have hlive : ∀ ch, Live s ch → Live { s with threads := s.threads ++ [{ key := k, pc := .start }] } ch :=
      fun ch h => h.imp_right fun ⟨x, h1, h2⟩ => ⟨x, hget h1, h2⟩
    refine ⟨fun k' ch hm => ?_, fun x hx ch hw => ?_⟩
    · obtain ⟨x, h1, h2⟩ := hp.owned k' ch hm
      exact ⟨x, hget h1, h2⟩
    · obtain hx | hx := List.mem_append.1 hx
      · exact hlive ch (hp.waits x hx ch hw)
      · cases List.mem_singleton.1 hx; cases hw
  | _, .noop _ => exact hp
  | _, .step (t := t) (th := th) (th' := th') (s' := s') hth mv =>
    -- `owned` from `kf.inProgress`; `waits` from `kf.wait` (a new wait is on a registered channel), `hlive`
    have hmem := List.mem_of_getElem? hth
    have hlt := (List.getElem?_eq_some_iff.1 hth).1
    have kf := mv.bookkeeping hs.1 fun k hk => by
      obtain ⟨x, h1, h2, h3⟩ := hp.owned k t hk
      cases hth.symm.trans h1
      exact ⟨h3, h2.symm⟩
    have hsett : (s.threads.set t th')[t]? = some th' := List.getElem?_set_self hlt
    have hlive : ∀ ch, Live s ch → Live { s' with threads := s.threads.set t th' } ch := by
      rintro ch (h | ⟨x, h1, h2⟩)
      · exact .inl (kf.closed ch h)
      · by_cases hct : t = ch
        · subst hct
          cases hth.symm.trans h1
          exact (kf.active h2).elim (fun h => .inr ⟨_, hsett, h⟩) .inl
        · exact .inr ⟨x, (List.getElem?_set_ne hct).trans h1, h2⟩
    refine ⟨fun k ch hm => ?_, fun x hx ch hw => ?_⟩
    · obtain ⟨hin, hreg⟩ := kf.inProgress k ch hm
      by_cases hct : t = ch
      · subst hct
        refine ⟨_, hsett, mv.frame.2.trans ?_, hreg rfl⟩
        obtain hin | ⟨rfl, -⟩ := hin
        · obtain ⟨x, h1, h2, -⟩ := hp.owned k t hin
          cases hth.symm.trans h1
          exact h2
        · rfl
      · obtain hin | ⟨-, rfl⟩ := hin
        · obtain ⟨x, h1, h2⟩ := hp.owned k ch hin
          exact ⟨x, (List.getElem?_set_ne hct).trans h1, h2⟩
        · exact absurd rfl hct
    · apply hlive
      obtain hx | rfl := List.mem_or_eq_of_mem_set hx
      · exact hp.waits x hx ch hw
      · obtain h | h := kf.wait ch hw
        · exact hp.waits th hmem ch h
        · obtain ⟨x, h1, -, h3⟩ := hp.owned th.key ch h
          exact .inr ⟨x, h1, ownerRegistered_active h3⟩

theorem run_progInv (s : Sys) (acts : List Action) (hs : SysInv s) (hp : ProgInv s) : ProgInv (run s acts) :=
  (List.foldlRecOn acts act (motive := fun s' => SysInv s' ∧ ProgInv s') ⟨hs, hp⟩ fun s' h a _ =>
    ⟨(act_inv s' a h.1).1, act_progInv s' a h.1 h.2⟩).2

/-- In a state with both invariants a call that has not returned can take a step, or waits on a
    channel whose owner can. -/
theorem enabled_of_inv (hs : SysInv s) (hp : ProgInv s) (hth : th ∈ s.threads) (hnd : ∀ r, th.pc ≠ .done r) :
    ∃ (t : Nat) (th : Thread), s.threads[t]? = some th ∧ Enabled s th := by
  have ⟨t, ht⟩ : ∃ t : Nat, s.threads[t]? = some th := List.getElem?_of_mem hth
  cases hpc : th.pc with
  | waiting ch =>
    obtain h | ⟨o, h1, h2⟩ := hp.waits th hth ch hpc
    · exact ⟨t, th, ht, by unfold Enabled; rw [hpc]; exact h⟩
    · exact ⟨ch, o, h1, enabled_of_active h2⟩
  | done r => exact absurd hpc (hnd r)
  | hung => exact absurd (hs.2.2 th hth) (threadOK_hung hpc)
  | _ => exact ⟨t, th, ht, by unfold Enabled; rw [hpc]; trivial⟩

/-- **no deadlock**: in every state reachable under any schedule, if some call has not returned
    yet then some call can take a step (and by `enabled_step_decreases` every such step brings that
    call closer to returning). -/
theorem progress (size : Int) (c : Cache) (acts : List Action)
    (hnew : new Restic.Gen.bloblru_overhead size = .ok c) :
    let s := run (initSys c) acts
    (∃ th ∈ s.threads, ∀ r, th.pc ≠ .done r) → ∃ (t : Nat) (th : Thread), s.threads[t]? = some th ∧ Enabled s th := by
  have hprog := run_progInv (initSys c) acts (init_sysInv hnew)
    ⟨fun _ _ h => (nomatch h), fun _ h => nomatch h⟩
  exact fun ⟨_, hth, hnd⟩ => enabled_of_inv (reach_inv hnew acts).1 hprog hth hnd

/-- distance of a call from returning -/
def rank : PC → Nat
  | .start => 9
  | .checkProgress => 8
  | .waiting _ => 7
  | .secondGet _ => 6
  | .computing _ => 5
  | .adding _ _ _ => 4
  | .cleanupDelete _ => 3
  | .cleanupClose _ => 2
  | .done _ => 0
  | .hung => 0

theorem rank_finishPC (ow : Bool) (r : Res) : rank (finishPC ow r) ≤ 3 := by
  cases ow <;> simp [finishPC, rank]

theorem Move.rank (mv : Move s t th o s' th') (he : Enabled s th) : rank th'.pc < rank th.pc := by
  cases mv with
  | stay h => exact absurd he h
  | hit h | miss h | wait h | register h | wake h | miss2 h | computed h | hang h | unregister h | close h =>
    rw [h]; simp only [rank, Nat.reduceLT]
  | hit2 h | failed h | added h =>
    rw [h]; exact Nat.lt_of_le_of_lt (rank_finishPC _ _) (by simp only [rank, Nat.reduceLT])

/-- `rank` takes nine values, so a call takes at most 8 enabled steps -/
theorem enabled_step_decreases (s : Sys) (t : Nat) (th : Thread) (o : Oracle) (hs : SysInv s)
    (he : Enabled s th) : rank (stepThread s t th o).2.pc < rank th.pc :=
  (stepThread_move s t th o).rank he

private def c0 : Cache := { entries := [], free := 400, size := 400, maxEntries := 4, overhead := 96 }

example : new 96 400 = .ok c0 := by decide +kernel
example : new 96 95 = .panic := by decide +kernel
private def addSeq (c : Cache) : List (Key × Val × Nat) → Option Cache
  | [] => some c
  | (k, v, cap) :: rest => match cacheAdd c k v cap with
    | .done c' => addSeq c' rest
    | .hang => none
/-- eviction pressure: the third blob evicts the oldest one; an oversize blob is not stored -/
example : (addSeq c0 [(1, 11, 50), (2, 22, 50), (3, 33, 50), (4, 44, 305)]).map
    (fun c => (c.entries.map (·.key), c.free)) = some ([2, 3], 108) := by decide +kernel
/-- two concurrent callers for the same key: the second waits, the first computes, both get 7
    (the oracle of a step is read only at `computing`; elsewhere `.fail` stands for any) -/
example : ((run (initSys c0) [.spawn 5, .spawn 5, .step 0 .fail, .step 0 .fail, .step 1 .fail, .step 1 .fail,
    .step 0 .fail, .step 0 (.ok 7 10), .step 0 .fail, .step 0 .fail, .step 0 .fail,
    .step 1 .fail, .step 1 .fail]).threads.map (·.pc)) = [.done (.ok 7), .done (.ok 7)] := by decide +kernel
/-- a failing compute: the owner returns the error, the waiter computes on its own -/
example : ((run (initSys c0) [.spawn 5, .spawn 5, .step 0 .fail, .step 0 .fail, .step 1 .fail, .step 1 .fail,
    .step 0 .fail, .step 0 .fail, .step 0 .fail, .step 0 .fail,
    .step 1 .fail, .step 1 .fail, .step 1 (.ok 9 10), .step 1 .fail]).threads.map (·.pc))
    = [.done .err, .done (.ok 9)] := by decide +kernel

end Restic.Props.C47
