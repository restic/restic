import Restic.Model.Init
import Restic.Proofs.BeFiles
import Restic.Gen.Source
import Restic.Gen.Consts
/-!
# C30 — init never overwrites an existing repository

Theorems about `Restic.Model.Init` (transcription of `runInit` / `CreateRepository` /
`Repository.Init` / `Repository.init` / `CreateConfig`), for **all** backend states, version
arguments, polynomials, injected faults and environment values.

Reading of the statement: "a key" / "a snapshot" is a file of that type whose name parses as an ID
(`Repository.List` skips every other name; restic itself never creates such names).
Irreducibility of the *random* polynomial is a property of `chunker.RandomPolynomial`, freshness of
the id one of `crypto/rand`; both are observed in the correspondence run (oracle fields of
`Observed`), not proved. A caller-supplied polynomial is stored as given (API precondition).
-/
namespace Restic.Props.C30
open Restic.Model.BeFiles Restic.Model.Init Restic.Proofs.BeFiles

/-- the constants of the current source -/
def K : Consts :=
  { minV := Restic.Gen.restic_MinRepoVersion, maxV := Restic.Gen.restic_MaxRepoVersion,
    stableV := Restic.Gen.restic_StableRepoVersion }

/-- no config, no key, no snapshot (in the form the `if`s of the model produce) -/
def Free (st : State) : Prop :=
  ¬ (get st cfgH).isSome = true ∧ ¬ listHas st .key = true ∧ ¬ listHas st .snapshot = true

theorem free_iff (st : State) : Free st ↔ occupied st = false := by
  unfold Free occupied
  simp only [Bool.not_eq_true, Bool.or_eq_false_iff, and_assoc]

def readsOnly (l : List Ev) : Prop :=
  l = [] ∨ l = [.stat cfgH] ∨ l = [.stat cfgH, .list .key] ∨ l = [.stat cfgH, .list .key, .list .snapshot]

theorem readsOnly_mutating (l : List Ev) (h : readsOnly l) : ∀ e ∈ l, e.mutating = false := by
  rcases h with rfl | rfl | rfl | rfl <;> intro e he <;> simp only [List.mem_cons, List.not_mem_nil, or_false] at he
  · rcases he with rfl; rfl
  · rcases he with rfl | rfl <;> rfl
  · rcases he with rfl | rfl | rfl <;> rfl

def keySave (o : Oracle) : Ev := .save ⟨.key, o.keyName⟩ o.keyContent
def evFailCfg (o : Oracle) : List Ev := [.stat cfgH, .list .key, .list .snapshot, keySave o]
def evCreate (o : Oracle) : List Ev := [.stat cfgH, .list .key, .list .snapshot, keySave o, .save cfgH o.cfgContent]

/-- The three shapes of a run of `Repository.Init`: an error after reads only; the injected
    config-save fault after the key was written; success. -/
theorem repoInit_char (k : Consts) (st : State) (f : Fault) (v : Nat) (pol : Option Nat) (o : Oracle) :
    ((repoInit k st f v pol o).1.isOk = false ∧ readsOnly (repoInit k st f v pol o).2) ∨
    (repoInit k st f v pol o = (.err .saveConfigFailed, evFailCfg o) ∧ f = .saveCfg ∧ Free st) ∨
    (repoInit k st f v pol o = (.ok (createConfig v pol o), evCreate o)
      ∧ f = .none ∧ Free st ∧ k.minV ≤ v ∧ v ≤ k.maxV) := by
  -- as a predicate on the result, so that each `if` of the decision list is eliminated where it
  -- stands (`iteInduction`; `split` re-simplifies the whole remaining list at every guard): one line
  -- per `if`, in the order of `repoInit`; the disjunct of `readsOnly` is the number of reads made by then
  let Q (r : Result × List Ev) : Prop :=
    (r.1.isOk = false ∧ readsOnly r.2) ∨ (r = (.err .saveConfigFailed, evFailCfg o) ∧ f = .saveCfg ∧ Free st) ∨
    (r = (.ok (createConfig v pol o), evCreate o) ∧ f = .none ∧ Free st ∧ k.minV ≤ v ∧ v ≤ k.maxV)
  show Q (repoInit k st f v pol o)
  unfold repoInit
  refine iteInduction (fun _ => .inl ⟨rfl, .inl rfl⟩) fun _ => ?_
  refine iteInduction (fun _ => .inl ⟨rfl, .inl rfl⟩) fun _ => ?_
  refine iteInduction (fun _ => .inl ⟨rfl, .inr (.inl rfl)⟩) fun _ => ?_
  refine iteInduction (fun _ => .inl ⟨rfl, .inr (.inl rfl)⟩) fun hcfg => ?_
  refine iteInduction (fun _ => .inl ⟨rfl, .inr (.inr (.inl rfl))⟩) fun _ => ?_
  refine iteInduction (fun _ => .inl ⟨rfl, .inr (.inr (.inl rfl))⟩) fun hkey => ?_
  refine iteInduction (fun _ => .inl ⟨rfl, .inr (.inr (.inr rfl))⟩) fun _ => ?_
  refine iteInduction (fun _ => .inl ⟨rfl, .inr (.inr (.inr rfl))⟩) fun hsnap => ?_
  refine iteInduction (fun _ => .inl ⟨rfl, .inr (.inr (.inr rfl))⟩) fun _ => ?_
  refine iteInduction (fun hf => .inr (.inl ⟨rfl, hf, hcfg, hkey, hsnap⟩)) fun _ => ?_
  refine .inr (.inr ⟨rfl, ?_, ⟨hcfg, hkey, hsnap⟩, by omega, by omega⟩)
  -- `f = .none`: each of the five other faults was the guard of a branch left behind
  cases f <;> first | rfl | contradiction

theorem repoInit_free (k : Consts) (st : State) (v : Nat) (pol : Option Nat) (o : Oracle) (hf : Free st)
    (hr : k.minV ≤ v ∧ v ≤ k.maxV) : repoInit k st .none v pol o = (.ok (createConfig v pol o), evCreate o) := by
  unfold repoInit
  rw [if_neg (by omega), if_neg (by omega)]
  simp only [reduceCtorEq, if_false, hf.1, hf.2.1, hf.2.2, evCreate, keySave]

theorem runInit_cases (k : Consts) (st : State) (f : Fault) (va : VerArg) (pol : Option Nat) (o : Oracle) :
    ((runInit k st f va pol o).1.isOk = false ∧ (runInit k st f va pol o).2 = []) ∨
    ∃ v, parseVersion k va = some v ∧ runInit k st f va pol o = repoInit k st f v pol o := by
  unfold runInit
  cases parseVersion k va with
  | none => exact .inl ⟨rfl, rfl⟩
  | some v =>
    dsimp only
    split
    · exact .inl ⟨rfl, rfl⟩
    · exact .inr ⟨v, rfl, rfl⟩

theorem runInit_char (k : Consts) (st : State) (f : Fault) (va : VerArg) (pol : Option Nat) (o : Oracle) :
    ((runInit k st f va pol o).1.isOk = false ∧ readsOnly (runInit k st f va pol o).2) ∨
    (runInit k st f va pol o = (.err .saveConfigFailed, evFailCfg o) ∧ f = .saveCfg ∧ Free st) ∨
    (∃ v, parseVersion k va = some v ∧ runInit k st f va pol o = (.ok (createConfig v pol o), evCreate o)
      ∧ f = .none ∧ Free st ∧ k.minV ≤ v ∧ v ≤ k.maxV) := by
  rcases runInit_cases k st f va pol o with ⟨h1, h2⟩ | ⟨v, hv, hr⟩
  · exact .inl ⟨h1, .inl h2⟩
  · rw [hr]
    exact (repoInit_char k st f v pol o).imp_right (Or.imp_right fun h => ⟨v, hv, h⟩)

/-- `Repository.Init` on a location that holds a config, a key or a snapshot: error, and no write
    reaches the backend — whatever the version (those outside the CLI's range included),
    polynomial, injected fault. -/
theorem repoInit_refuses (k : Consts) (st : State) (f : Fault) (v : Nat) (pol : Option Nat) (o : Oracle)
    (h : occupied st = true) :
    (repoInit k st f v pol o).1.isOk = false ∧ ∀ e ∈ (repoInit k st f v pol o).2, e.mutating = false := by
  rcases repoInit_char k st f v pol o with ⟨h1, h2⟩ | ⟨_, _, hf⟩ | ⟨_, _, hf, _⟩
  · exact ⟨h1, readsOnly_mutating _ h2⟩
  · rw [(free_iff st).mp hf] at h; cases h
  · rw [(free_iff st).mp hf] at h; cases h

theorem init_refuses (k : Consts) (st : State) (f : Fault) (va : VerArg) (pol : Option Nat) (o : Oracle)
    (h : occupied st = true) :
    (runInit k st f va pol o).1.isOk = false ∧ ∀ e ∈ (runInit k st f va pol o).2, e.mutating = false := by
  rcases runInit_cases k st f va pol o with ⟨h1, h2⟩ | ⟨v, _, hr⟩
  · exact ⟨h1, h2 ▸ fun _ he => nomatch he⟩
  · rw [hr]; exact repoInit_refuses k st f v pol o h

theorem init_refuses_state (k : Consts) (st : State) (f : Fault) (va : VerArg) (pol : Option Nat) (o : Oracle)
    (h : occupied st = true) : applyAll st (runInit k st f va pol o).2 = st :=
  applyAll_readonly _ st (init_refuses k st f va pol o h).2

theorem validID_ofList (l : List Char) : validID (String.ofList l) = (l.length == 64 && l.all isHex) := by
  rw [validID, String.toList_ofList]

theorem get_none_of_not_listHas (st : State) (t : FType) (n : String) (hv : validID n = true)
    (hl : ¬ listHas st t = true) : get st ⟨t, n⟩ = none := by
  cases hg : get st ⟨t, n⟩ with
  | none => rfl
  | some c =>
    have hm := mem_of_get st _ _ hg
    exfalso; apply hl
    unfold listHas
    rw [List.any_eq_true]
    exact ⟨_, hm, by simp [hv]⟩

/-- every write of `init` goes to a handle that did not exist before, and there is no remove.
    `validID o.keyName`: the new key file is named by its SHA-256. -/
theorem init_writes_fresh (k : Consts) (st : State) (f : Fault) (va : VerArg) (pol : Option Nat) (o : Oracle)
    (hk : validID o.keyName = true) :
    ∀ e ∈ (runInit k st f va pol o).2, ∀ h, e.target = some h → get st h = none ∧ ∃ c, e = .save h c := by
  intro e he h ht
  rcases runInit_char k st f va pol o with ⟨_, h2⟩ | ⟨hr, _, hf⟩ | ⟨_, _, hr, _, hf, _⟩
  · -- only reads, and a read has no target
    have hm := readsOnly_mutating _ h2 e he
    cases e with
    | save | remove => cases hm
    | load | stat | list => cases ht
  · rw [hr] at he
    simp only [evFailCfg, keySave, List.mem_cons, List.not_mem_nil, or_false] at he
    rcases he with rfl | rfl | rfl | rfl <;> simp only [Ev.target, Option.some.injEq, reduceCtorEq] at ht
    subst ht
    exact ⟨get_none_of_not_listHas st .key _ hk hf.2.1, _, rfl⟩
  · rw [hr] at he
    simp only [evCreate, keySave, List.mem_cons, List.not_mem_nil, or_false] at he
    rcases he with rfl | rfl | rfl | rfl | rfl <;> simp only [Ev.target, Option.some.injEq, reduceCtorEq] at ht
    · subst ht; exact ⟨get_none_of_not_listHas st .key _ hk hf.2.1, _, rfl⟩
    · subst ht; exact ⟨Option.not_isSome_iff_eq_none.mp hf.1, _, rfl⟩

/-- **init_preserves**: `init` never overwrites: every file present before is present afterwards with the
    same content — for every location, argument and fault. -/
theorem init_preserves (k : Consts) (st : State) (f : Fault) (va : VerArg) (pol : Option Nat) (o : Oracle)
    (hk : validID o.keyName = true) (h : Handle) (c : Content) (hg : get st h = some c) :
    get (applyAll st (runInit k st f va pol o).2) h = some c := by
  rw [get_applyAll_untouched _ st h, hg]
  intro e he ht
  have := (init_writes_fresh k st f va pol o hk e he h ht).1
  rw [hg] at this; cases this

/-- on a free location, without faults and with a supported version, `init` saves exactly a key and
    then the config; the config carries the requested version, the fresh id and the given or the
    random polynomial. -/
theorem init_creates (k : Consts) (st : State) (va : VerArg) (pol : Option Nat) (o : Oracle) (v : Nat)
    (hocc : occupied st = false) (hv : parseVersion k va = some v) (hr : k.minV ≤ v ∧ v ≤ k.maxV) :
    runInit k st .none va pol o =
      (.ok { version := v, id := o.randID, pol := pol.getD o.randPol }, evCreate o) := by
  unfold runInit
  rw [hv]
  simp only
  rw [if_neg (by omega), repoInit_free k st v pol o ((free_iff st).mpr hocc) hr]
  cases pol <;> rfl

/-- the converse of `init_creates`, under every fault -/
theorem init_ok_inv (k : Consts) (st : State) (f : Fault) (va : VerArg) (pol : Option Nat) (o : Oracle) (cfg : Config)
    (h : (runInit k st f va pol o).1 = .ok cfg) :
    k.minV ≤ cfg.version ∧ cfg.version ≤ k.maxV ∧ parseVersion k va = some cfg.version ∧
    cfg.id = o.randID ∧ cfg.pol = pol.getD o.randPol ∧ occupied st = false ∧ f = .none ∧
    (runInit k st f va pol o).2 = evCreate o := by
  rcases runInit_char k st f va pol o with ⟨h1, _⟩ | ⟨hr, _, _⟩ | ⟨v, hv, hr, hf, hfree, hlo, hhi⟩
  · rw [h] at h1; cases h1
  · rw [hr] at h; cases h
  · rw [hr] at h
    simp only [Result.ok.injEq] at h
    subst h
    refine ⟨hlo, hhi, hv, rfl, ?_, (free_iff st).mp hfree, hf, by rw [hr]⟩
    cases pol <;> rfl

/-- what the model's run looks like to an observer; the four oracle fields are what the environment
    guarantees (assumptions, validated against the real libraries in the correspondence run) -/
def observe (st : State) (r : Result × List Ev) (irr fresh opens rej : Bool) : Observed :=
  { pre := st, post := applyAll st r.2, ok := r.1.isOk,
    cfg := match r.1 with | .ok c => some c | .err _ => none,
    irreducible := irr, idFresh := fresh, opens := opens, rejectsWrong := rej }

theorem preserved_of_get (pre post : State) (h : ∀ p ∈ pre, get post p.1 = get pre p.1) :
    preserved pre post = true := by
  unfold preserved
  rw [List.all_eq_true]
  intro p hp
  simp [h p hp]

theorem newFiles_self (st : State) : newFiles st st = [] := by
  unfold newFiles
  rw [List.map_eq_nil_iff, List.filter_eq_nil_iff]
  intro p hp
  obtain ⟨c, hc⟩ := get_of_mem st p hp
  simp [hc]

theorem newFiles_erase (pre post : State) (h : Handle) :
    newFiles pre (erase post h) = (newFiles pre post).filter (· ≠ h) := by
  simp only [newFiles, erase, List.filter_map, List.filter_filter]
  congr 1
  apply List.filter_congr
  intro p _
  simp [Bool.and_comm]

theorem newFiles_put (pre post : State) (h : Handle) (c : Content) (hn : get pre h = none) :
    newFiles pre (put post h c) = h :: (newFiles pre post).filter (· ≠ h) := by
  rw [← newFiles_erase]
  simp only [newFiles, put, List.filter_cons, hn, Option.isNone_none, if_true, List.map_cons]

/-- **runInit_spec**: for every location, version argument, polynomial, fault and environment, the
    run of the transcription satisfies the executable statement `specOK` of C30 — provided the key
    file is named by a hash (`validID`, the one hypothesis), and observed in an environment that
    delivers the rest of what restic relies on (the four `true` handed to `observe`): a random
    polynomial is irreducible, the id is fresh, and the key written for the password opens with it
    and with no other (C29). -/
theorem runInit_spec (k : Consts) (st : State) (f : Fault) (va : VerArg) (pol : Option Nat) (o : Oracle)
    (hk : validID o.keyName = true) :
    specOK k (parseVersion k va) pol (f != .none) (observe st (runInit k st f va pol o) true true true true) = true := by
  have hpres : preserved st (applyAll st (runInit k st f va pol o).2) = true := by
    apply preserved_of_get
    intro p hp
    obtain ⟨c, hg⟩ := get_of_mem st p hp
    exact hg ▸ init_preserves k st f va pol o hk p.1 c hg
  rcases runInit_char k st f va pol o with ⟨h1, h2⟩ | ⟨hr, hf, hfree⟩ | ⟨v, hv, hr, hf, hfree, hlo, hhi⟩
  · have hst : applyAll st (runInit k st f va pol o).2 = st := applyAll_readonly _ st (readsOnly_mutating _ h2)
    rw [hst] at hpres
    unfold specOK observe
    simp only [hst, h1, newFiles_self, hpres]
    simp
  · have hn1 : get st ⟨.key, o.keyName⟩ = none := get_none_of_not_listHas st .key _ hk hfree.2.1
    have hnf : newFiles st (applyAll st (runInit k st f va pol o).2) = [⟨.key, o.keyName⟩] := by
      rw [hr]
      simp only [evFailCfg, keySave, applyAll, List.foldl_cons, List.foldl_nil, apply]
      rw [newFiles_put _ _ _ _ hn1, newFiles_self]; rfl
    unfold specOK observe
    simp only [hpres, hnf, (free_iff st).mp hfree]
    rw [hr, hf]
    simp [Result.isOk]
  · have hn1 : get st ⟨.key, o.keyName⟩ = none := get_none_of_not_listHas st .key _ hk hfree.2.1
    have hn2 : get st cfgH = none := Option.not_isSome_iff_eq_none.mp hfree.1
    have hnf : newFiles st (applyAll st (runInit k st f va pol o).2) = [cfgH, ⟨.key, o.keyName⟩] := by
      rw [hr]
      simp only [evCreate, keySave, applyAll, List.foldl_cons, List.foldl_nil, apply]
      rw [newFiles_put _ _ _ _ hn2, newFiles_put _ _ _ _ hn1, newFiles_self]
      simp [cfgH]
    unfold specOK observe
    simp only [hpres, hnf, (free_iff st).mp hfree, hv]
    rw [hr]
    cases pol <;> simp [Result.isOk, createConfig, hlo, hhi, cfgH]

/-- the default (`stable`) and `latest` versions are supported ones: a plain `restic init` on a
    free location succeeds (with `init_creates`) -/
theorem default_versions_supported :
    K.minV ≤ K.stableV ∧ K.stableV ≤ K.maxV ∧ K.minV ≤ K.maxV := by decide

theorem init_default_creates (st : State) (va : VerArg) (pol : Option Nat) (o : Oracle)
    (hocc : occupied st = false) (hva : va = .stable ∨ va = .latest) :
    (runInit K st .none va pol o).1.isOk = true := by
  rcases hva with rfl | rfl
  · rw [init_creates K st .stable pol o K.stableV hocc rfl (by decide)]; rfl
  · rw [init_creates K st .latest pol o K.maxV hocc rfl (by decide)]; rfl

/-- the version switch of `runInit` has exactly the spellings the model's `VerArg` distinguishes -/
theorem runInit_switch : Restic.Gen.C30_runInit_cases = ["\"latest\"", "\"\"", "\"stable\"", "default"] := by decide +kernel

/-- order of the checks in `Repository.Init`: config stat, then two listings, then `CreateConfig`,
    then `init` — the order of the model's decision list -/
theorem Init_order :
    Restic.Gen.C30_Init_calls.filter (fun c => c ∈ ["r.be.Stat", "r.List", "restic.CreateConfig", "r.init", "r.be.Save", "r.be.Remove", "restic.SaveConfig"])
      = ["r.be.Stat", "r.List", "r.List", "restic.CreateConfig", "r.init"] := by decide +kernel

/-- `Repository.init`: key first, config last (a crash in between leaves a key, which makes the
    next `init` refuse) -/
theorem init_order :
    Restic.Gen.C30_init_calls.filter (fun c => c ∈ ["createMasterKey", "restic.SaveConfig"])
      = ["createMasterKey", "restic.SaveConfig"] := by decide +kernel

/-- `CreateRepository` checks the version range before it opens/creates the backend and calls `Init` -/
theorem CreateRepository_order :
    Restic.Gen.C30_CreateRepository_calls.filter (fun c => c ∈ ["innerOpenBackend", "s.Init"])
      = ["innerOpenBackend", "s.Init"] ∧ Restic.Gen.C30_CreateRepository_calls.head? = some "errors.Fatalf" := by decide +kernel

def exO : Oracle := { randPol := 0x3DA3358B4DC173, randID := "id", keyName := String.ofList (List.replicate 64 'a'),
                      keyContent := "K", cfgContent := "C" }

/-- a location with packs and an index but no config/key/snapshot is *free*: init creates -/
example : (runInit K [(⟨.data, "p"⟩, "x"), (⟨.index, "i"⟩, "y")] .none .stable none exO).1.isOk = true := by decide +kernel
/-- a location with only a snapshot is refused -/
example : runInit K [(⟨.snapshot, String.ofList (List.replicate 64 'b')⟩, "x")] .none .stable none exO
    = (.err .containsSnapshots, [.stat cfgH, .list .key, .list .snapshot]) := by
  -- the name parses as an ID; the decision list then does not look at it again
  have hv : validID (String.ofList (List.replicate 64 'b')) = true := by rw [validID_ofList]; decide
  generalize String.ofList (List.replicate 64 'b') = n at hv ⊢
  simp [runInit, repoInit, parseVersion, K, listHas, hv, get_cons, cfgH]
  decide

/-- boundary of the reading: a key file whose name is not an ID does not count as a key -/
example : (runInit K [(⟨.key, "nothex"⟩, "x")] .none (.num 1) none exO).1.isOk = true := by decide +kernel
example : validID exO.keyName = true := by rw [exO, validID_ofList]; decide

end Restic.Props.C30
