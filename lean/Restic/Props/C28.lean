import Restic.Proofs.C28_Spec
import Restic.Proofs.C28_List
import Restic.Gen.Source
/-!
# C28 — Path patterns match per the documented glob semantics

Theorems about `Restic.Model.Filter` (transcription of internal/filter/filter.go: `match` with the
shared expansion buffer, `childMatch`, `list`), for ALL patterns, paths and glob oracles.

* `MatchSpec glob parts strs` (Proofs/C28_Match) is the documented meaning: expand each recursive
  wildcard into `k ≥ 0` single-component wildcards, then the parts must accept a window of
  consecutive components (at the start for an absolute pattern, anywhere after the root marker
  otherwise). `specMatch` (Model/Filter) is its executable version (`specMatch_iff`).
* the one-component glob is an oracle `glob : part → component → Option Bool` (`none` = bad
  pattern). Laws used, always as explicit hypotheses: `G1` (`*` accepts every component but the
  root marker "/") and `G3` (malformedness depends on the pattern only); the driver validates
  both on every table.
* every result of `match` is read through `matchGo_outcome : Decides (MatchSpec …) (BadOn …) …`
  (Proofs/C28_Match): `ok b` answers the meaning, the only error is the oracle's.
-/
namespace Restic.Props.C28
open Restic.Model.Filter Restic.Proofs.C28

/-- `match` never indexes out of range (pattern parts, path components, the expansion buffer with
    its in-place `append`) and its recursion terminates — for every pattern, path and oracle. -/
theorem match_total (glob : Glob) (parts : List Part) (strs : List Str) :
    matchGo glob parts strs ≠ .panic ∧ matchGo glob parts strs ≠ .fuel :=
  (matchGo_outcome glob parts strs).total

theorem childMatch_total (glob : Glob) (parts : List Part) (strs : List Str) (h : parts ≠ []) :
    childMatch glob parts strs ≠ .panic ∧ childMatch glob parts strs ≠ .fuel := by
  cases parts with
  | nil => exact absurd rfl h
  | cons p0 pt =>
    rcases childMatch_shape glob p0 pt strs with h1 | ⟨_, s', _, _, h1⟩
    · rw [h1]; exact ⟨nofun, nofun⟩
    · rw [h1]; exact match_total glob _ _

theorem splitSlash_ne_nil : ∀ s : Str, splitSlash s ≠ []
  | [] => nofun
  | c :: cs => by
    unfold splitSlash
    split
    · nofun
    · split <;> nofun

theorem splitPath_ne_nil (s : Str) : splitPath s ≠ [] := by
  unfold splitPath
  split
  · nofun
  · exact splitSlash_ne_nil s

/-- every prepared pattern has at least one part (so `parts[0]` in `childMatch` is in range) -/
theorem preparePattern_parts_ne (clean : Str → Str) (s : Str) (p : Pattern)
    (h : preparePattern clean s = .ok p) : p.parts ≠ [] := by
  unfold preparePattern at h
  cases s with
  | nil => cases h
  | cons c rest =>
    cases h
    exact fun h0 => splitPath_ne_nil _ (List.map_eq_nil_iff.mp h0)

theorem parsePatterns_parts_ne (clean : Str → Str) (l : List Str) (ps : List Pattern)
    (h : parsePatterns clean l = .ok ps) : ∀ p ∈ ps, p.parts ≠ [] := by
  induction l generalizing ps with
  | nil => cases h; nofun
  | cons s rest ih =>
    rw [parsePatterns] at h
    by_cases hs : s = []
    · rw [if_pos hs] at h
      exact ih ps h
    · rw [if_neg hs] at h
      unfold bindPat at h
      cases hp : preparePattern clean s with
      | ok p0 =>
        rw [hp] at h
        cases hr : parsePatterns clean rest with
        | ok ps' =>
          rw [hr] at h
          cases h
          intro p hmem
          rcases List.mem_cons.mp hmem with rfl | h1
          · exact preparePattern_parts_ne clean s p hp
          · exact ih ps' hr p h1
        | _ => rw [hr] at h; cases h
      | _ => rw [hp] at h; cases h

/-- `prepareStr` only ever answers or reports the empty string -/
theorem prepareStr_cases {α} {P : Res α → Prop} (f : List Str → Res α) (str : Str)
    (herr : P (.err .badString)) (hok : ∀ strs, P (f strs)) :
    P (match prepareStr str with
      | .ok strs => f strs
      | .err e => .err e
      | .panic => .panic
      | .fuel => .fuel) := by
  unfold prepareStr
  by_cases hs : str = []
  · rw [if_pos hs]; exact herr
  · rw [if_neg hs]; exact hok _

/-- the exported `Match` never panics: the empty pattern is answered before `patternStr[0]` -/
theorem Match_total (clean : Str → Str) (glob : Glob) (pat str : Str) :
    Match clean glob pat str ≠ .panic ∧ Match clean glob pat str ≠ .fuel := by
  unfold Match
  cases pat with
  | nil => exact ⟨nofun, nofun⟩
  | cons c rest =>
    rw [if_neg nofun]
    exact prepareStr_cases (P := fun r => r ≠ .panic ∧ r ≠ .fuel) _ str ⟨nofun, nofun⟩ fun strs => match_total glob _ strs

theorem ChildMatch_total (clean : Str → Str) (glob : Glob) (pat str : Str) :
    ChildMatch clean glob pat str ≠ .panic ∧ ChildMatch clean glob pat str ≠ .fuel := by
  unfold ChildMatch
  cases pat with
  | nil => exact ⟨nofun, nofun⟩
  | cons c rest =>
    rw [if_neg nofun]
    exact prepareStr_cases (P := fun r => r ≠ .panic ∧ r ≠ .fuel) _ str ⟨nofun, nofun⟩ fun strs =>
      childMatch_total glob _ strs (preparePattern_parts_ne clean (c :: rest) _ rfl)

theorem listLoop_total (glob : Glob) (cc hn : Bool) (strs : List Str) (pats : List Pattern) (m c : Bool)
    (hne : ∀ p ∈ pats, p.parts ≠ []) :
    listLoop glob cc hn strs pats m c ≠ .panic ∧ listLoop glob cc hn strs pats m c ≠ .fuel := by
  induction pats generalizing m c with
  | nil => exact ⟨nofun, nofun⟩
  | cons p ps ih =>
    have hps : ∀ q ∈ ps, q.parts ≠ [] := fun q hq => hne q (List.mem_cons_of_mem p hq)
    have hmt := match_total glob p.parts strs
    have hct : (if cc then childMatch glob p.parts strs else Res.ok true) ≠ .panic ∧
        (if cc then childMatch glob p.parts strs else Res.ok true) ≠ .fuel := by
      cases cc with
      | true => exact childMatch_total glob p.parts strs (hne p List.mem_cons_self)
      | false => exact ⟨nofun, nofun⟩
    rw [listLoop]
    generalize matchGo glob p.parts strs = rm at hmt
    generalize (if cc then childMatch glob p.parts strs else Res.ok true) = rc at hct
    cases rm with
    | ok mb =>
      cases rc with
      | ok cb =>
        dsimp only
        cases p.negated with
        | true => exact ih _ _ hps
        | false =>
          rw [if_neg nofun]
          by_cases hbr : ((m || mb) && (c || cb) && !hn) = true
          · rw [if_pos hbr]; exact ⟨nofun, nofun⟩
          · rw [if_neg hbr]; exact ih _ _ hps
      | err e => exact ⟨nofun, nofun⟩
      | panic => exact absurd rfl hct.1
      | fuel => exact absurd rfl hct.2
    | err e => exact ⟨nofun, nofun⟩
    | panic => exact absurd rfl hmt.1
    | fuel => exact absurd rfl hmt.2

/-- `List` / `ListWithChild` never panic on parsed patterns, for any path string -/
theorem list_total (clean : Str → Str) (glob : Glob) (raw : List Str) (pats : List Pattern) (cc : Bool)
    (str : Str) (hp : parsePatterns clean raw = .ok pats) :
    list glob pats cc str ≠ .panic ∧ list glob pats cc str ≠ .fuel := by
  unfold list
  split
  · exact ⟨nofun, nofun⟩
  · exact prepareStr_cases (P := fun r => r ≠ .panic ∧ r ≠ .fuel) _ str ⟨nofun, nofun⟩ fun strs =>
      listLoop_total glob cc _ strs pats false false (parsePatterns_parts_ne clean raw pats hp)

/-- The full characterisation: whenever `match` answers, the answer is the documented meaning. -/
theorem match_spec (glob : Glob) (parts : List Part) (strs : List Str) (b : Bool)
    (h : matchGo glob parts strs = .ok b) : b = true ↔ MatchSpec glob parts strs :=
  (h ▸ matchGo_outcome glob parts strs).ok_iff

theorem match_specMatch (glob : Glob) (parts : List Part) (strs : List Str) (b : Bool)
    (h : matchGo glob parts strs = .ok b) : b = specMatch glob parts strs :=
  Bool.eq_iff_iff.mpr ((match_spec glob parts strs b h).trans (specMatch_iff glob parts strs).symm)

/-- the only error is the glob oracle's bad-pattern error on a part of this pattern (or `*`) -/
theorem match_err (glob : Glob) (parts : List Part) (strs : List Str) (e : Err)
    (h : matchGo glob parts strs = .err e) : e = .badPattern ∧ BadOn glob parts strs :=
  (h ▸ matchGo_outcome glob parts strs).err

theorem match_valid (glob : Glob) (hg : G1 glob) (parts : List Part) (hne : NoErr glob parts)
    (strs : List Str) : matchGo glob parts strs = .ok (specMatch glob parts strs) :=
  (matchGo_outcome glob parts strs).eq_ok (not_badOn hg hne strs) (specMatch_iff glob parts strs)

def G3 (glob : Glob) : Prop := ∀ p c c', glob p c = none → glob p c' = none

/-- `ValidatePatterns` (each part matched against itself) establishes `NoErr` -/
theorem noErr_of_valid (glob : Glob) (h3 : G3 glob) (p : Pattern) (hv : validPattern glob p = true) :
    NoErr glob p.parts := by
  intro part hpart c hc
  unfold validPattern at hv
  rw [List.all_eq_true] at hv
  have := hv part hpart
  unfold partMatch at hc
  by_cases hs : part.simple = true
  · rw [if_pos hs] at hc; cases hc
  · rw [if_neg hs] at hc
    rw [h3 _ _ part.pat hc] at this
    cases this

/-- a match on a directory covers everything inside it -/
theorem match_upward_closed (glob : Glob) (hg : G1 glob) (parts : List Part) (hne : NoErr glob parts)
    (s ext : List Str) (hs : s ≠ []) (h : matchGo glob parts s = .ok true) :
    matchGo glob parts (s ++ ext) = .ok true :=
  matchGo_true_of_spec hg hne (matchSpec_upward ext hs (spec_of_matchGo_true h))

/-- without any assumption on the oracle: an extension is matched or reports the glob error -/
theorem match_upward_closed_any (glob : Glob) (parts : List Part) (s ext : List Str) (hs : s ≠ [])
    (h : matchGo glob parts s = .ok true) :
    matchGo glob parts (s ++ ext) = .ok true ∨ matchGo glob parts (s ++ ext) = .err .badPattern := by
  have hspec := matchSpec_upward ext hs (spec_of_matchGo_true h)
  have ho := matchGo_outcome glob parts (s ++ ext)
  generalize matchGo glob parts (s ++ ext) = r at ho ⊢
  cases ho with
  | yes _ => exact Or.inl rfl
  | no h' => exact absurd hspec h'
  | bad _ => exact Or.inr rfl

/-- the children-may-match answer is never false when some path below matches -/
theorem child_sound (glob : Glob) (hg : G1 glob) (parts : List Part) (hne : NoErr glob parts)
    (hparts : parts ≠ []) (s ext : List Str) (h : matchGo glob parts (s ++ ext) = .ok true) :
    childMatch glob parts s = .ok true := by
  cases parts with
  | nil => exact absurd rfl hparts
  | cons p0 pt =>
    rcases childMatch_shape glob p0 pt s with h1 | ⟨habs, s', hpre, hno, h1⟩
    · exact h1
    · rw [h1]
      exact matchGo_true_of_spec hg (noErr_take hne _) (matchSpec_take habs (spec_of_matchGo_true h)
        (hpre.trans (List.prefix_append s ext)) hno)

theorem childMatch_valid (glob : Glob) (hg : G1 glob) (parts : List Part) (hne : NoErr glob parts)
    (hparts : parts ≠ []) (strs : List Str) : ∃ b, childMatch glob parts strs = .ok b := by
  cases parts with
  | nil => exact absurd rfl hparts
  | cons p0 pt =>
    rcases childMatch_shape glob p0 pt strs with h1 | ⟨_, s', _, _, h1⟩
    · exact ⟨true, h1⟩
    · rw [h1]; exact ⟨_, match_valid glob hg _ (noErr_take hne _) _⟩

/-- answer of `childMatch` as a Boolean (only used where `childMatch_valid` applies) -/
def childB (glob : Glob) (parts : List Part) (strs : List Str) : Bool :=
  match childMatch glob parts strs with
  | .ok b => b
  | _ => false

/-- the children-may-match answer of `list` as a plain fold. It folds `childMatch`'s own answers
    (`childB`), so `list_spec` says of this half only that the `break` is harmless; what the answer
    means is `list_child_sound`. -/
def specListChild (glob : Glob) (cc : Bool) (pats : List Pattern) (strs : List Str) : Bool :=
  (listFold (fun p => specMatch glob p.parts strs)
    (fun p => if cc then childB glob p.parts strs else true) pats (false, false)).2

/-- hypotheses under which `list` is used by restic's commands: validated patterns -/
structure ValidPats (glob : Glob) (pats : List Pattern) : Prop where
  g1 : G1 glob
  noErr : ∀ p ∈ pats, NoErr glob p.parts
  parts : ∀ p ∈ pats, p.parts ≠ []

theorem specMatch_upward (glob : Glob) (parts : List Part) (s ext : List Str) (hs : s ≠ [])
    (h : specMatch glob parts s = true) : specMatch glob parts (s ++ ext) = true :=
  (specMatch_iff _ _ _).mpr (matchSpec_upward ext hs ((specMatch_iff _ _ _).mp h))

theorem childB_of_specMatch {glob : Glob} (hg : G1 glob) {parts : List Part} (hne : NoErr glob parts)
    (hparts : parts ≠ []) (s ext : List Str) (h : specMatch glob parts (s ++ ext) = true) :
    childB glob parts s = true := by
  rw [childB, child_sound glob hg parts hne hparts s ext (by rw [match_valid glob hg parts hne, h])]

/-- `list` (with its early `break`) computes the documented fold: start with "not matched", a
    plain pattern that matches sets it, a negated pattern that matches clears it again. -/
theorem list_spec (glob : Glob) (pats : List Pattern) (hv : ValidPats glob pats) (cc : Bool)
    (strs : List Str) :
    listStrs glob pats cc strs = .ok (specList glob pats strs, specListChild glob cc pats strs) := by
  have hc : ∀ p ∈ pats, (if cc then childMatch glob p.parts strs else .ok true) =
      .ok (if cc then childB glob p.parts strs else true) := by
    intro p hp
    cases cc with
    | false => rfl
    | true =>
      obtain ⟨b, hb⟩ := childMatch_valid glob hv.g1 p.parts (hv.noErr p hp) (hv.parts p hp) strs
      rw [if_pos rfl, if_pos rfl, childB, hb]
  rw [listStrs, listLoop_eq_fold glob cc _ strs (fun p => specMatch glob p.parts strs) _ pats _ _
    (fun p hp => match_valid glob hv.g1 p.parts (hv.noErr p hp) strs) hc
    fun hneg p hp => Bool.eq_false_iff.mpr (List.any_eq_false.mp hneg p hp), specList_eq_fold]
  rfl

/-- soundness of the children-may-match answer of `ListWithChild`, negated patterns included:
    if a path below `s` is matched by the list, `s` is reported as "children may match". -/
theorem list_child_sound (glob : Glob) (pats : List Pattern) (hv : ValidPats glob pats)
    (s ext : List Str) (hs : s ≠ [])
    (h : specList glob pats (s ++ ext) = true) : specListChild glob true pats s = true := by
  rw [specList_eq_fold glob pats fun _ => true] at h
  exact listFold_child_sound _ _ _ _ pats
    (fun p hp => childB_of_specMatch hv.g1 (hv.noErr p hp) (hv.parts p hp) s ext)
    (fun p _ => specMatch_upward glob p.parts s ext hs) _ _ id h

/-- when `ListWithChild` reports a match it also reports "children may match" -/
theorem list_matched_child (glob : Glob) (pats : List Pattern) (hv : ValidPats glob pats)
    (s : List Str) (h : specList glob pats s = true) : specListChild glob true pats s = true := by
  rw [specList_eq_fold] at h
  refine listFold_matched_child _ _ pats (fun p hp hm => ?_) _ id h
  exact childB_of_specMatch hv.g1 (hv.noErr p hp) (hv.parts p hp) s [] (by rwa [List.append_nil])

/-- without negated patterns a match of the list on a directory covers everything inside it -/
theorem list_upward (glob : Glob) (pats : List Pattern) (hnoneg : ∀ p ∈ pats, p.negated = false)
    (s ext : List Str) (hs : s ≠ []) (h : specList glob pats s = true) :
    specList glob pats (s ++ ext) = true := by
  rw [specList_eq_fold glob pats fun _ => true] at h ⊢
  exact listFold_upward _ _ _ _ pats hnoneg (fun p _ => specMatch_upward glob p.parts s ext hs) _ _ id h

theorem model_specOK (glob : Glob) (hg : G1 glob) (parts : List Part) (hne : NoErr glob parts)
    (hparts : parts ≠ []) (s ext : List Str) (hs : s ≠ []) (m m' c : Bool)
    (hm : matchGo glob parts s = .ok m) (hm' : matchGo glob parts (s ++ ext) = .ok m')
    (hc : childMatch glob parts s = .ok c) : specOK glob parts s ext m m' c = true := by
  have e1 := match_specMatch glob parts s m hm
  have e2 := match_specMatch glob parts (s ++ ext) m' hm'
  have up : m = true → m' = true := by
    intro h; subst h
    have := match_upward_closed glob hg parts hne s ext hs hm
    rw [hm'] at this; cases this; rfl
  have ch : m' = true → c = true := by
    intro h; subst h
    have := child_sound glob hg parts hne hparts s ext hm'
    rw [hc] at this; cases this; rfl
  unfold specOK
  rw [← e1, ← e2, decide_eq_true rfl, decide_eq_true rfl, Bool.true_and, Bool.true_and,
    Bool.and_eq_true, Bool.or_eq_true, Bool.or_eq_true, Bool.not_eq_true', Bool.not_eq_true']
  exact ⟨(Bool.eq_false_or_eq_true m).symm.imp_right up,
    (Bool.eq_false_or_eq_true m').symm.imp_right ch⟩

/-- `match` uses one buffer (`make`, `copy`, `append` — the aliasing modelled by `expandLoop`), one
    recursive call and `filepath.Match`; `childMatch` looks for the wildcard, takes `min` and calls
    `match`; `list` calls `match` and `childMatch`; `preparePattern` cleans before splitting. -/
theorem source_shape :
    Restic.Gen.filter_match_calls.filter (· ≠ "len") =
      ["hasDoubleWildcard", "make", "copy", "append", "match", "filepath.Match", "errors.Wrap"] ∧
    Restic.Gen.filter_childMatch_calls.filter (· ≠ "len") = ["hasDoubleWildcard", "min", "match"] ∧
    Restic.Gen.filter_list_calls = ["len", "prepareStr", "match", "childMatch"] ∧
    Restic.Gen.filter_preparePattern_calls.filter (· ≠ "len") =
      ["filepath.Clean", "splitPath", "make", "strings.ContainsAny"] := by
  decide +kernel

/-- a glob oracle for the examples: `*` accepts every component without a separator (`G1`), other
    parts compare literally -/
def exGlob : Glob := fun p c => some (if p = ['*'] then decide ('/' ∉ c) else p == c)

theorem exGlob_G1 : G1 exGlob := fun _ => rfl

def exParts (s : String) : List Part :=
  match preparePattern id s.toList with
  | .ok p => p.parts
  | _ => []

/-- the hypotheses of the theorems are satisfiable by a non-trivial pattern -/
example : NoErr exGlob (exParts "/a/**/c") := by
  intro p _ c h
  unfold partMatch exGlob at h
  split at h <;> cases h

/-- negation witness for the loop bound of the unmodified source (`matchOld`): with it the
    characterisation `match_spec` is false — `a/**/b/**/c` does not match `a/x/b/c`. -/
example : matchOld exGlob (exParts "a/**/b/**/c") (splitPath "a/x/b/c".toList) = .ok false ∧
    specMatch exGlob (exParts "a/**/b/**/c") (splitPath "a/x/b/c".toList) = true := by decide +kernel

example : matchGo exGlob (exParts "a/**/b/**/c") (splitPath "a/x/b/c".toList) = .ok true := by decide +kernel
example : matchGo exGlob (exParts "a/**/**") (splitPath "a".toList) = .ok true := by decide +kernel
example : matchOld exGlob (exParts "a/**/**") (splitPath "a".toList) = .ok false := by decide +kernel
example : childMatch exGlob (exParts "/a/**/c") (splitPath "/a/x".toList) = .ok true := by decide +kernel
example : childMatch exGlob (exParts "/a/**/c") (splitPath "/b".toList) = .ok false := by decide +kernel
example : matchGo exGlob (exParts "/a/*") (splitPath "/a/x/y".toList) = .ok true := by decide +kernel
example : matchGo exGlob (exParts "b") (splitPath "/a/b/c".toList) = .ok true := by decide +kernel
example : matchGo exGlob (exParts "/b") (splitPath "/a/b/c".toList) = .ok false := by decide +kernel

end Restic.Props.C28
