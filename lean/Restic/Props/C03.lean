import Restic.Model.Corrupt
import Restic.Props.C02
/-!
# C03 — Any corruption of repository data is reported, never silently used  (composite)

Components: C02 (`loadBlob_sound`: whatever the packs contain, a blob that loads hashes to the
requested ID) and the Merkle structure of snapshots (snapshot file named by its hash → root tree ID
→ tree blobs → data blob IDs).

The theorems compare an ORIGINAL repository `r` with ANY other repository content `r'` — no
assumption on how `r'` arose: every single flip / truncation / deletion in packs, index files and
snapshot files, and every combination of them, is an instance.

The MAC is not used: in this model every byte that reaches the output is settled by a hash
comparison, and the MAC is an additional barrier. The one file without a content address, `config`,
is protected by the MAC only; it is covered by the correspondence run (a mutated config or key must
make every command fail), not by these theorems.
-/
namespace Restic.Props.C03
-- both models have a `loadBlob`: with a `Codec` as first argument it is `Corrupt.loadBlob`
open Restic.Model.Store Restic.Model.Corrupt Restic.Props.C02

theorem allSome_cons_eq_some {α β : Type} {f : α → Option β} {a : α} {as : List α} {bs : List β} :
    allSome f (a :: as) = some bs ↔ ∃ b cs, f a = some b ∧ allSome f as = some cs ∧ bs = b :: cs := by
  rw [allSome]
  cases f a <;> cases allSome f as <;> simp [eq_comm]

theorem allSome_rel {α β : Type} (Q : Prop) (f g : α → Option β) (l : List α) (bs bs' : List β)
    (hf : allSome f l = some bs) (hg : allSome g l = some bs')
    (hp : ∀ a ∈ l, ∀ b b', f a = some b → g a = some b' → b = b' ∨ Q) : bs = bs' ∨ Q := by
  induction l generalizing bs bs' with
  | nil => cases hf; cases hg; exact .inl rfl
  | cons a as ih =>
    obtain ⟨b, cs, hfa, hfs, rfl⟩ := allSome_cons_eq_some.mp hf
    obtain ⟨b', cs', hga, hgs, rfl⟩ := allSome_cons_eq_some.mp hg
    obtain ⟨ha, has⟩ := List.forall_mem_cons.mp hp
    rcases ha b b' hfa hga with rfl | hq
    · exact (ih cs cs' hfs hgs has).imp_left (congrArg _)
    · exact .inr hq

theorem allSome_isSome {α β : Type} (f : α → Option β) (l : List α)
    (h : ∀ a ∈ l, (f a).isSome) : (allSome f l).isSome := by
  induction l with
  | nil => rfl
  | cons a as ih =>
    obtain ⟨ha, has⟩ := List.forall_mem_cons.mp h
    obtain ⟨b, hb⟩ := Option.isSome_iff_exists.mp ha
    obtain ⟨cs, hcs⟩ := Option.isSome_iff_exists.mp (ih has)
    exact Option.isSome_iff_exists.mpr ⟨_, allSome_cons_eq_some.mpr ⟨b, cs, hb, hcs, rfl⟩⟩

theorem mem_candidates {r : Repo} {t : Bool} {c : PackedBlob} {id : ID} :
    c ∈ candidates r t id ↔ c ∈ r.index ∧ c.blob.id = id ∧ c.blob.tree = t := by
  simp [candidates]

theorem loadBlob_eq_some {C : Codec} {r : Repo} {t : Bool} {id : ID} {p : Bytes} :
    loadBlob C r t id = some p ↔
      (Restic.Model.Store.loadBlob C.hash C.dec C.zdec (candidates r t id)
        ((candidates r t id).map (readReply r) ++ (candidates r t id).map (readReply r))).1 = .ok p := by
  unfold Restic.Model.Corrupt.loadBlob
  dsimp only
  split <;> simp_all

theorem loadBlob_hash (C : Codec) (r : Repo) (t : Bool) (id : ID) (p : Bytes)
    (h : loadBlob C r t id = some p) : C.hash p = id :=
  loadBlob_sound C.hash C.dec C.zdec id (candidates r t id) _ _ p
    (fun _ hc => (mem_candidates.mp hc).2.1) (Prod.ext (loadBlob_eq_some.mp h) rfl)

theorem loadBlob_same (C : Codec) (r r' : Repo) (t : Bool) (id : ID) (p p' : Bytes)
    (h : loadBlob C r t id = some p) (h' : loadBlob C r' t id = some p') :
    p = p' ∨ Collision C.hash :=
  eq_or_collision C.hash ((loadBlob_hash C r t id p h).trans (loadBlob_hash C r' t id p' h').symm)

theorem restoreTree_succ_eq_some {C : Codec} {r : Repo} {n : Nat} {id : ID} {t : List RTree} :
    restoreTree C r (n + 1) id = some t ↔ ∃ tb nodes, loadBlob C r true id = some tb ∧
      C.parseTree tb = some nodes ∧
      allSome (restoreNode (loadBlob C r false) (restoreTree C r n)) nodes = some t := by
  rw [restoreTree]
  cases loadBlob C r true id with
  | none => simp
  | some tb => cases hp : C.parseTree tb <;> simp [hp]

theorem restoreTree_unique (C : Codec) (r r' : Repo) :
    ∀ (n m : Nat) (id : ID) (t t' : List RTree),
      restoreTree C r n id = some t → restoreTree C r' m id = some t' → t = t' ∨ Collision C.hash := by
  -- assume there is no collision: then every `… ∨ Collision` below is an equation
  refine fun n m id t t' h h' => Classical.or_iff_not_imp_right.mpr fun hcol => ?_
  induction n generalizing m id t t' with
  | zero => simp [restoreTree] at h
  | succ n ih =>
    cases m with
    | zero => simp [restoreTree] at h'
    | succ m =>
      obtain ⟨tb, nodes, hl, hp, h⟩ := restoreTree_succ_eq_some.mp h
      obtain ⟨tb', nodes', hl', hp', h'⟩ := restoreTree_succ_eq_some.mp h'
      obtain rfl := (loadBlob_same C r r' true id tb tb' hl hl').resolve_right hcol
      obtain rfl := Option.some.inj (hp.symm.trans hp')
      refine (allSome_rel (Collision C.hash) _ _ nodes t t' h h' fun a _ b b' hb hb' => .inl ?_).resolve_right hcol
      cases a with
      | file nm md content =>
        simp only [restoreNode, Option.map_eq_some_iff] at hb hb'
        obtain ⟨ds, hds, rfl⟩ := hb
        obtain ⟨ds', hds', rfl⟩ := hb'
        rw [(allSome_rel _ _ _ content ds ds' hds hds'
          fun x _ d d' => loadBlob_same C r r' false x d d').resolve_right hcol]
      | dir nm md sub =>
        simp only [restoreNode, Option.map_eq_some_iff] at hb hb'
        obtain ⟨ch, hch, rfl⟩ := hb
        obtain ⟨ch', hch', rfl⟩ := hb'
        rw [ih m sub ch ch' hch hch']
      | other nm md =>
        simp only [restoreNode, Option.some.injEq] at hb hb'
        rw [← hb, ← hb']

theorem loadSnapRaw_some {C : Codec} {s : ID × Bytes} {root : ID} (h : loadSnapRaw C s = some root) :
    C.hash s.2 = s.1 ∧ (C.decUnp s.2).bind C.parseSnap = some root := by
  unfold loadSnapRaw at h
  split at h
  · cases h
  · rename_i hh
    exact ⟨by simpa using hh, h⟩

theorem loadSnap_some {C : Codec} {r : Repo} {sid root : ID} (h : loadSnap C r sid = some root) :
    ∃ raw, (sid, raw) ∈ r.snaps ∧ C.hash raw = sid ∧ (C.decUnp raw).bind C.parseSnap = some root := by
  unfold loadSnap at h
  cases hf : r.snaps.find? (fun s => s.1 == sid) with
  | none => simp [hf] at h
  | some s =>
    obtain ⟨h1, h2⟩ := loadSnapRaw_some (hf ▸ h)
    obtain rfl : s.1 = sid := by simpa using List.find?_some hf
    exact ⟨s.2, List.mem_of_find?_eq_some hf, h1, h2⟩

theorem loadSnap_same (C : Codec) (r r' : Repo) (sid root root' : ID)
    (h : loadSnap C r sid = some root) (h' : loadSnap C r' sid = some root') :
    root = root' ∨ Collision C.hash := by
  obtain ⟨raw, -, h1, h2⟩ := loadSnap_some h
  obtain ⟨raw', -, h1', h2'⟩ := loadSnap_some h'
  refine (eq_or_collision C.hash (h1.trans h1'.symm)).imp_left fun e => Option.some.inj ?_
  rw [← h2, ← h2', e]

theorem restoreSnap_some {C : Codec} {r : Repo} {n : Nat} {sid : ID} {t : List RTree}
    (h : restoreSnap C r n sid = some t) :
    ∃ root, loadSnap C r sid = some root ∧ restoreTree C r n root = some t := by
  unfold restoreSnap at h
  split at h
  · cases h
  · exact Option.bind_eq_some_iff.mp h

/-- **No sequence of stored-byte changes makes restore return different content**: if restoring
    snapshot `sid` from `r'` succeeds, the result is what restoring `sid` from `r` gave. -/
theorem restore_never_wrong (C : Codec) (r r' : Repo) (n m : Nat) (sid : ID) (t t' : List RTree)
    (h : restoreSnap C r n sid = some t) (h' : restoreSnap C r' m sid = some t') :
    t' = t ∨ Collision C.hash := by
  obtain ⟨root, hs, ht⟩ := restoreSnap_some h
  obtain ⟨root', hs', ht'⟩ := restoreSnap_some h'
  rcases loadSnap_same C r r' sid root root' hs hs' with rfl | hc
  · exact (restoreTree_unique C r r' n m root t t' ht ht').imp_left Eq.symm
  · exact .inr hc

structure Clean (C : Codec) (r : Repo) (f : Nat) : Prop where
  noIndexErr : r.indexErr = false
  packsPresent : ∀ c ∈ r.index, ∃ p ∈ r.packs, p.1 = c.pack
  hashes : ∀ p ∈ r.packs, C.hash p.2 = p.1
  decodes : ∀ c ∈ r.index, (decodeEntry C r c).isSome
  snaps : ∀ s ∈ r.snaps, ∃ root, loadSnapRaw C s = some root ∧ walk C r f root = true

theorem checkAll_nil_iff {C : Codec} {r : Repo} {f : Nat} : checkAll C r f = [] ↔ Clean C r f := by
  refine Iff.trans ?_ ⟨fun ⟨h1, h2, h3, h4, h5⟩ => ⟨h1, h2, h3, h4, h5⟩,
    fun h => And.intro h.noIndexErr <| And.intro h.packsPresent <| And.intro h.hashes <| And.intro h.decodes h.snaps⟩
  simp only [checkAll, List.append_eq_nil_iff, List.map_eq_nil_iff, List.filter_eq_nil_iff,
    List.flatMap_eq_nil_iff, and_assoc]
  refine and_congr ?_ (and_congr (forall₂_congr fun c _ => ?_) (and_congr (forall₂_congr fun p _ => ?_)
    (and_congr (forall₂_congr fun c _ => ?_) (forall₂_congr fun s _ => ?_))))
  · cases r.indexErr <;> simp
  · simp only [Bool.not_eq_true, Bool.not_eq_false', List.any_eq_true, beq_iff_eq]
  · simp
  · simp [Option.isSome_iff_ne_none]
  · cases loadSnapRaw C s <;> simp

theorem decodeEntry_eq_some_iff {C : Codec} {r : Repo} {c : PackedBlob} {p : Bytes} :
    decodeEntry C r c = some p ↔ ∃ buf b, readAt c.blob.length (readReply r c) = some buf ∧
      (next C.hash C.dec C.zdec { rd := buf, cur := c.blob.offset, blobs := [c.blob] }).1 = .value b p none := by
  unfold decodeEntry
  cases readAt c.blob.length (readReply r c) with
  | none => simp
  | some buf =>
    dsimp only
    split <;> simp_all

/-- `decodeEntry` is one step of `loadBlobPass`: a candidate that decodes ends the pass -/
theorem loadBlobPass_of_decodeEntry {C : Codec} {r : Repo} {c : PackedBlob} {p : Bytes}
    (h : decodeEntry C r c = some p) (cs : List PackedBlob) (rs : List ReadReply) :
    loadBlobPass C.hash C.dec C.zdec (c :: cs) (readReply r c :: rs) = (.ok p, rs) := by
  obtain ⟨buf, b, hra, hn⟩ := decodeEntry_eq_some_iff.mp h
  rw [loadBlobPass]
  simp only [hra, hn]

theorem loadBlob_complete (C : Codec) (r : Repo) (t : Bool) (id : ID)
    (hex : ∃ c ∈ r.index, c.blob.id = id ∧ c.blob.tree = t)
    (hall : ∀ c ∈ r.index, (decodeEntry C r c).isSome) : (loadBlob C r t id).isSome := by
  obtain ⟨c, hc⟩ := hex
  have hmem := mem_candidates.mpr hc
  cases hcs : candidates r t id with
  | nil => rw [hcs] at hmem; cases hmem
  | cons c0 cs =>
    -- the first candidate is an index entry, so it decodes: the first pass stops there
    obtain ⟨p, hd⟩ := Option.isSome_iff_exists.mp (hall c0 (mem_candidates.mp (hcs ▸ List.mem_cons_self ..)).1)
    refine Option.isSome_iff_exists.mpr ⟨p, loadBlob_eq_some.mpr ?_⟩
    simp [hcs, Restic.Model.Store.loadBlob, loadBlobPass_of_decodeEntry hd]

theorem walk_restore (C : Codec) (r : Repo) (hall : ∀ c ∈ r.index, (decodeEntry C r c).isSome) :
    ∀ (f : Nat) (root : ID), walk C r f root = true → (restoreTree C r f root).isSome := by
  intro f
  induction f with
  | zero => intro root h; simp [walk] at h
  | succ f ih =>
    intro root h
    rw [walk] at h
    rw [restoreTree]
    cases hl : loadBlob C r true root with
    | none => simp [hl] at h
    | some tb =>
      simp only [hl] at h ⊢
      cases hp : C.parseTree tb with
      | none => simp [hp] at h
      | some nodes =>
        simp only [hp] at h ⊢
        refine allSome_isSome _ _ fun a ha => ?_
        have hw := List.all_eq_true.mp h a ha
        cases a with
        | file nm md content =>
          simp only [restoreNode, Option.isSome_map]
          refine allSome_isSome _ _ fun x hx => loadBlob_complete C r false x ?_ hall
          simpa only [hasData, List.any_eq_true, Bool.and_eq_true, beq_iff_eq] using
            List.all_eq_true.mp hw x hx
        | dir nm md sub =>
          simp only [restoreNode, Option.isSome_map]
          exact ih sub hw
        | other nm md => rfl

/-- if `check --read-data` reports nothing, every listed snapshot restores -/
theorem check_ok_restorable (C : Codec) (r : Repo) (f : Nat) (sid : ID)
    (hok : checkAll C r f = []) (hl : (r.snaps.find? (fun s => s.1 == sid)).isSome) :
    (restoreSnap C r f sid).isSome := by
  have hc := checkAll_nil_iff.mp hok
  obtain ⟨s, hf⟩ := Option.isSome_iff_exists.mp hl
  obtain ⟨root, hr, hw⟩ := hc.snaps s (List.mem_of_find?_eq_some hf)
  have : restoreSnap C r f sid = restoreTree C r f root := by
    simp [restoreSnap, loadSnap, hc.noIndexErr, hf, hr]
  rw [this]
  exact walk_restore C r hc.decodes f root hw

/-- **A clean `check --read-data` means every listed snapshot restores to its original content.** -/
theorem check_ok_restore_same (C : Codec) (r r' : Repo) (n m : Nat) (sid : ID) (t : List RTree)
    (h : restoreSnap C r n sid = some t) (hok : checkAll C r' m = [])
    (hl : (r'.snaps.find? (fun s => s.1 == sid)).isSome) :
    restoreSnap C r' m sid = some t ∨ Collision C.hash := by
  obtain ⟨t', h'⟩ := Option.isSome_iff_exists.mp (check_ok_restorable C r' m sid hok hl)
  rw [h']
  exact (restore_never_wrong C r r' n m sid t t' h h').imp_left (congrArg _)

/-- **Corruption that a snapshot depends on is reported**: if restoring a still-listed snapshot from
    `r'` no longer gives the original result (it fails, or would differ), `check --read-data` on `r'`
    reports at least one error. -/
theorem corrupt_detected (C : Codec) (r r' : Repo) (n m : Nat) (sid : ID) (t : List RTree)
    (h : restoreSnap C r n sid = some t)
    (hl : (r'.snaps.find? (fun s => s.1 == sid)).isSome)
    (hdep : restoreSnap C r' m sid ≠ some t) :
    checkAll C r' m ≠ [] ∨ Collision C.hash :=
  Decidable.or_iff_not_imp_left.mpr fun hok =>
    (check_ok_restore_same C r r' n m sid t h (Decidable.not_not.mp hok) hl).resolve_left hdep

theorem next_single_of_decode (hash : Bytes → ID) (dec zdec : Bytes → Option Bytes) (b : Blob)
    (buf p : Bytes) (hl : buf.length = b.length) (hn : nonceSize < b.length)
    (hd : decodeBlob dec zdec b.ulen buf = some p) (hh : hash p = b.id) :
    (next hash dec zdec { rd := buf, cur := b.offset, blobs := [b] }).1 = .value b p none := by
  have hdec : decodeBlob dec zdec b.ulen ((buf.drop (b.offset - b.offset)).take b.length) = some p := by
    rw [Nat.sub_self, List.drop_zero, ← hl, List.take_length]
    exact hd
  exact congrArg Prod.fst (next_value_iff.mpr ⟨[], rfl, Nat.le_refl _, hn, by simp [hl], hdec, hh, rfl⟩)

theorem next_eof_blobs (hash : Bytes → ID) (dec zdec : Bytes → Option Bytes) (it it' : Iter)
    (h : next hash dec zdec it = (.eof, it')) : it.blobs = [] := by
  revert h
  fun_cases next hash dec zdec it
  case case1 hb => exact fun _ => hb
  -- no other branch returns `eof`
  all_goals intro h; injection h with ho; cases ho

/-- `it.rd = bytes.drop it.cur` is the loop invariant: the reader stands at `it.cur` of the pack file. -/
theorem streamClean_all (C : Codec) (bytes : Bytes) :
    ∀ (f : Nat) (it : Iter), it.rd = bytes.drop it.cur → streamClean C f it = true →
      ∀ b ∈ it.blobs, b.offset + b.length ≤ bytes.length ∧
        ∃ p, (next C.hash C.dec C.zdec { rd := (bytes.drop b.offset).take b.length, cur := b.offset, blobs := [b] }).1 =
          .value b p none := by
  intro f it
  fun_induction streamClean C f it with
  | case1 it => intro _ h; cases h
  | case2 f it it' hn =>  -- `eof`
    intro _ _ b hb
    rw [next_eof_blobs C.hash C.dec C.zdec it _ hn] at hb
    cases hb
  | case3 f it b0 p0 it' hn ih =>  -- a clean value
    intro hrd h b hb
    obtain ⟨rest, hbl, hcur, hnl, hlen, hdec, hh, rfl⟩ := next_value_iff.mp hn
    have hdrop : it.rd.drop (b0.offset - it.cur) = bytes.drop b0.offset := by
      rw [hrd, List.drop_drop, Nat.add_sub_cancel' hcur]
    have hfit : b0.offset + b0.length ≤ bytes.length := by
      rw [hrd, List.length_drop] at hlen; omega
    rw [hdrop] at hdec
    rw [hbl] at hb
    rcases List.mem_cons.mp hb with rfl | hb
    · exact ⟨hfit, p0, next_single_of_decode C.hash C.dec C.zdec b _ p0
        (by rw [List.length_take, List.length_drop]; omega) hnl hdec hh⟩
    · exact ih (by rw [hdrop, List.drop_drop]) h b hb
  | case4 => intro _ h; cases h

theorem checkPackStream_eq_true {C : Codec} {r : Repo} {p : ID × Bytes} :
    checkPackStream C r p = true ↔
      streamClean C ((packBlobsSorted r p.1).length + 1) { rd := p.2, cur := 0, blobs := packBlobsSorted r p.1 } = true ∧
      C.hash p.2 = p.1 := by
  simp [checkPackStream]

theorem checkPackStream_entries (C : Codec) (r : Repo) (p : ID × Bytes) (hp : checkPackStream C r p = true)
    (c : PackedBlob) (hc : c ∈ r.index)
    (hfind : r.packs.find? (fun q => q.1 == c.pack) = some p) : (decodeEntry C r c).isSome := by
  have hpk : p.1 = c.pack := by simpa using List.find?_some hfind
  have hmem : c.blob ∈ packBlobsSorted r p.1 := by
    unfold packBlobsSorted
    rw [List.mem_mergeSort]
    exact List.mem_map.mpr ⟨c, List.mem_filter.mpr ⟨hc, by simp [hpk]⟩, rfl⟩
  obtain ⟨hfit, q, hq⟩ := streamClean_all C p.2 _ { rd := p.2, cur := 0, blobs := packBlobsSorted r p.1 }
    rfl (checkPackStream_eq_true.mp hp).1 c.blob hmem
  refine Option.isSome_iff_exists.mpr ⟨q, decodeEntry_eq_some_iff.mpr ⟨_, c.blob, ?_, hq⟩⟩
  have hlen : ((p.2.drop c.blob.offset).take c.blob.length).length = c.blob.length := by
    rw [List.length_take, List.length_drop]; omega
  simp [readReply, hfind, readAt, hlen, List.take_of_length_le (Nat.le_of_eq hlen)]

theorem checkAllStream_nil_iff {C : Codec} {r : Repo} {f : Nat} :
    checkAllStream C r f = [] ↔
      r.indexErr = false ∧ (∀ c ∈ r.index, ∃ p ∈ r.packs, p.1 = c.pack) ∧
      (∀ p ∈ r.packs, checkPackStream C r p = true) ∧
      ∀ s ∈ r.snaps, ∃ root, loadSnapRaw C s = some root ∧ walk C r f root = true := by
  simp only [checkAllStream, List.append_eq_nil_iff, List.map_eq_nil_iff, List.filter_eq_nil_iff,
    List.flatMap_eq_nil_iff, and_assoc]
  refine and_congr ?_ (and_congr (forall₂_congr fun c _ => ?_) (and_congr (forall₂_congr fun p _ => ?_)
    (forall₂_congr fun s _ => ?_)))
  · cases r.indexErr <;> simp
  · simp only [Bool.not_eq_true, Bool.not_eq_false', List.any_eq_true, beq_iff_eq]
  · simp
  · cases loadSnapRaw C s <;> simp

theorem checkAllStream_nil (C : Codec) (r : Repo) (f : Nat) (h : checkAllStream C r f = []) :
    checkAll C r f = [] := by
  obtain ⟨hie, hpk, hst, hsn⟩ := checkAllStream_nil_iff.mp h
  refine checkAll_nil_iff.mpr
    { noIndexErr := hie, packsPresent := hpk, snaps := hsn
      hashes := fun p hp => (checkPackStream_eq_true.mp (hst p hp)).2
      decodes := fun c hc => ?_ }
  -- the pack that `readReply` finds is one the streaming pass went through
  obtain ⟨q, hq, hqe⟩ := hpk c hc
  cases hfind : r.packs.find? (fun q => q.1 == c.pack) with
  | none => simpa [hqe] using List.find?_eq_none.mp hfind q hq
  | some p =>
    exact checkPackStream_entries C r p (hst p (List.mem_of_find?_eq_some hfind)) c hc hfind

/-- `check_ok_restore_same` for the streaming transcription of `check --read-data` -/
theorem check_stream_ok_restore_same (C : Codec) (r r' : Repo) (n m : Nat) (sid : ID) (t : List RTree)
    (h : restoreSnap C r n sid = some t) (hok : checkAllStream C r' m = [])
    (hl : (r'.snaps.find? (fun s => s.1 == sid)).isSome) :
    restoreSnap C r' m sid = some t ∨ Collision C.hash :=
  check_ok_restore_same C r r' n m sid t h (checkAllStream_nil C r' m hok) hl

/-- `corrupt_detected` for the streaming transcription -/
theorem corrupt_detected_stream (C : Codec) (r r' : Repo) (n m : Nat) (sid : ID) (t : List RTree)
    (h : restoreSnap C r n sid = some t)
    (hl : (r'.snaps.find? (fun s => s.1 == sid)).isSome)
    (hdep : restoreSnap C r' m sid ≠ some t) :
    checkAllStream C r' m ≠ [] ∨ Collision C.hash :=
  (corrupt_detected C r r' n m sid t h hl hdep).imp_left fun hne hok => hne (checkAllStream_nil C r' m hok)

theorem hash_ne_or_collision {hash : Bytes → ID} {a b : Bytes} {n : ID} (ha : hash a = n) (hne : b ≠ a) :
    hash b ≠ n ∨ Collision hash :=
  if hb : hash b = n then .inr ((eq_or_collision hash (hb.trans ha.symm)).resolve_left hne) else .inl hb

theorem modified_pack_reported (C : Codec) (r' : Repo) (f : Nat) (name bytes bytes' : Bytes)
    (horig : C.hash bytes = name) (hmem : (name, bytes') ∈ r'.packs) (hne : bytes' ≠ bytes) :
    checkAll C r' f ≠ [] ∨ Collision C.hash :=
  (hash_ne_or_collision horig hne).imp_left fun hh hok => hh ((checkAll_nil_iff.mp hok).hashes _ hmem)

theorem deleted_pack_reported (C : Codec) (r' : Repo) (f : Nat) (c : PackedBlob)
    (hc : c ∈ r'.index) (hgone : ∀ p ∈ r'.packs, p.1 ≠ c.pack) : checkAll C r' f ≠ [] := by
  intro hok
  obtain ⟨p, hp, he⟩ := (checkAll_nil_iff.mp hok).packsPresent c hc
  exact hgone p hp he

theorem modified_snapshot_reported (C : Codec) (r' : Repo) (f : Nat) (sid raw raw' : Bytes)
    (horig : C.hash raw = sid) (hmem : (sid, raw') ∈ r'.snaps) (hne : raw' ≠ raw) :
    checkAll C r' f ≠ [] ∨ Collision C.hash := by
  refine (hash_ne_or_collision horig hne).imp_left fun hh hok => hh ?_
  obtain ⟨root, hr, -⟩ := (checkAll_nil_iff.mp hok).snaps _ hmem
  exact (loadSnapRaw_some hr).1

theorem index_error_reported (C : Codec) (r' : Repo) (f : Nat) (h : r'.indexErr = true) :
    checkAll C r' f ≠ [] := by
  intro hok
  rw [(checkAll_nil_iff.mp hok).noIndexErr] at h
  cases h

theorem loadUnpacked_returns_stored (hash : Bytes → ID) (dec zdec : Bytes → Option Bytes) (v : Nat)
    (t : FileType) (ht : t ≠ .config) (id : ID) (orig : Bytes) (replies : List BeReply) (q : Bytes)
    (rest : List BeReply) (horig : hash orig = id)
    (h : loadUnpacked hash dec zdec v t id replies = (.ok q, rest)) :
    (∃ pt, dec orig = some pt ∧ decompressUnpacked v zdec pt = some q) ∨ Collision hash := by
  obtain ⟨buf, pt, hb, -, hd, hq⟩ := loadUnpacked_sound hash dec zdec v t id replies q rest h ht
  rcases eq_or_collision hash (hb.trans horig.symm) with rfl | hc
  · exact .inl ⟨pt, hd, hq⟩
  · exact .inr hc

/-- whatever the backend serves under the name of the index file `orig`, what `loadUnpacked` accepts
    decodes from `orig` itself, or exhibits a collision: modified bytes are never loaded. (In `Repo`
    a refused index file is the flag `indexErr`; that link is not part of the statement.) -/
theorem modified_index_not_loaded (hash : Bytes → ID) (dec zdec : Bytes → Option Bytes) (v : Nat)
    (id : ID) (orig : Bytes) (replies : List BeReply) (q : Bytes) (rest : List BeReply)
    (horig : hash orig = id)
    (h : loadUnpacked hash dec zdec v .index id replies = (.ok q, rest)) :
    (∃ pt, dec orig = some pt ∧ decompressUnpacked v zdec pt = some q) ∨ Collision hash :=
  loadUnpacked_returns_stored hash dec zdec v .index (by decide) id orig replies q rest horig h

theorem spec_of_facts (k : FileKind) (m : Mutation) (listed : List Bool) (o : Observed)
    (h1 : ∀ x ∈ o.restores, x ≠ some false) (h2 : ∀ x ∈ o.dumps, x ≠ some false)
    (h3 : (∃ p ∈ List.zip listed o.restores, p.1 = true ∧ p.2 ≠ some true) → o.checkErr = true)
    (h4 : mustReport k m = true → o.checkErr = true) : specOK k m listed o = true := by
  unfold specOK
  simp only [Bool.and_eq_true, List.all_eq_true, bne_iff_ne, ne_eq, Bool.or_eq_true,
    Bool.not_eq_true', beq_iff_eq]
  refine ⟨⟨⟨h1, h2⟩, ?_⟩, ?_⟩
  · by_cases hc : o.checkErr = true
    · exact Or.inr hc
    · left
      intro p hp
      by_cases hp1 : p.1 = true
      · right
        exact Classical.byContradiction fun hne => hc (h3 ⟨p, hp, hp1, hne⟩)
      · left; simpa using hp1
  · by_cases hm : mustReport k m = true
    · exact Or.inr (h4 hm)
    · left; simpa using hm

/-- the classification used by the correspondence run is consistent: exactly the classes with a
    `check` prediction "errors" are the `mustReport` ones -/
theorem mustReport_iff_expect (k : FileKind) (m : Mutation) :
    mustReport k m = true ↔ expectCheck k m = some true := by
  cases k <;> cases m <;> decide

/-- … and no predicted restore outcome is a restore with wrong content -/
theorem admits_never_wrong (k : FileKind) (m : Mutation) (self : Bool) (x : Option Bool)
    (h : (expectRestore k m self).admits x = true) : x ≠ some false := by
  intro hx; subst hx
  generalize expectRestore k m self = e at h
  cases e <;> cases h

def toyC : Codec where
  hash := toyHash
  dec := some
  zdec := some
  decUnp := some
  parseTree := fun b => some [Node.file [1] [] [toyHash b]]   -- a tree blob "lists" one file whose content is the blob itself
  parseSnap := some

-- a single blob (20 bytes) serves as tree and as data. Restore succeeds; the pack is named `[9]`,
-- not by its hash, and that is the one thing `check` reports
def toyBlob : Bytes := List.replicate 20 4
def toyRepo : Repo where
  packs := [([9], toyBlob)]
  indexErr := false
  index := [⟨[9], ⟨toyHash toyBlob, true, 0, 20, 0⟩⟩, ⟨[9], ⟨toyHash toyBlob, false, 0, 20, 0⟩⟩]
  snaps := [(toyHash (toyHash toyBlob), toyHash toyBlob)]

example : (restoreSnap toyC toyRepo 2 (toyHash (toyHash toyBlob))).isSome = true := by decide +kernel
example : (checkAll toyC { toyRepo with packs := [([9], toyBlob)] } 2).filter (· != .packHash [9]) = [] := by decide +kernel
-- the pack is cut short: the blob no longer decodes, check reports, restore fails
example : restoreSnap toyC { toyRepo with packs := [([9], toyBlob.take 19)] } 2 (toyHash (toyHash toyBlob)) = none := by decide +kernel
example : checkAll toyC { toyRepo with packs := [([9], toyBlob.take 19)] } 2 ≠ [] := by decide +kernel
example : checkAll toyC { toyRepo with packs := [] } 2 ≠ [] := by decide +kernel

end Restic.Props.C03
