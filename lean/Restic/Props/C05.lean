import Restic.Model.Crypto
import Restic.Gen.Source
/-!
# C05 — Authenticated encryption round-trips and rejects every forgery

Theorems about `Restic.Model.Crypto` (transcription of `Key.Seal` / `Key.Open` / `Valid` /
`validNonce` / `KDF`). The primitives are parameters `P : Prims`; the only laws assumed about
them are collected in `Laws` (CTR is a length-preserving involution, Poly1305 tags have
`macSize` bytes) and are hypotheses of exactly the theorems that need them.

Unforgeability of Poly1305-AES is *not* a law one can state about a function (for every function
`mac` there are valid triples), so "every changed bit is rejected" is proved in the only form that
is true for all keys: a tampered message is accepted **iff** its tag is the correct tag of the
tampered (nonce, body) — `open_ok_iff_mac`, `body_change_accepted_iff`, `nonce_change_accepted_iff`,
`other_key_accepted_iff` — i.e. every acceptance exhibits a concrete MAC collision/forgery;
a change of the *tag alone* is rejected unconditionally (`tag_change_rejected`).
-/
namespace Restic.Props.C05
open Restic.Model.Crypto

structure Laws (P : Prims) : Prop where
  ctr_len : ∀ k n d, (P.ctr k n d).length = d.length
  ctr_inv : ∀ k n d, P.ctr k n (P.ctr k n d) = d
  poly_len : ∀ k m, (P.poly k m).length = macSize

/-- the size constants the model is built on, as the current source defines them -/
theorem sizes : ivSize = 16 ∧ macSize = 16 ∧ extension = ivSize + macSize ∧ aesKeySize = 32 ∧
    macKeySizeK = 16 ∧ macKeySizeR = 16 ∧ saltLength = 64 ∧ dkLen = 32 := by decide

/-- `Key.Open`: key check, then nonce check, then MAC verification, and only then decryption;
    nothing is decrypted before the MAC has been verified. -/
theorem open_verifies_before_decrypt :
    let c := Restic.Gen.crypto_Open_calls
    c.idxOf "k.Valid" < c.idxOf "validNonce" ∧ c.idxOf "validNonce" < c.idxOf "poly1305Verify" ∧
    c.idxOf "poly1305Verify" < c.idxOf "cipher.NewCTR" ∧ c.idxOf "poly1305Verify" < c.idxOf "e.XORKeyStream" ∧
    "e.XORKeyStream" ∈ c ∧ c.count "e.XORKeyStream" = 1 ∧ c.count "poly1305Verify" = 1 := by decide +kernel

/-- `Key.Seal`: key and nonce checks precede encryption; the MAC is computed after (over) the
    ciphertext (encrypt-then-MAC). -/
theorem seal_checks_then_encrypt_then_mac :
    let c := Restic.Gen.crypto_Seal_calls
    c.idxOf "k.Valid" < c.idxOf "validNonce" ∧ c.idxOf "validNonce" < c.idxOf "e.XORKeyStream" ∧
    c.idxOf "e.XORKeyStream" < c.idxOf "poly1305MAC" ∧ "poly1305MAC" ∈ c := by decide +kernel

/-- `KDF`: the parameter check precedes the call of scrypt. -/
theorem kdf_checks_before_scrypt :
    let c := Restic.Gen.crypto_KDF_calls
    c.idxOf "params.Check" < c.idxOf "scrypt.Key" ∧ "scrypt.Key" ∈ c ∧
    c.idxOf "scrypt.Key" < c.idxOf "macKeyFromSlice" := by decide +kernel

/-- `poly1305Verify` verifies with the prepared one-time key and does nothing else. -/
theorem verify_uses_prepared_key :
    Restic.Gen.crypto_poly1305Verify_calls = ["poly1305PrepareKey", "copy", "poly1305.Verify"] := by decide +kernel

theorem foldl_or_eq_zero (n : Bytes) (acc : UInt8) :
    n.foldl (fun sum b => sum ||| b) acc = 0 ↔ acc = 0 ∧ ∀ b ∈ n, b = 0 := by
  induction n generalizing acc with
  | nil => simp
  | cons a as ih =>
    simp only [List.foldl_cons, ih, UInt8.or_eq_zero_iff, List.mem_cons, forall_eq_or_imp]
    exact and_assoc

theorem validNonce_eq (n : Bytes) : validNonce n = !allZero n := by
  unfold validNonce allZero
  rw [Bool.eq_iff_iff]
  simp [UInt8.pos_iff_ne_zero, foldl_or_eq_zero]

theorem foldl_flag (l : Bytes) (acc : Bool) :
    l.foldl (fun acc b => if b != 0 then true else acc) acc = (acc || l.any (· != 0)) := by
  induction l generalizing acc with
  | nil => simp
  | cons a as ih =>
    simp only [List.foldl_cons, ih, List.any_cons]
    by_cases h : (a != 0) = true <;> simp [h]

theorem any_ne_zero_eq (l : Bytes) : l.any (· != 0) = !allZero l :=
  (List.not_all_eq_any_not ..).symm

theorem keyValid_eq (k : Key) : keyValid k = !keyInvalid k := by
  unfold keyValid keyInvalid encKeyValid macKeyValid
  simp only [foldl_flag, Bool.false_or, any_ne_zero_eq]
  cases allZero k.enc <;> cases allZero k.macK <;> cases allZero k.macR <;> rfl

/-- `Seal` succeeds exactly on a valid key, no additional data, a 16-byte non-zero nonce; otherwise
    it panics: nothing is ever encrypted under an invalid key or an all-zero nonce. -/
theorem seal_ok_iff (P : Prims) (k : Key) (dst n p ad c : Bytes) :
    sealK P k dst n p ad = .ok c ↔
      keyValid k = true ∧ ad = [] ∧ n.length = ivSize ∧ validNonce n = true ∧
      c = dst ++ P.ctr k.enc n p ++ poly1305MAC P (P.ctr k.enc n p) n k := by
  constructor
  · -- the only branch that does not panic lies behind the four checks
    fun_cases sealK P k dst n p ad <;> intro h <;> cases h
    have h1 := ‹¬ (!keyValid k) = true›
    have h2 := ‹¬ ad.length > 0›
    have h3 := ‹¬ (n.length != ivSize) = true›
    have h4 := ‹¬ (!validNonce n) = true›
    simp only [Bool.not_eq_true, Bool.not_eq_false', bne_eq_false_iff_eq, Nat.not_lt,
      Nat.le_zero, List.length_eq_zero_iff] at h1 h2 h3 h4
    exact ⟨h1, h2, h3, h4, rfl⟩
  · rintro ⟨h1, rfl, h3, h4, rfl⟩
    simp [sealK, h1, h3, h4]

theorem seal_rejects (P : Prims) (k : Key) (dst n p ad : Bytes)
    (h : keyInvalid k = true ∨ allZero n = true) : ∃ w, sealK P k dst n p ad = .panic w := by
  cases hs : sealK P k dst n p ad with
  | panic w => exact ⟨w, rfl⟩
  | ok c =>
    have := (seal_ok_iff P k dst n p ad c).mp hs
    rw [keyValid_eq, validNonce_eq] at this
    rcases h with h | h <;> simp [h] at this

theorem mac_len {P : Prims} (L : Laws P) (m n : Bytes) (k : Key) :
    (poly1305MAC P m n k).length = macSize :=
  L.poly_len _ _

theorem seal_len (P : Prims) (L : Laws P) (k : Key) (dst n p ad c : Bytes)
    (h : sealK P k dst n p ad = .ok c) : c.length = dst.length + p.length + macSize := by
  rw [((seal_ok_iff P k dst n p ad c).mp h).2.2.2.2, List.length_append, List.length_append,
    mac_len L, L.ctr_len]

/-- the stored form `nonce ‖ body ‖ tag` is `Extension` bytes (as regenerated from the source)
    longer than the plaintext and starts with the nonce -/
theorem sealWithNonce_len (P : Prims) (L : Laws P) (k : Key) (n p c : Bytes)
    (h : sealWithNonce P k n p = .ok c) :
    c.length = p.length + Restic.Gen.crypto_Extension ∧ c.take ivSize = n := by
  have h' := (seal_ok_iff P k n n p [] c).mp h
  have hl := seal_len P L k n n p [] c h
  have he : Restic.Gen.crypto_Extension = ivSize + macSize := by decide
  refine ⟨by rw [hl, h'.2.2.1, he]; omega, ?_⟩
  rw [h'.2.2.2.2, List.append_assoc, ← h'.2.2.1, List.take_left']
  rfl

/-- **No path to plaintext bypasses the MAC**: `Open` returns plaintext exactly when key and nonce
    are valid, the input has room for a tag, and the last `macSize` bytes are the Poly1305-AES tag of
    everything before them under this key and nonce; the plaintext is then the CTR decryption of
    the authenticated bytes. -/
theorem open_ok_iff_mac (P : Prims) (k : Key) (dst n c q : Bytes) :
    openK P k dst n c = .ok q ↔
      keyValid k = true ∧ n.length = ivSize ∧ validNonce n = true ∧ macSize ≤ c.length ∧
      poly1305MAC P (c.take (c.length - macSize)) n k = c.drop (c.length - macSize) ∧
      q = dst ++ P.ctr k.enc n (c.take (c.length - macSize)) := by
  constructor
  · -- plaintext is returned on the last branch only, behind all five checks
    fun_cases openK P k dst n c <;> intro h <;> cases h
    have h1 := ‹¬ (!keyValid k) = true›
    have h2 := ‹¬ (n.length != ivSize) = true›
    have h3 := ‹¬ (!validNonce n) = true›
    have h5 := ‹¬ (!poly1305Verify P _ n k _) = true›
    simp only [Bool.not_eq_true, Bool.not_eq_false', bne_eq_false_iff_eq, poly1305Verify,
      beq_iff_eq] at h1 h2 h3 h5
    exact ⟨h1, h2, h3, Nat.le_of_not_lt ‹¬ c.length < macSize›, h5, rfl⟩
  · rintro ⟨h1, h2, h3, h4, h5, rfl⟩
    simpa [openK, h1, h2, h3, Nat.not_lt.mpr h4, poly1305Verify, poly1305MAC] using h5

theorem open_append_iff {P : Prims} {k : Key} {dst n body tag q : Bytes} (hl : tag.length = macSize) :
    openK P k dst n (body ++ tag) = .ok q ↔
      keyValid k = true ∧ n.length = ivSize ∧ validNonce n = true ∧
      poly1305MAC P body n k = tag ∧ q = dst ++ P.ctr k.enc n body := by
  have hlen : (body ++ tag).length - macSize = body.length := by simp [hl]
  rw [open_ok_iff_mac, hlen, List.take_left' rfl, List.drop_left' rfl]
  simp [hl]

theorem open_append_accepted {P : Prims} {k : Key} {dst n body tag : Bytes} (hk : keyValid k = true)
    (hn : n.length = ivSize) (hv : validNonce n = true) (hl : tag.length = macSize) :
    (∃ q, openK P k dst n (body ++ tag) = .ok q) ↔ poly1305MAC P body n k = tag := by
  simp [open_append_iff hl, hk, hn, hv]

theorem open_short (P : Prims) (k : Key) (dst n c : Bytes) (h : c.length < macSize) :
    ∀ q, openK P k dst n c ≠ .ok q := by
  intro q hq
  have := (open_ok_iff_mac P k dst n c q).mp hq
  omega

/-- a stored buffer shorter than `Extension` never decrypts -/
theorem openBuf_short (P : Prims) (k : Key) (buf : Bytes) (h : buf.length < extension) :
    ∀ q, openBuf P k buf ≠ .ok q := by
  intro q hq
  have h' := (open_ok_iff_mac P k [] _ _ q).mp hq
  have he : extension = ivSize + macSize := by decide
  have h1 := h'.2.1
  have h2 := h'.2.2.2.1
  simp only [List.length_take, List.length_drop] at h1 h2
  omega

theorem open_invalid_key (P : Prims) (k : Key) (dst n c : Bytes) (h : keyInvalid k = true) :
    openK P k dst n c = .err .invalidKey := by
  unfold openK; simp [keyValid_eq, h]

theorem open_zero_nonce (P : Prims) (k : Key) (dst n c : Bytes) (h : allZero n = true) :
    ∀ q, openK P k dst n c ≠ .ok q := by
  intro q hq
  have := (open_ok_iff_mac P k dst n c q).mp hq
  rw [validNonce_eq] at this; simp [h] at this

/-- with a nonce of the right length (what every caller passes) `Open` never panics -/
theorem open_no_panic (P : Prims) (k : Key) (dst n c : Bytes) (h : n.length = ivSize) :
    ∀ w, openK P k dst n c ≠ .panic w := by
  intro w
  -- the one panicking branch is guarded by the nonce length
  fun_cases openK P k dst n c <;> intro hw <;> cases hw
  rename_i hne
  simp [h] at hne

/-- **Round trip**: what `Seal` produced (after the caller's `dst` prefix) opens to the plaintext. -/
theorem open_seal (P : Prims) (L : Laws P) (k : Key) (dst dst' n p c : Bytes)
    (h : sealK P k dst n p [] = .ok c) :
    openK P k dst' n (c.drop dst.length) = .ok (dst' ++ p) := by
  obtain ⟨hk, -, hn, hv, rfl⟩ := (seal_ok_iff P k dst n p [] c).mp h
  rw [List.append_assoc, List.drop_left' rfl, open_append_iff (mac_len L ..)]
  exact ⟨hk, hn, hv, rfl, by rw [L.ctr_inv]⟩

/-- round trip in the stored form used by every call site -/
theorem openBuf_sealWithNonce (P : Prims) (L : Laws P) (k : Key) (n p c : Bytes)
    (h : sealWithNonce P k n p = .ok c) : openBuf P k c = .ok p := by
  have hn := ((seal_ok_iff P k n n p [] c).mp h).2.2.1
  have ht := (sealWithNonce_len P L k n p c h).2
  unfold openBuf
  rw [ht, ← hn]
  exact open_seal P L k n [] n p c h

/-- A change of the tag alone is rejected, for every key — no assumption on the primitives. -/
theorem tag_change_rejected (P : Prims) (k : Key) (dst n body tag tag' : Bytes)
    (htag : tag = poly1305MAC P body n k) (hl : tag'.length = macSize) (hne : tag' ≠ tag) :
    ∀ q, openK P k dst n (body ++ tag') ≠ .ok q :=
  fun _ hq => hne (((open_append_iff hl).mp hq).2.2.2.1.symm.trans htag.symm)

/-- A changed body under the original tag is accepted iff the two bodies collide under the
    one-time Poly1305-AES key of this (key, nonce). -/
theorem body_change_accepted_iff (P : Prims) (k : Key) (dst n body body' tag : Bytes)
    (hk : keyValid k = true) (hn : n.length = ivSize) (hv : validNonce n = true)
    (htag : tag = poly1305MAC P body n k) (hl : tag.length = macSize) :
    (∃ q, openK P k dst n (body' ++ tag) = .ok q) ↔ poly1305MAC P body' n k = poly1305MAC P body n k := by
  rw [open_append_accepted hk hn hv hl, htag]

/-- A changed nonce is accepted iff the tag is also the tag of the same body under the other nonce. -/
theorem nonce_change_accepted_iff (P : Prims) (k : Key) (dst n n' body tag : Bytes)
    (hk : keyValid k = true) (hn : n'.length = ivSize) (hv : validNonce n' = true)
    (htag : tag = poly1305MAC P body n k) (hl : tag.length = macSize) :
    (∃ q, openK P k dst n' (body ++ tag) = .ok q) ↔ poly1305MAC P body n' k = poly1305MAC P body n k := by
  rw [open_append_accepted hk hn hv hl, htag]

/-- Opening with another key is accepted iff that key produces the same tag (whatever its
    encryption part is). -/
theorem other_key_accepted_iff (P : Prims) (k k' : Key) (dst n body tag : Bytes)
    (hk : keyValid k' = true) (hn : n.length = ivSize) (hv : validNonce n = true)
    (htag : tag = poly1305MAC P body n k) (hl : tag.length = macSize) :
    (∃ q, openK P k' dst n (body ++ tag) = .ok q) ↔ poly1305MAC P body n k' = poly1305MAC P body n k := by
  rw [open_append_accepted hk hn hv hl, htag]

/-- Boundary of the statement "fails when a different key is used": the encryption key takes no
    part in authentication. A key with the same MAC part and another (valid) encryption part is
    accepted and yields the CTR stream of *that* key. (Real keys are generated as a whole, so this
    needs a key sharing 32 secret bytes with the right one; recorded, not claimed.) -/
theorem enc_key_only_swap_accepted (P : Prims) (L : Laws P) (k k' : Key) (n p c : Bytes)
    (h : sealK P k [] n p [] = .ok c) (hK : k'.macK = k.macK) (hR : k'.macR = k.macR)
    (hv : keyValid k' = true) :
    openK P k' [] n c = .ok (P.ctr k'.enc n (P.ctr k.enc n p)) := by
  obtain ⟨-, -, hn, hvn, rfl⟩ := (seal_ok_iff P k [] n p [] c).mp h
  rw [List.nil_append, open_append_iff (mac_len L ..)]
  -- the tag depends on the MAC part of the key only
  exact ⟨hv, hn, hvn, by simp only [poly1305MAC, poly1305PrepareKey, hK, hR], rfl⟩

/-- Any accepted input different from the sealed one carries a *forgery*: a valid
    (nonce, body, tag) triple different from the one `Seal` issued. -/
theorem modified_accepted_is_forgery (P : Prims) (k : Key) (dst n p c n' c' q : Bytes)
    (h : sealK P k [] n p [] = .ok c) (hne : (n', c') ≠ (n, c))
    (ho : openK P k dst n' c' = .ok q) :
    ∃ body' tag', c' = body' ++ tag' ∧ tag'.length = macSize ∧ tag' = poly1305MAC P body' n' k ∧
      (n', body', tag') ≠ (n, P.ctr k.enc n p, poly1305MAC P (P.ctr k.enc n p) n k) := by
  obtain ⟨-, -, -, -, hc⟩ := (seal_ok_iff P k [] n p [] c).mp h
  obtain ⟨-, -, -, hlen, hmac, -⟩ := (open_ok_iff_mac P k dst n' c' q).mp ho
  refine ⟨c'.take (c'.length - macSize), c'.drop (c'.length - macSize),
    (List.take_append_drop _ _).symm, by simp; omega, hmac.symm, ?_⟩
  intro heq
  apply hne
  simp only [Prod.mk.injEq] at heq ⊢
  refine ⟨heq.1, ?_⟩
  rw [hc, List.nil_append, ← heq.2.2, ← heq.2.1, List.take_append_drop]

theorem kdf_rejects_bad_salt (sc) (p : Params) (salt pw : Bytes) (h : salt.length ≠ saltLength) :
    kdf sc p salt pw = .err .badSalt := by
  unfold kdf; simp [h]

/-- `64` is the model's `macKeySizeK + macKeySizeR + aesKeySize`, `32` its `aesKeySize` (`sizes`): the closing `rfl` evaluates them -/
theorem kdf_ok_checks (sc) (p : Params) (salt pw : Bytes) (k : Key) (h : kdf sc p salt pw = .ok k) :
    salt.length = saltLength ∧ paramsCheck p.N p.R p.P salt.length dkLen = true ∧
    scryptKeyCheck p.N p.R p.P = true ∧ (sc pw salt p.N p.R p.P 64).length = 64 ∧
    k = { enc := (sc pw salt p.N p.R p.P 64).take 32, macK := ((sc pw salt p.N p.R p.P 64).drop 32).take 16,
          macR := (((sc pw salt p.N p.R p.P 64).drop 32).drop 16).take 16 } := by
  revert h
  -- a key is returned on the last branch only
  fun_cases kdf sc p salt pw <;> intro h <;> cases h
  exact ⟨by simpa using ‹¬ (salt.length != saltLength) = true›, by simpa using ‹¬ (!paramsCheck _ _ _ _ _) = true›,
    by simpa using ‹¬ (!scryptKeyCheck _ _ _) = true›, Decidable.not_not.mp (mt bne_iff_ne.mpr ‹¬ (List.length (sc ..) != _) = true›), rfl⟩

/-- a derived key is the scrypt output cut into `EncryptionKey ‖ K ‖ R`, nothing else -/
theorem kdf_key_split (sc) (p : Params) (salt pw : Bytes) (k : Key) (h : kdf sc p salt pw = .ok k) :
    k.enc ++ k.macK ++ k.macR = sc pw salt p.N p.R p.P 64 ∧
    k.enc.length = 32 ∧ k.macK.length = 16 ∧ k.macR.length = 16 := by
  obtain ⟨-, -, -, hlen, rfl⟩ := kdf_ok_checks sc p salt pw k h
  generalize sc pw salt p.N p.R p.P 64 = sk at hlen ⊢
  simp only [List.length_take, List.length_drop, hlen]
  refine ⟨?_, by omega, by omega, by omega⟩
  have h3 : List.take 16 (List.drop 16 (List.drop 32 sk)) = List.drop 16 (List.drop 32 sk) := by
    apply List.take_of_length_le; simp [hlen]
  rw [h3, List.append_assoc, List.take_append_drop, List.take_append_drop]

/-- what simple-scrypt's `Params.Check` accepts, in plain arithmetic -/
theorem paramsCheck_ok {n r p s d : Int} (h : paramsCheck n r p s d = true) :
    1 < n ∧ n ≤ maxInt ∧ 1 ≤ r ∧ 1 ≤ p ∧ r * p < 1073741824 := by
  revert h
  -- accepted on the last branch only, where all six guards have failed
  fun_cases paramsCheck n r p s d <;> intro h <;> cases h
  simp only [Bool.or_eq_true, decide_eq_true_eq, not_or, Int.not_lt, Int.not_le] at *
  omega

/-- `scrypt.Key` itself insists on a power of two -/
theorem scryptKeyCheck_ok {n r p : Int} (h : scryptKeyCheck n r p = true) :
    (n.toNat &&& (n.toNat - 1)) = 0 := by
  revert h
  fun_cases scryptKeyCheck n r p <;> intro h <;> cases h
  have h1 := ‹¬ (_ || (n.toNat &&& (n.toNat - 1)) != 0) = true›
  simp only [Bool.or_eq_true, not_or, bne_iff_ne, ne_eq, Decidable.not_not] at h1
  exact h1.2

/-- the accepted parameter region, in plain arithmetic: this is `specKdfOK` -/
theorem kdf_spec (sc) (p : Params) (salt pw : Bytes) :
    specKdfOK p salt.length (match kdf sc p salt pw with | .ok _ => true | .err _ => false) = true := by
  cases hk : kdf sc p salt pw with
  | err e => rfl
  | ok k =>
    obtain ⟨hs, hp, hc, -⟩ := kdf_ok_checks sc p salt pw k hk
    obtain ⟨h1, h2, h3, h4, h5⟩ := paramsCheck_ok hp
    simp [specKdfOK, hs, h1, h2, h3, h4, h5, scryptKeyCheck_ok hc]

theorem seal_spec (P : Prims) (L : Laws P) (k : Key) (n p : Bytes) :
    specSealOK k n p (sealWithNonce P k n p)
      (match sealWithNonce P k n p with | .ok c => some (openBuf P k c) | .panic _ => none) = true := by
  unfold specSealOK
  cases hs : sealWithNonce P k n p with
  | panic w =>
    by_cases h1 : (keyInvalid k || allZero n) = true
    · simp [h1]
    · by_cases h2 : n.length = ivSize
      · exfalso
        simp only [Bool.or_eq_true, not_or, Bool.not_eq_true] at h1
        have : sealWithNonce P k n p = .ok _ :=
          (seal_ok_iff P k n n p [] _).mpr ⟨by rw [keyValid_eq, h1.1]; rfl, rfl, h2,
            by rw [validNonce_eq, h1.2]; rfl, rfl⟩
        rw [hs] at this; cases this
      · simp [h1, h2]
  | ok c =>
    have h' := (seal_ok_iff P k n n p [] c).mp hs
    have hl := sealWithNonce_len P L k n p c hs
    have hk : keyInvalid k = false := by have := h'.1; rw [keyValid_eq] at this; simpa using this
    have hz : allZero n = false := by have := h'.2.2.2.1; rw [validNonce_eq] at this; simpa using this
    have ho := openBuf_sealWithNonce P L k n p c hs
    simp [hk, hz, h'.2.2.1, hl.1, hl.2, ho, extension]

theorem open_spec_untouched (P : Prims) (L : Laws P) (k : Key) (n p c : Bytes)
    (h : sealWithNonce P k n p = .ok c) : specOpenOK .none p (openBuf P k c) = true := by
  simp [specOpenOK, openBuf_sealWithNonce P L k n p c h]

/-- any tampering class for which the statement claims rejection: the implementation-level
    predicate holds, or the tampered input carries a correct tag (a MAC forgery, `open_ok_iff_mac`). -/
theorem open_spec_tampered (P : Prims) (k' : Key) (t : Tamper) (orig dst n' c' : Bytes)
    (ht : t ≠ .none) :
    specOpenOK t orig (openK P k' dst n' c') = true ∨
      (macSize ≤ c'.length ∧
       poly1305MAC P (c'.take (c'.length - macSize)) n' k' = c'.drop (c'.length - macSize)) := by
  by_cases h : ∃ q, openK P k' dst n' c' = .ok q
  · obtain ⟨q, hq⟩ := h
    have := (open_ok_iff_mac P k' dst n' c' q).mp hq
    exact .inr ⟨this.2.2.2.1, this.2.2.2.2.1⟩
  · -- refused: that is all the statement asks of a tampered message
    refine .inl ?_
    unfold specOpenOK
    split
    · exact absurd rfl ht
    · rfl
    · split
      · exact absurd ⟨_, ‹_›⟩ h
      · rfl

/-- primitives satisfying `Laws`: the hypotheses are satisfiable -/
def toyPrims : Prims where
  aes128 := fun k b => (k ++ b).take 16
  poly := fun k m => (m ++ k ++ List.replicate 16 0).take 16
  ctr := fun _ _ d => d.map (fun b => b ^^^ 0x5a)

theorem toy_laws : Laws toyPrims where
  ctr_len := by intros; simp [toyPrims]
  ctr_inv := by
    intro k n d; simp only [toyPrims, List.map_map]
    conv => rhs; rw [← List.map_id d]
    congr 1; funext b; simp [UInt8.xor_assoc]
  poly_len := by
    intro k m; have : macSize = 16 := by decide
    simp [toyPrims, this]; omega

def toyKey : Key := { macK := List.replicate 16 1, macR := List.replicate 16 2, enc := List.replicate 32 3 }
def toyNonce : Bytes := List.replicate 16 7

example : keyValid toyKey = true := by decide +kernel
example : ∃ c, sealWithNonce toyPrims toyKey toyNonce [1, 2, 3] = .ok c ∧ c.length = 35 ∧
    openBuf toyPrims toyKey c = .ok [1, 2, 3] := by
  refine ⟨_, rfl, by decide, by decide⟩
example : ∃ w, sealWithNonce toyPrims { toyKey with macR := List.replicate 16 0 } toyNonce [1] = .panic w :=
  ⟨_, rfl⟩
example : openBuf toyPrims toyKey (toyNonce ++ [1, 2, 3] ++ List.replicate 16 9) = .err .unauthenticated := by
  decide
example : kdf (fun _ _ _ _ _ n => List.replicate n 5) ⟨16, 1, 1⟩ (List.replicate 64 0) [] =
    .ok { enc := List.replicate 32 5, macK := List.replicate 16 5, macR := List.replicate 16 5 } := by
  decide
example : kdf (fun _ _ _ _ _ n => List.replicate n 5) ⟨12, 1, 1⟩ (List.replicate 64 0) [] =
    .err .scryptErr := by decide +kernel

end Restic.Props.C05
