import Restic.Model.Pack
namespace Restic.Proofs.C06
open Restic.Model.Pack Restic.Gen

/-- the relations between the regenerated layout constants that the proofs rest on -/
structure Layout : Prop where
  hls_eq : pack_headerLengthSize = 4
  plain_eq : pack_plainEntrySize = 1 + pack_headerLengthSize + restic_idSize
  entry_eq : pack_entrySize = 1 + 2 * pack_headerLengthSize + restic_idSize
  headerSize_eq : pack_headerSize = pack_headerLengthSize + crypto_Extension
  ext_eq : crypto_Extension = crypto_ivSize + crypto_macSize
  min_eq : pack_minFileSize = pack_plainEntrySize + crypto_Extension + pack_headerLengthSize
  max_lt : pack_MaxHeaderSize < 4294967296
  types_ne : restic_DataBlob ≠ restic_TreeBlob

theorem facts_layout : Layout := by constructor <;> decide

theorem le32_length (n : Nat) : (le32 n).length = 4 := rfl

theorem unle32_le32 (n : Nat) : unle32 (le32 n) = n % 4294967296 := by
  simp only [le32, unle32, UInt8.toNat_ofNat', Nat.mod_mod]
  omega

theorem unle32_le32_of_lt (n : Nat) (h : n < 4294967296) : unle32 (le32 n) = n := by
  rw [unle32_le32, Nat.mod_eq_of_lt h]

theorem unle32_lt (b : Bytes) : unle32 b < 4294967296 := by
  fun_cases unle32 b with
  | case1 a b c d =>
    have := a.toNat_lt; have := b.toNat_lt; have := c.toNat_lt; have := d.toNat_lt
    omega
  | case2 => omega

theorem le32_unle32 (b : Bytes) (h : b.length = 4) : le32 (unle32 b) = b := by
  match b, h with
  | [a, b, c, d], _ =>
    have := a.toNat_lt; have := b.toNat_lt; have := c.toNat_lt; have := d.toNat_lt
    simp only [le32, unle32]
    generalize hx : a.toNat + 256 * b.toNat + 65536 * c.toNat + 16777216 * d.toNat = x
    have e : x % 256 = a.toNat ∧ x / 256 % 256 = b.toNat ∧ x / 65536 % 256 = c.toNat ∧
        x / 16777216 % 256 = d.toNat := by omega
    rw [e.1, e.2.1, e.2.2.1, e.2.2.2]
    simp only [UInt8.ofNat_toNat]

theorem slice?_ok (p : Bytes) (lo hi : Nat) (h1 : lo ≤ hi) (h2 : hi ≤ p.length) :
    slice? p lo hi = some ((p.take hi).drop lo) := by
  unfold slice?; rw [if_pos ⟨h1, h2⟩]

theorem from?_ok (p : Bytes) (lo : Nat) (h : lo ≤ p.length) : from? p lo = some (p.drop lo) := by
  unfold from?; rw [if_pos h]

theorem copyID_length (p : Bytes) : (copyID p).length = restic_idSize := by
  unfold copyID
  simp only [List.length_append, List.length_take, List.length_replicate]
  omega

theorem copyID_append (id rest : Bytes) (h : id.length = restic_idSize) : copyID (id ++ rest) = id := by
  unfold copyID
  rw [← h, List.take_left, List.length_append, Nat.sub_eq_zero_of_le (Nat.le_add_right ..)]
  exact List.append_nil _

structure WF (b : Blob) : Prop where
  type : b.type = restic_DataBlob ∨ b.type = restic_TreeBlob
  id : b.id.length = restic_idSize
  length : b.length < 4294967296
  ulen : b.ulen < 4294967296

def entrySizeOf (b : Blob) : Nat := if b.ulen ≠ 0 then pack_entrySize else pack_plainEntrySize

theorem entrySizeOf_pos (b : Blob) : 0 < entrySizeOf b := by
  have := facts_layout.plain_eq; have := facts_layout.entry_eq
  unfold entrySizeOf
  split <;> omega

end Restic.Proofs.C06
