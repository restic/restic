import Restic.Props.C28
import Restic.Model.Select
/-!
# Selection by pattern lists (`listOn`) in terms of the C28 theorems

The selection functions of rewrite and restore are `any` over the lists, so they inherit what C28
proves of `list`.
-/
namespace Restic.Proofs.Select
open Restic.Model.Filter Restic.Model.Select Restic.Proofs.C28 Restic.Props.C28

/-- the lists of a command are validated (`CollectPatterns` → `ValidatePatterns`) -/
def ValidLists (glob : Glob) (lists : List PatList) : Prop := ∀ l ∈ lists, ValidPats glob l.pats

def NoNeg (lists : List PatList) : Prop := ∀ l ∈ lists, ∀ p ∈ l.pats, p.negated = false

def compsOf (l : PatList) (names : List Str) : List Str :=
  if l.insensitive then (itemComps names).map lowerStr else itemComps names

/-- below a real item (not the root, whose path "/" splits into two components) a longer
    names-path only appends components -/
theorem compsOf_append (l : PatList) (names ext : List Str) (h : names ≠ []) :
    ∃ ext', compsOf l (names ++ ext) = compsOf l names ++ ext' := by
  have hi : itemComps (names ++ ext) = itemComps names ++ ext := by
    rw [itemComps, itemComps, if_neg h, if_neg (fun h' => h (List.append_eq_nil_iff.mp h').1)]; rfl
  unfold compsOf
  rw [hi]
  split
  · exact ⟨ext.map lowerStr, List.map_append⟩
  · exact ⟨ext, rfl⟩

theorem compsOf_ne_nil (l : PatList) (names : List Str) : compsOf l names ≠ [] := by
  unfold compsOf itemComps
  split <;> split <;> simp

/-- also for the empty list (both folds are `false`) and `--i…` lists (`compsOf` lower-cases) -/
theorem listOn_eq (glob : Glob) (l : PatList) (hv : ValidPats glob l.pats) (cc : Bool)
    (names : List Str) :
    listOn glob l cc names =
      (specList glob l.pats (compsOf l names), specListChild glob cc l.pats (compsOf l names)) := by
  have := list_spec glob l.pats hv cc (compsOf l names)
  unfold listOn compsOf at *
  by_cases h0 : l.pats.length = 0
  · rw [if_pos h0, List.length_eq_zero_iff.mp h0]; rfl
  · rw [if_neg h0, this]

theorem listOn_upward (glob : Glob) (l : PatList) (hv : ValidPats glob l.pats)
    (hn : ∀ p ∈ l.pats, p.negated = false) (cc : Bool) (names ext : List Str) (hne : names ≠ [])
    (h : (listOn glob l cc names).1 = true) : (listOn glob l cc (names ++ ext)).1 = true := by
  rw [listOn_eq glob l hv] at h ⊢
  obtain ⟨ext', he⟩ := compsOf_append l names ext hne
  rw [he]
  exact list_upward glob l.pats hn _ ext' (compsOf_ne_nil l names) h

theorem listOn_child_sound (glob : Glob) (l : PatList) (hv : ValidPats glob l.pats)
    (names ext : List Str) (hne : names ≠ [])
    (h : (listOn glob l true (names ++ ext)).1 = true) : (listOn glob l true names).2 = true := by
  rw [listOn_eq glob l hv] at h ⊢
  obtain ⟨ext', he⟩ := compsOf_append l names ext hne
  rw [he] at h
  exact list_child_sound glob l.pats hv _ ext' (compsOf_ne_nil l names) h

theorem listOn_matched_child (glob : Glob) (l : PatList) (hv : ValidPats glob l.pats)
    (names : List Str) (h : (listOn glob l true names).1 = true) : (listOn glob l true names).2 = true := by
  rw [listOn_eq glob l hv] at h ⊢
  exact list_matched_child glob l.pats hv _ h

/-- `List` and `ListWithChild` agree on the matched answer -/
theorem listOn_fst_cc (glob : Glob) (l : PatList) (hv : ValidPats glob l.pats) (names : List Str) :
    (listOn glob l true names).1 = (listOn glob l false names).1 := by
  rw [listOn_eq glob l hv, listOn_eq glob l hv]

theorem exSelect_eq (glob : Glob) (lists : List PatList) (names : List Str) :
    exSelect glob lists names = !(lists.any fun l => (listOn glob l false names).1) := by
  induction lists with
  | nil => rfl
  | cons l ls ih =>
    rw [exSelect, List.any_cons, ih]
    cases (listOn glob l false names).1 <;> rfl

theorem inSelect_file_eq (glob : Glob) (lists : List PatList) (names : List Str) :
    inSelect glob lists names false = lists.any fun l => (listOn glob l true names).1 := by
  induction lists with
  | nil => rfl
  | cons l ls ih =>
    rw [inSelect, List.any_cons, ih]
    cases (listOn glob l true names).1 <;> rfl

theorem inSelect_dir_eq (glob : Glob) (lists : List PatList) (names : List Str) :
    inSelect glob lists names true =
      lists.any fun l => (listOn glob l true names).1 || (listOn glob l true names).2 := by
  induction lists with
  | nil => rfl
  | cons l ls ih =>
    rw [inSelect, List.any_cons, ih]
    cases (listOn glob l true names).1 || (listOn glob l true names).2 <;> rfl

theorem inSelectDir_eq (glob : Glob) (lists : List PatList) (names : List Str) :
    inSelectDir glob lists names = lists.any fun l => (listOn glob l true names).1 := by
  induction lists with
  | nil => rfl
  | cons l ls ih =>
    rw [inSelectDir, List.any_cons, ih]
    cases (listOn glob l true names).1 <;> rfl

/-- what `KeepEmptyDirectory` holds, `RewriteNode` keeps, as a directory or not -/
theorem inSelect_of_dir (glob : Glob) (lists : List PatList) (names : List Str) (d : Bool)
    (h : inSelectDir glob lists names = true) : inSelect glob lists names d = true := by
  rw [inSelectDir_eq, List.any_eq_true] at h
  obtain ⟨l, hl, hm⟩ := h
  cases d
  · rw [inSelect_file_eq, List.any_eq_true]; exact ⟨l, hl, hm⟩
  · rw [inSelect_dir_eq, List.any_eq_true]; exact ⟨l, hl, by rw [hm]; rfl⟩

theorem exSelect_upward (glob : Glob) (lists : List PatList) (hv : ValidLists glob lists)
    (hn : NoNeg lists) (names ext : List Str) (hne : names ≠ [])
    (h : exSelect glob lists names = false) : exSelect glob lists (names ++ ext) = false := by
  rw [exSelect_eq, Bool.not_eq_false', List.any_eq_true] at h ⊢
  obtain ⟨l, hl, hm⟩ := h
  exact ⟨l, hl, listOn_upward glob l (hv l hl) (hn l hl) false names ext hne hm⟩

theorem inSelect_child_sound (glob : Glob) (lists : List PatList) (hv : ValidLists glob lists)
    (names ext : List Str) (hne : names ≠ [])
    (h : inSelect glob lists (names ++ ext) false = true) : inSelect glob lists names true = true := by
  rw [inSelect_file_eq, List.any_eq_true] at h
  rw [inSelect_dir_eq, List.any_eq_true]
  obtain ⟨l, hl, hm⟩ := h
  exact ⟨l, hl, by rw [listOn_child_sound glob l (hv l hl) names ext hne hm]; exact Bool.or_true _⟩

/-- the `break` in `selectIncludeFilter` does not change the answer -/
theorem selectIncludeLoop_eq (glob : Glob) (names : List Str) :
    ∀ (lists : List PatList) (s c : Bool),
      selectIncludeLoop glob names lists s c =
        (s || lists.any (fun l => (listOn glob l true names).1),
         c || lists.any (fun l => (listOn glob l true names).2)) := by
  intro lists
  induction lists with
  | nil => intro s c; rw [selectIncludeLoop, List.any_nil, List.any_nil, Bool.or_false, Bool.or_false]
  | cons l ls ih =>
    intro s c
    rw [selectIncludeLoop, List.any_cons, List.any_cons, ← Bool.or_assoc, ← Bool.or_assoc]
    split
    · -- both answers are already `true`, and stay so
      rename_i hb
      rw [Bool.and_eq_true] at hb
      rw [hb.1, hb.2, Bool.true_or, Bool.true_or]
    · exact ih _ _

theorem selectInclude_eq (glob : Glob) (lists : List PatList) (names : List Str) (isDir : Bool) :
    selectInclude glob lists names isDir =
      (lists.any (fun l => (listOn glob l true names).1),
       lists.any (fun l => (listOn glob l true names).2) && isDir) := by
  rw [selectInclude, selectIncludeLoop_eq, Bool.false_or, Bool.false_or]

theorem selectInclude_child_sound (glob : Glob) (lists : List PatList) (hv : ValidLists glob lists)
    (names ext : List Str) (hne : names ≠ []) (d : Bool)
    (h : (selectInclude glob lists (names ++ ext) d).1 = true) :
    (selectInclude glob lists names true).2 = true := by
  rw [selectInclude_eq, List.any_eq_true] at h
  rw [selectInclude_eq, Bool.and_true, List.any_eq_true]
  obtain ⟨l, hl, hm⟩ := h
  exact ⟨l, hl, listOn_child_sound glob l (hv l hl) names ext hne hm⟩

theorem selectInclude_matched_child (glob : Glob) (lists : List PatList) (hv : ValidLists glob lists)
    (names : List Str) (h : (selectInclude glob lists names true).1 = true) :
    (selectInclude glob lists names true).2 = true := by
  rw [selectInclude_eq, List.any_eq_true] at h
  rw [selectInclude_eq, Bool.and_true, List.any_eq_true]
  obtain ⟨l, hl, hm⟩ := h
  exact ⟨l, hl, listOn_matched_child glob l (hv l hl) names hm⟩

theorem take_ne_nil {p : List Str} {k : Nat} (h1 : 0 < k) (h2 : k < p.length) : p.take k ≠ [] := by
  intro h
  rcases List.take_eq_nil_iff.mp h with rfl | rfl
  · exact Nat.lt_irrefl 0 h1
  · exact Nat.not_lt_zero k h2

theorem exSelect_ancestors (glob : Glob) (lists : List PatList) (hv : ValidLists glob lists)
    (hn : NoNeg lists) {p : List Str} (h : exSelect glob lists p = true) (k : Nat) (h1 : 0 < k)
    (h2 : k < p.length) : exSelect glob lists (p.take k) = true := by
  cases hex : exSelect glob lists (p.take k) with
  | true => rfl
  | false =>
    have := exSelect_upward glob lists hv hn (p.take k) (p.drop k) (take_ne_nil h1 h2) hex
    rw [List.take_append_drop, h] at this
    cases this

theorem inSelect_ancestors (glob : Glob) (lists : List PatList) (hv : ValidLists glob lists)
    {p : List Str} (h : inSelect glob lists p false = true) (k : Nat) (h1 : 0 < k)
    (h2 : k < p.length) : inSelect glob lists (p.take k) true = true :=
  inSelect_child_sound glob lists hv (p.take k) (p.drop k) (take_ne_nil h1 h2)
    (by rw [List.take_append_drop]; exact h)

theorem selectInclude_ancestors (glob : Glob) (lists : List PatList) (hv : ValidLists glob lists)
    {p : List Str} {d : Bool} (h : (selectInclude glob lists p d).1 = true) (k : Nat) (h1 : 0 < k)
    (h2 : k < p.length) : (selectInclude glob lists (p.take k) true).2 = true :=
  selectInclude_child_sound glob lists hv (p.take k) (p.drop k) (take_ne_nil h1 h2) d
    (by rw [List.take_append_drop]; exact h)

end Restic.Proofs.Select
