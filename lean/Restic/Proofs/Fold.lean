/-!
What follows from the shape of a fold over a list alone.

`foldl_seen`: an invariant of a `foldl` over the elements seen so far and the accumulator. (Of the accumulator
alone it is core's `List.foldlRecOn`; two folds kept in step, `List.foldl_rel`.)

Most acceptors over the repository models have one shape: a trace is accepted from `s` when its first event
passes a guard `G s e` and the rest is accepted from `step s e`. `Trace.Guarded step G L` says that `L` is that
language; from it: prefix closure, concatenation, invariants along accepted traces, the conjunction of two guards,
and simulation of one such language by another (inclusion under a weaker guard is the case `R := Eq`). A partial
step fits as guard `isSome`, step `getD`.
-/
namespace Restic.Proofs

theorem foldl_seen {α β : Type} {f : β → α → β} {P : List α → β → Prop}
    (step : ∀ seen acc x, P seen acc → P (seen ++ [x]) (f acc x)) (l : List α) {init : β} (h0 : P [] init) :
    P l (l.foldl f init) := by
  suffices h : ∀ rest seen acc, P seen acc → P (seen ++ rest) (rest.foldl f acc) from h l [] init h0
  intro rest
  induction rest with
  | nil => intro seen acc h; rwa [List.append_nil]
  | cons x rest ih =>
    intro seen acc h
    rw [List.append_cons]
    exact ih _ _ (step seen acc x h)

end Restic.Proofs

namespace Restic.Proofs.Trace

structure Guarded {σ ε : Type} (step : σ → ε → σ) (G : σ → ε → Bool) (L : σ → List ε → Bool) : Prop where
  nil : ∀ s, L s [] = true
  cons : ∀ s e tr, L s (e :: tr) = (G s e && L (step s e) tr)

namespace Guarded
variable {σ ε σ' ε' : Type} {step : σ → ε → σ} {G : σ → ε → Bool} {L : σ → List ε → Bool}
  {step' : σ' → ε' → σ'} {G' : σ' → ε' → Bool} {L' : σ' → List ε' → Bool}

theorem cons_iff (hL : Guarded step G L) {s : σ} {e : ε} {tr : List ε} :
    L s (e :: tr) = true ↔ G s e = true ∧ L (step s e) tr = true := by
  rw [hL.cons, Bool.and_eq_true]

theorem append (hL : Guarded step G L) (s : σ) (a b : List ε) :
    L s (a ++ b) = (L s a && L (a.foldl step s) b) := by
  induction a generalizing s with
  | nil => rw [hL.nil, Bool.true_and]; rfl
  | cons e a ih => rw [List.cons_append, hL.cons, ih, hL.cons, Bool.and_assoc]; rfl

theorem take (hL : Guarded step G L) {s : σ} {tr : List ε} (h : L s tr = true) (k : Nat) :
    L s (tr.take k) = true := by
  rw [← List.take_append_drop k tr, hL.append, Bool.and_eq_true] at h
  exact h.1

theorem inv (hL : Guarded step G L) {I : σ → Prop} (hstep : ∀ s e, I s → G s e = true → I (step s e))
    {s : σ} {tr : List ε} (hI : I s) (h : L s tr = true) : I (tr.foldl step s) := by
  induction tr generalizing s with
  | nil => exact hI
  | cons e tr ih => exact ih (hstep s e hI (hL.cons_iff.mp h).1) (hL.cons_iff.mp h).2

theorem sim (hL : Guarded step G L) (hL' : Guarded step' G' L') (R : σ → σ' → Prop) (absE : ε → ε')
    (hstep : ∀ s s' e, R s s' → G s e = true → G' s' (absE e) = true ∧ R (step s e) (step' s' (absE e)))
    {s : σ} {s' : σ'} {tr : List ε} (hR : R s s') (h : L s tr = true) :
    L' s' (tr.map absE) = true ∧
      ∀ k, R ((tr.take k).foldl step s) (((tr.take k).map absE).foldl step' s') := by
  induction tr generalizing s s' with
  | nil => exact ⟨hL'.nil _, fun k => by rw [List.take_nil]; exact hR⟩
  | cons e tr ih =>
    obtain ⟨hg, ht⟩ := hL.cons_iff.mp h
    obtain ⟨hg', hR'⟩ := hstep s s' e hR hg
    obtain ⟨h1, h2⟩ := ih hR' ht
    refine ⟨hL'.cons_iff.mpr ⟨hg', h1⟩, fun k => ?_⟩
    cases k with
    | zero => exact hR
    | succ k => exact h2 k

variable {G₂ : σ → ε → Bool} {L₂ : σ → List ε → Bool}

theorem mono (hL : Guarded step G L) (hL₂ : Guarded step G₂ L₂) (hG : ∀ s e, G s e = true → G₂ s e = true)
    {s : σ} {tr : List ε} (h : L s tr = true) : L₂ s tr = true :=
  List.map_id tr ▸ (hL.sim hL₂ Eq id (fun s _ e hR hg => hR ▸ ⟨hG s e hg, rfl⟩) rfl h).1

theorem and (hL : Guarded step G L) (hL₂ : Guarded step G₂ L₂) :
    Guarded step (fun s e => G s e && G₂ s e) (fun s tr => L s tr && L₂ s tr) :=
  ⟨fun s => by rw [hL.nil, hL₂.nil]; rfl, fun s e tr => by rw [hL.cons, hL₂.cons]; ac_rfl⟩

end Guarded

end Restic.Proofs.Trace
