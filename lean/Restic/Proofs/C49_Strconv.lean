import Restic.Model.Strconv
/-!
Exactness of the `strconv` models: `parseUint` / `parseInt` accept exactly the decimal numerals
in range and return their value; `parseUint0` / `parseInt0` exactly the Go integer literals
in range.
-/
namespace Restic.Proofs.Strconv
open Restic.Model.Strconv

def decFrom (n : Nat) (s : Str) : Nat := s.foldl (fun n c => n * 10 + digitVal c) n

theorem decVal_eq (s : Str) : decVal s = decFrom 0 s := rfl

theorem decFrom_cons (n : Nat) (c : UInt8) (cs : Str) :
    decFrom n (c :: cs) = decFrom (n * 10 + digitVal c) cs := List.foldl_cons ..

theorem decFrom_mono (n m : Nat) (s : Str) (h : n ≤ m) : decFrom n s ≤ decFrom m s := by
  induction s generalizing n m with
  | nil => exact h
  | cons c cs ih => rw [decFrom_cons, decFrom_cons]; exact ih _ _ (by omega)

theorem decFrom_ge (n : Nat) (s : Str) : n ≤ decFrom n s := by
  induction s generalizing n with
  | nil => exact Nat.le_refl _
  | cons c cs ih => rw [decFrom_cons]; exact Nat.le_trans (by omega) (ih _)

theorem decFrom_append (n : Nat) (s t : Str) : decFrom n (s ++ t) = decFrom (decFrom n s) t := List.foldl_append ..

theorem isDigit_iff (c : UInt8) : isDigit c = true ↔ 48 ≤ c.toNat ∧ c.toNat ≤ 57 := by
  simp only [isDigit, Bool.and_eq_true, decide_eq_true_eq, UInt8.le_iff_toNat_le]; rfl

theorem digitVal_le (c : UInt8) (h : isDigit c = true) : digitVal c ≤ 9 :=
  Nat.sub_le_of_le_add ((isDigit_iff c).mp h).2

theorem pow_le_two64 (bits : Nat) (hb : bits ≤ 64) : 2 ^ bits ≤ two64 :=
  Nat.pow_le_pow_right (by omega) hb

theorem cutoffB_spec (base : Nat) (hb : 1 ≤ base) :
    (∀ n, n < cutoffB base → n * base < two64) ∧ (∀ n, cutoffB base ≤ n → two64 ≤ n * base) := by
  unfold cutoffB
  constructor
  · intro n h
    have := Nat.mul_le_mul_right base (Nat.le_of_lt_succ h)
    have := Nat.div_mul_le_self (two64 - 1) base
    unfold two64 at *; omega
  · intro n h
    have := (Nat.div_lt_iff_lt_mul (by omega : 0 < base)).mp (Nat.lt_of_succ_le h)
    omega

/-- one accumulation step of `ParseUint` in `uint64` arithmetic: the cutoff test and the two wrap-around
    tests together say that `n * base + d` stays within `maxVal` -/
theorem accum_eq {α : Type} (k : Nat → Except NumErr α) (base maxVal n d : Nat) (hb : 1 ≤ base) (hmax : maxVal < two64)
    (hd : d < two64) :
    (if n ≥ cutoffB base then .error .erange
     else if ((n * base % two64 + d) % two64 < n * base % two64 || (n * base % two64 + d) % two64 > maxVal) = true then .error .erange
     else k ((n * base % two64 + d) % two64)) =
    if n * base + d ≤ maxVal then k (n * base + d) else .error .erange := by
  obtain ⟨hc1, hc2⟩ := cutoffB_spec base hb
  by_cases hc : n ≥ cutoffB base
  · have := hc2 n hc
    rw [if_pos hc, if_neg (by omega)]
  · have hlt := hc1 n (by omega)
    rw [if_neg hc, Nat.mod_eq_of_lt hlt]
    generalize n * base = nb at hlt ⊢
    by_cases hle : nb + d ≤ maxVal
    · rw [if_pos hle, Nat.mod_eq_of_lt (by omega), if_neg (by simp; omega)]
    · rw [if_neg hle, if_pos]
      simp only [Bool.or_eq_true, decide_eq_true_eq]
      unfold two64 at *
      omega

theorem parseUintLoop_ok_iff (maxVal : Nat) (hmax : maxVal < two64) (n : Nat) (s : Str) (v : Nat) (hn : n ≤ maxVal) :
    parseUintLoop maxVal n s = .ok v ↔ allDigits s = true ∧ decFrom n s = v ∧ v ≤ maxVal := by
  induction s generalizing n with
  | nil => exact ⟨fun h => (by cases h; exact ⟨rfl, rfl, hn⟩), fun ⟨_, h, _⟩ => by rw [← h]; rfl⟩
  | cons c cs ih =>
    rw [decFrom_cons, allDigits, List.all_cons, parseUintLoop]
    by_cases hd : isDigit c = true
    · have hd9 := digitVal_le c hd
      rw [hd, Bool.true_and]
      simp only [Bool.not_true, Bool.false_eq_true, if_false]
      rw [show cutoff10 = cutoffB 10 from rfl,
        accum_eq (parseUintLoop maxVal · cs) 10 maxVal n (digitVal c) (by omega) hmax (by unfold two64; omega)]
      by_cases hle : n * 10 + digitVal c ≤ maxVal
      · rw [if_pos hle]; exact ih _ hle
      · rw [if_neg hle]
        exact ⟨nofun, fun ⟨_, h, hv⟩ => absurd (Nat.le_trans (decFrom_ge _ cs) (h ▸ hv)) hle⟩
    · rw [Bool.not_eq_true] at hd
      rw [hd]
      exact ⟨nofun, fun h => nomatch h.1⟩

/-- `ParseUint(s, 10, bits)` accepts exactly the non-empty digit strings with value below `2^bits` -/
theorem parseUint_ok_iff (bits : Nat) (hb : bits ≤ 64) (s : Str) (v : Nat) :
    parseUint bits s = .ok v ↔ s ≠ [] ∧ allDigits s = true ∧ decVal s = v ∧ v < 2 ^ bits := by
  have hpow := pow_le_two64 bits hb
  have hpos : 0 < 2 ^ bits := Nat.two_pow_pos bits
  unfold parseUint
  by_cases hs : s = []
  · rw [if_pos hs]; exact ⟨nofun, fun h => absurd hs h.1⟩
  · rw [if_neg hs, parseUintLoop_ok_iff (2 ^ bits - 1) (by omega) 0 s v (by omega), decVal_eq]
    exact ⟨fun ⟨h1, h2, h3⟩ => ⟨hs, h1, h2, by omega⟩, fun ⟨_, h1, h2, h3⟩ => ⟨h1, h2, by omega⟩⟩

/-- the end of `ParseInt` (base 10 and base 0 alike) on the result `r` of the unsigned parser: an error
    passes through, and the signed number must lie in `[-cutoff, cutoff)` -/
theorem signed_ok_iff (r : Except NumErr Nat) (neg : Bool) (cutoff : Nat) (hc : 0 < cutoff) (v : Int) :
    (match r with
     | .error .esyntax => .error .esyntax
     | .error .erange => .error .erange
     | .ok un =>
       if !neg && un ≥ cutoff then .error .erange
       else if neg && un > cutoff then .error .erange
       else .ok (if neg then -(un : Int) else (un : Int))) = Except.ok (ε := NumErr) v ↔
    ∃ un, r = .ok un ∧ v = (if neg then -(un : Int) else (un : Int)) ∧ -(cutoff : Int) ≤ v ∧ v < cutoff := by
  cases r with
  | error e => cases e <;> exact ⟨nofun, fun ⟨_, h, _⟩ => nomatch h⟩
  | ok un =>
    simp only [Except.ok.injEq, exists_eq_left']
    cases neg with
    | false =>
      simp only [Bool.not_false, Bool.true_and, Bool.false_and, Bool.false_eq_true, if_false, decide_eq_true_eq]
      by_cases h : un ≥ cutoff
      · rw [if_pos h]; exact ⟨nofun, fun ⟨h1, _, h3⟩ => by omega⟩
      · rw [if_neg h, Except.ok.injEq]; exact ⟨fun h1 => ⟨h1.symm, by omega, by omega⟩, fun h1 => h1.1.symm⟩
    | true =>
      simp only [Bool.not_true, Bool.false_and, Bool.true_and, Bool.false_eq_true, if_false, if_true, decide_eq_true_eq]
      by_cases h : un > cutoff
      · rw [if_pos h]; exact ⟨nofun, fun ⟨h1, h2, _⟩ => by omega⟩
      · rw [if_neg h, Except.ok.injEq]; exact ⟨fun h1 => ⟨h1.symm, by omega, by omega⟩, fun h1 => h1.1.symm⟩

theorem parseInt_ok_iff (bits : Nat) (s : Str) (v : Int) :
    parseInt bits s = .ok v ↔ s ≠ [] ∧ ∃ un, parseUint bits (splitSign s).2 = .ok un ∧
      v = (if (splitSign s).1 then -(un : Int) else (un : Int)) ∧
      -((2 ^ (bits - 1) : Nat) : Int) ≤ v ∧ v < (2 ^ (bits - 1) : Nat) := by
  unfold parseInt
  by_cases hs : s = []
  · rw [if_pos hs]; exact ⟨nofun, fun h => absurd hs h.1⟩
  · rw [if_neg hs]; exact (signed_ok_iff _ _ _ (Nat.two_pow_pos _) v).trans (and_iff_right hs).symm

/-- what `[+-]digits` denotes; written out in `Parse.sizeDenotes`, `Parse.specCount` (`signedDec_map`) -/
def signedDec (s : Str) : Option Int :=
  if (splitSign s).2 ≠ [] ∧ allDigits (splitSign s).2 = true then
    some (if (splitSign s).1 then -(decVal (splitSign s).2 : Int) else (decVal (splitSign s).2 : Int))
  else none

theorem signedDec_eq_some_iff {s : Str} {v : Int} :
    signedDec s = some v ↔ (splitSign s).2 ≠ [] ∧ allDigits (splitSign s).2 = true ∧
      v = (if (splitSign s).1 then -(decVal (splitSign s).2 : Int) else (decVal (splitSign s).2 : Int)) := by
  rw [signedDec, Option.ite_some_none_eq_some, and_assoc, @eq_comm _ v]

theorem signedDec_map (s : Str) (f : Int → Int) :
    (if (splitSign s).2 ≠ [] ∧ allDigits (splitSign s).2 = true then
      some (f (if (splitSign s).1 then -(decVal (splitSign s).2 : Int) else (decVal (splitSign s).2 : Int)))
    else none) = (signedDec s).map f := by
  rw [signedDec, apply_ite (Option.map f)]; rfl

theorem parseInt64_ok_iff (s : Str) (v : Int) :
    parseInt 64 s = .ok v ↔ signedDec s = some v ∧ -9223372036854775808 ≤ v ∧ v < 9223372036854775808 := by
  rw [parseInt_ok_iff, show ((2 ^ (64 - 1) : Nat) : Int) = 9223372036854775808 from rfl, signedDec_eq_some_iff]
  constructor
  · rintro ⟨_, un, hp, hv, h1, h2⟩
    obtain ⟨a, b, c, _⟩ := (parseUint_ok_iff 64 (by omega) _ un).mp hp
    exact ⟨⟨a, b, c ▸ hv⟩, h1, h2⟩
  · rintro ⟨⟨a, b, hv⟩, h1, h2⟩
    refine ⟨fun hs => by subst hs; exact a rfl, _, (parseUint_ok_iff 64 (by omega) _ _).mpr ⟨a, b, rfl, ?_⟩, hv, h1, h2⟩
    rw [hv] at h1 h2
    by_cases hn : (splitSign s).1 = true
    · rw [if_pos hn] at h1; omega
    · rw [if_neg hn] at h2; omega

/-- `parseInt64_ok_iff` backwards, for the callers' error branches: on a numeral `ParseInt`
    fails only out of range -/
theorem parseInt64_error {s : Str} {e : NumErr} {v : Int} (h : parseInt 64 s = .error e) (hv : signedDec s = some v) :
    ¬ (-9223372036854775808 ≤ v ∧ v < 9223372036854775808) :=
  fun hr => nomatch h.symm.trans ((parseInt64_ok_iff s v).mpr ⟨hv, hr⟩)

theorem evalDigits_ge (base : Nat) (hb : 1 ≤ base) (s : Str) : ∀ n v, evalDigits base n s = some v → n ≤ v := by
  induction s with
  | nil => intro n v h; cases h; exact Nat.le_refl _
  | cons c cs ih =>
    intro n v h
    rw [evalDigits] at h
    by_cases hu : c = 95
    · rw [if_pos hu] at h; exact ih n v h
    · rw [if_neg hu] at h
      cases hd : charDigit c with
      | none => rw [hd] at h; cases h
      | some d =>
        rw [hd] at h
        simp only at h
        by_cases hdb : d ≥ base
        · rw [if_pos hdb] at h; cases h
        · rw [if_neg hdb] at h
          exact Nat.le_trans (Nat.le_trans (Nat.le_mul_of_pos_right n (by omega)) (Nat.le_add_right ..)) (ih _ v h)

/-- the base-0 digit loop accepts exactly the digit strings (underscores skipped) whose value stays
    within `maxVal` -/
theorem parseUintLoopB_ok_iff (base maxVal : Nat) (hmax : maxVal < two64) (hb1 : 1 ≤ base) (hb2 : base ≤ 36)
    (s : Str) : ∀ (n v : Nat), n ≤ maxVal →
    (parseUintLoopB base maxVal n s = .ok v ↔ evalDigits base n s = some v ∧ v ≤ maxVal) := by
  induction s with
  | nil =>
    intro n v hn
    exact ⟨fun h => (by cases h; exact ⟨rfl, hn⟩), fun ⟨h, _⟩ => by cases h; rfl⟩
  | cons c cs ih =>
    intro n v hn
    rw [parseUintLoopB, evalDigits]
    by_cases hu : c = 95
    · rw [if_pos hu, if_pos hu]; exact ih n v hn
    · rw [if_neg hu, if_neg hu]
      cases charDigit c with
      | none => exact ⟨nofun, fun h => nomatch h.1⟩
      | some d =>
        simp only
        by_cases hdb : d ≥ base
        · rw [if_pos hdb, if_pos hdb]; exact ⟨nofun, fun h => nomatch h.1⟩
        · rw [if_neg hdb, if_neg hdb,
            accum_eq (parseUintLoopB base maxVal · cs) base maxVal n d hb1 hmax (by unfold two64; omega)]
          by_cases hle : n * base + d ≤ maxVal
          · rw [if_pos hle]; exact ih _ v hle
          · rw [if_neg hle]
            exact ⟨nofun, fun ⟨h, hv⟩ => absurd (Nat.le_trans (evalDigits_ge base hb1 cs _ v h) hv) hle⟩

theorem prefixBase_base (s : Str) : 1 ≤ (prefixBase s).1 ∧ (prefixBase s).1 ≤ 16 := by
  unfold prefixBase
  split
  · split
    · simp
    · split
      · simp
      · split <;> simp
  · simp
  · simp

/-- `ParseUint(s, 0, bits)` accepts exactly the Go integer literals whose number is below `2^bits`
    and returns that number; in particular nothing with a sign -/
theorem parseUint0_ok_iff (bits : Nat) (hb : bits ≤ 64) (s : Str) (v : Nat) :
    parseUint0 bits s = .ok v ↔ numeral s = some v ∧ v < 2 ^ bits := by
  have hpow := pow_le_two64 bits hb
  have hpos : 0 < 2 ^ bits := Nat.two_pow_pos bits
  unfold parseUint0 numeral
  by_cases hs : s = []
  · rw [if_pos hs, if_pos hs]; exact ⟨nofun, fun h => nomatch h.1⟩
  · rw [if_neg hs, if_neg hs]
    simp only
    obtain ⟨hb1, hb2⟩ := prefixBase_base s
    have key := parseUintLoopB_ok_iff _ (2 ^ bits - 1) (by omega) hb1 (by omega) (prefixBase s).2 0
    by_cases hund : ((prefixBase s).2.contains 95 && !underscoreOK s) = true
    · rw [if_pos hund]
      cases parseUintLoopB (prefixBase s).1 (2 ^ bits - 1) 0 (prefixBase s).2 with
      | error e => exact ⟨nofun, fun h => nomatch h.1⟩
      | ok n => simp only [hund, if_true]; exact ⟨nofun, fun h => nomatch h.1⟩
    · rw [if_neg hund]
      cases hl : parseUintLoopB (prefixBase s).1 (2 ^ bits - 1) 0 (prefixBase s).2 with
      | error e =>
        exact ⟨nofun, fun ⟨h1, h2⟩ => nomatch hl.symm.trans ((key v (by omega)).mpr ⟨h1, by omega⟩)⟩
      | ok n =>
        obtain ⟨hn, hn'⟩ := (key n (by omega)).mp hl
        simp only [hund, Bool.false_eq_true, if_false, Except.ok.injEq, hn, Option.some.injEq]
        exact ⟨fun h => ⟨h, by omega⟩, fun h => h.1⟩

theorem parseInt0_ok_iff (bits : Nat) (s : Str) (v : Int) :
    parseInt0 bits s = .ok v ↔ s ≠ [] ∧ ∃ un, parseUint0 bits (splitSign s).2 = .ok un ∧
      v = (if (splitSign s).1 then -(un : Int) else (un : Int)) ∧
      -((2 ^ (bits - 1) : Nat) : Int) ≤ v ∧ v < (2 ^ (bits - 1) : Nat) := by
  unfold parseInt0
  by_cases hs : s = []
  · rw [if_pos hs]; exact ⟨nofun, fun h => absurd hs h.1⟩
  · rw [if_neg hs]; exact (signed_ok_iff _ _ _ (Nat.two_pow_pos _) v).trans (and_iff_right hs).symm

/-- `ParseInt(s, 0, 32)`: optional sign, then a Go integer literal, the signed number within `[-2^31, 2^31)` -/
theorem parseInt0_32_ok_iff (s : Str) (v : Int) :
    parseInt0 32 s = .ok v ↔
      ∃ n, numeral (splitSign s).2 = some n ∧
        v = (if (splitSign s).1 then -(n : Int) else (n : Int)) ∧ -2147483648 ≤ v ∧ v < 2147483648 := by
  rw [parseInt0_ok_iff, show ((2 ^ (32 - 1) : Nat) : Int) = 2147483648 from rfl]
  constructor
  · rintro ⟨_, un, hp, hv⟩
    exact ⟨un, ((parseUint0_ok_iff 32 (by omega) _ un).mp hp).1, hv⟩
  · rintro ⟨n, hn, hv, h1, h2⟩
    refine ⟨fun hs => (by subst hs; cases hn), n, (parseUint0_ok_iff 32 (by omega) _ n).mpr ⟨hn, ?_⟩, hv, h1, h2⟩
    rw [hv] at h1 h2
    by_cases hneg : (splitSign s).1 = true
    · rw [if_pos hneg] at h1; omega
    · rw [if_neg hneg] at h2; omega

theorem numeral_signed_none (c : UInt8) (r : Str) (hc : c = 45 ∨ c = 43) : numeral (c :: r) = none := by
  unfold numeral
  simp only [List.cons_ne_nil, if_false]
  split
  · rfl
  · have hp : prefixBase (c :: r) = (10, c :: r) := by
      rcases hc with rfl | rfl <;> (unfold prefixBase; rfl)
    rw [hp]
    simp only [evalDigits]
    rcases hc with rfl | rfl <;> rfl

end Restic.Proofs.Strconv
