import Restic.Proofs.C44_Packer
/-!
C44: the executable predicates of the model (`sameBlobs`, `distinct`, `noAddAfterFull`) versus their propositional
meaning; `noAddAfterFull_cons` in `C44_Packer`, the suffix form here.
-/
namespace Restic.Proofs.C44
open Restic.Model.Packer

def lexOn {α} (k : α → Nat) (r : α → α → Prop) (a b : α) : Prop := k a < k b ∨ (k a = k b ∧ r a b)

variable {α : Type} {k : α → Nat} {r : α → α → Prop}

theorem lexOn.trans {a b c : α} (h₁ : lexOn k r a b) (h₂ : lexOn k r b c)
    (hr : r a b → r b c → r a c) : lexOn k r a c :=
  match h₁, h₂ with
  | .inl h, .inl g => .inl (Nat.lt_trans h g)
  | .inl h, .inr ⟨g, _⟩ => .inl (g ▸ h)
  | .inr ⟨h, _⟩, .inl g => .inl (h ▸ g)
  | .inr ⟨h, h'⟩, .inr ⟨g, g'⟩ => .inr ⟨h.trans g, hr h' g'⟩

theorem lexOn.total (hr : ∀ a b, r a b ∨ r b a) (a b : α) : lexOn k r a b ∨ lexOn k r b a := by
  rcases Nat.lt_trichotomy (k a) (k b) with h | h | h
  · exact .inl (.inl h)
  · exact (hr a b).imp (fun h' => .inr ⟨h, h'⟩) (fun h' => .inr ⟨h.symm, h'⟩)
  · exact .inr (.inl h)

theorem lexOn.antisymm {a b : α} : lexOn k r a b → lexOn k r b a → k a = k b ∧ r a b ∧ r b a
  | .inl h, .inl g => absurd h (Nat.lt_asymm g)
  | .inl h, .inr ⟨g, _⟩ => absurd (g ▸ h) (Nat.lt_irrefl _)
  | .inr ⟨h, _⟩, .inl g => absurd (h ▸ g) (Nat.lt_irrefl _)
  | .inr ⟨h, h'⟩, .inr ⟨_, g'⟩ => ⟨h, h', g'⟩

theorem Blob.le_iff (a b : Blob) : Blob.le a b = true ↔
    lexOn (·.tpe.code) (lexOn (·.id) (lexOn (·.len) (·.ulen ≤ ·.ulen))) a b :=
  decide_eq_true_iff

theorem code_inj {s t : BlobType} (h : s.code = t.code) : s = t := by
  cases s <;> cases t
  · rfl
  · cases h
  · cases h
  · rfl

theorem Blob.le_trans (a b c : Blob) : Blob.le a b = true → Blob.le b c = true → Blob.le a c = true := by
  simp only [Blob.le_iff]
  exact fun h g => h.trans g fun h g => h.trans g fun h g => h.trans g Nat.le_trans

theorem Blob.le_total (a b : Blob) : (Blob.le a b || Blob.le b a) = true := by
  simp only [Bool.or_eq_true, Blob.le_iff]
  exact lexOn.total (lexOn.total (lexOn.total fun a b => Nat.le_total a.ulen b.ulen)) a b

theorem Blob.le_antisymm (a b : Blob) : Blob.le a b = true → Blob.le b a = true → a = b := by
  simp only [Blob.le_iff]
  intro h1 h2
  obtain ⟨ht, h1, h2⟩ := h1.antisymm h2
  obtain ⟨hi, h1, h2⟩ := h1.antisymm h2
  obtain ⟨hl, h1, h2⟩ := h1.antisymm h2
  cases a; cases b
  cases code_inj ht; cases hi; cases hl; cases Nat.le_antisymm h1 h2; rfl

theorem sameBlobs_iff (a b : List Blob) : sameBlobs a b = true ↔ a.Perm b := by
  simp only [sameBlobs, beq_iff_eq]
  constructor
  · intro h
    exact ((List.mergeSort_perm a Blob.le).symm.trans (h ▸ List.Perm.refl _)).trans (List.mergeSort_perm b Blob.le)
  · intro h
    apply List.Perm.eq_of_pairwise (le := fun x y => Blob.le x y = true)
    · intro x y _ _; exact Blob.le_antisymm x y
    · exact List.pairwise_mergeSort Blob.le_trans Blob.le_total a
    · exact List.pairwise_mergeSort Blob.le_trans Blob.le_total b
    · exact ((List.mergeSort_perm a Blob.le).trans h).trans (List.mergeSort_perm b Blob.le).symm

theorem adj_ne_of_sorted_nodup : ∀ (s : List Nat), s.Pairwise (· ≤ ·) →
    (((s.zip s.tail).all fun (a, b) => a != b) = true ↔ s.Nodup)
  | [], _ => by simp
  | [a], _ => by simp
  | a :: b :: t, h => by
    obtain ⟨ha, hbt⟩ := List.pairwise_cons.mp h
    have hmem : a ∈ b :: t ↔ a = b := by
      refine ⟨fun hm => Nat.le_antisymm (ha b List.mem_cons_self) ?_, fun e => e ▸ List.mem_cons_self⟩
      exact (List.mem_cons.mp hm).elim (fun e => Nat.le_of_eq e.symm) ((List.pairwise_cons.mp hbt).1 a)
    rw [List.nodup_cons, hmem, ← adj_ne_of_sorted_nodup (b :: t) hbt]
    simp only [List.tail_cons, List.zip_cons_cons, List.all_cons, Bool.and_eq_true, bne_iff_ne, ne_eq]

theorem distinct_iff (l : List Nat) : distinct l = true ↔ l.Nodup := by
  unfold distinct
  have hs : (l.mergeSort (fun a b => decide (a ≤ b))).Pairwise (· ≤ ·) := by
    have := List.pairwise_mergeSort (le := fun a b => decide (a ≤ b))
      (fun a b c h1 h2 => by simp at *; omega) (fun a b => by simp; omega) l
    simpa using this
  rw [adj_ne_of_sorted_nodup _ hs]
  exact (List.mergeSort_perm l _).nodup_iff

/-- "no Add after full", spelled out: every earlier state of the pack (a proper suffix of the
    newest-first entry list) was below the pack size and its header was not full -/
theorem noAddAfterFull_suffix {c : Cfg} {ps : Nat} {l : List Blob} (h : noAddAfterFull c ps l = true) :
    l ≠ [] ∧ ∀ s, s <:+ l → s ≠ l → sumLen s < ps ∧ hdrFull c s.length = false := by
  cases l with
  | nil => cases h
  | cons b rest =>
    obtain ⟨hlt, hnf⟩ := noAddAfterFull_cons.mp h
    refine ⟨List.cons_ne_nil _ _, fun s hs hne => ?_⟩
    obtain ⟨t, rfl⟩ := (List.suffix_cons_iff.mp hs).resolve_left hne
    rw [sumLen_append] at hlt
    rw [hdrFull_false, List.length_append] at hnf
    refine ⟨by omega, hdrFull_false.mpr (Nat.le_trans (Nat.add_le_add_left (Nat.mul_le_mul_right _ ?_) _) hnf)⟩
    omega

end Restic.Proofs.C44
