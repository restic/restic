import Restic.Model.Select
/-!
# Snapshot trees: induction on forests, the items of a tree, decisions along a path
-/
namespace Restic.Proofs.Select
open Restic.Model.Filter Restic.Model.Select

/-- Induction on forests, carrying the names-path of the directory the forest hangs in. The
    statement about a single node is the instance `[n]`. (A structural recursion through the
    nested type `Node` is slow to check; this goes through the recursor, once.) -/
theorem forest_induct {Q : List Str → List Node → Prop}
    (nil : ∀ names, Q names [])
    (file : ∀ names n sz cs, Q names cs → Q names (.file n sz :: cs))
    (other : ∀ names n s cs, Q names cs → Q names (.other n s :: cs))
    (dir : ∀ names n ch cs, Q (names ++ [n]) ch → Q names cs → Q names (.dir n ch :: cs)) :
    ∀ names l, Q names l := fun names l =>
  Node.rec_1 (motive_1 := fun c => ∀ names cs, Q names cs → Q names (c :: cs))
    (motive_2 := fun l => ∀ names, Q names l)
    (fun n sz names cs => file names n sz cs) (fun n s names cs => other names n s cs)
    (fun n ch ih names cs => dir names n ch cs (ih _)) nil
    (fun _ cs ihc ihcs names => ihc names cs (ihcs names)) l names

theorem take_dir_prefix (names : List Str) (n m : Str) (rest : List Str) :
    (names ++ [n] ++ m :: rest).take (names.length + 1) = names ++ [n] :=
  List.take_left' List.length_append

theorem entries_prefix : ∀ (names : List Str) (l : List Node) (e : Entry), e ∈ entries names l →
    ∃ n rest, e.path = names ++ n :: rest := by
  intro names l
  induction names, l using forest_induct with
  | nil names => intro e h; cases h
  | file names n sz cs ih =>
    intro e h
    rw [entries_file, List.mem_cons] at h
    exact h.elim (fun h => ⟨n, [], by rw [h]⟩) (ih e)
  | other names n s cs ih =>
    intro e h
    rw [entries_other, List.mem_cons] at h
    exact h.elim (fun h => ⟨n, [], by rw [h]⟩) (ih e)
  | dir names n ch cs ihc ih =>
    intro e h
    rw [entries_dir, List.mem_cons, List.mem_append] at h
    rcases h with rfl | h | h
    · exact ⟨n, [], rfl⟩
    · rcases ihc e h with ⟨m, rest, hr⟩
      exact ⟨n, m :: rest, by rw [hr, List.append_assoc]; rfl⟩
    · exact ih e h

theorem entries_dir_shape : ∀ (names : List Str) (l : List Node) (e : Entry), e ∈ entries names l →
    e.isDir = true → e = ⟨e.path, true, false, 0, false⟩ := by
  intro names l
  induction names, l using forest_induct with
  | nil names => intro e h; cases h
  | file names n sz cs ih =>
    intro e h hd
    rw [entries_file, List.mem_cons] at h
    rcases h with rfl | h
    · cases hd
    · exact ih e h hd
  | other names n s cs ih =>
    intro e h hd
    rw [entries_other, List.mem_cons] at h
    rcases h with rfl | h
    · cases hd
    · exact ih e h hd
  | dir names n ch cs ihc ih =>
    intro e h hd
    rw [entries_dir, List.mem_cons, List.mem_append] at h
    rcases h with rfl | h | h
    · rfl
    · exact ihc e h hd
    · exact ih e h hd

theorem entries_ancestor : ∀ (names : List Str) (l : List Node) (e' : Entry), e' ∈ entries names l →
    ∀ k, names.length < k → k < e'.path.length →
      (⟨e'.path.take k, true, false, 0, false⟩ : Entry) ∈ entries names l := by
  have leaf : ∀ {names : List Str} {n : Str} {k : Nat}, names.length < k → ¬ k < (names ++ [n]).length :=
    fun h1 h2 => by rw [List.length_append] at h2; exact Nat.not_lt.mpr h1 h2
  intro names l
  induction names, l using forest_induct with
  | nil names => intro e' h; cases h
  | file names n sz cs ih =>
    intro e' h k hk1 hk2
    rw [entries_file, List.mem_cons] at h ⊢
    rcases h with rfl | h
    · exact absurd hk2 (leaf hk1)
    · exact Or.inr (ih e' h k hk1 hk2)
  | other names n s cs ih =>
    intro e' h k hk1 hk2
    rw [entries_other, List.mem_cons] at h ⊢
    rcases h with rfl | h
    · exact absurd hk2 (leaf hk1)
    · exact Or.inr (ih e' h k hk1 hk2)
  | dir names n ch cs ihc ih =>
    intro e' h k hk1 hk2
    rw [entries_dir, List.mem_cons, List.mem_append] at h ⊢
    rcases h with rfl | h | h
    · exact absurd hk2 (leaf hk1)
    · by_cases hk : k = names.length + 1
      · obtain ⟨m, rest, hr⟩ := entries_prefix _ _ e' h
        rw [hk, hr, take_dir_prefix]; exact Or.inl rfl
      · exact Or.inr (Or.inl (ihc e' h k (by rw [List.length_append]; exact Nat.lt_of_le_of_ne hk1 (Ne.symm hk)) hk2))
    · exact Or.inr (Or.inr (ih e' h k hk1 hk2))

/-- `P` holds of the directories strictly between the directory at depth `base` and the item `p`
    (`ChainT`, `Chain` and the `∀ k` of the C20/C27 theorems are this, written out) -/
def Through (P : List Str → Prop) (base : Nat) (p : List Str) : Prop :=
  ∀ k, base < k → k < p.length → P (p.take k)

theorem through_top (P : List Str → Prop) (names : List Str) (n : Str) :
    Through P names.length (names ++ [n]) := by
  intro k h1 h2
  rw [List.length_append] at h2
  exact absurd h2 (Nat.not_lt.mpr h1)

theorem through_below (P : List Str → Prop) (names : List Str) (n m : Str) (rest : List Str) :
    Through P names.length (names ++ [n] ++ m :: rest) ↔
      P (names ++ [n]) ∧ Through P (names ++ [n]).length (names ++ [n] ++ m :: rest) := by
  have hlen : (names ++ [n]).length = names.length + 1 := List.length_append
  constructor
  · intro h
    refine ⟨take_dir_prefix names n m rest ▸ h (names.length + 1) (Nat.lt_succ_self _) ?_,
      fun k hk => h k (by omega)⟩
    rw [List.length_append, hlen]; exact Nat.lt_add_of_pos_right (Nat.succ_pos _)
  · rintro ⟨h0, h⟩ k hk1 hk2
    by_cases hk : k = names.length + 1
    · rw [hk, take_dir_prefix]; exact h0
    · exact h k (by omega) hk2

theorem through_entry (P : List Str → Prop) {names : List Str} {n : Str} {ch : List Node} {e : Entry}
    (h : e ∈ entries (names ++ [n]) ch) :
    Through P names.length e.path ↔ P (names ++ [n]) ∧ Through P (names ++ [n]).length e.path := by
  obtain ⟨m, rest, hr⟩ := entries_prefix _ _ e h
  rw [hr]; exact through_below P names n m rest

theorem ancestors_all (p : List Str) (f : List Str → Bool) :
    (ancestors p).all f = true ↔ Through (f · = true) 0 p := by
  unfold ancestors Through
  simp only [List.all_eq_true, List.mem_filterMap, List.mem_range]
  constructor
  · intro h k hk1 hk2
    exact h (p.take k) ⟨k, hk2, if_neg (Nat.ne_of_gt hk1)⟩
  · rintro h a ⟨k, hk, hka⟩
    by_cases h0 : k = 0
    · rw [if_pos h0] at hka; cases hka
    · rw [if_neg h0, Option.some.injEq] at hka
      exact hka ▸ h k (Nat.pos_of_ne_zero h0) hk

end Restic.Proofs.Select
