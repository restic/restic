import Restic.Model.PackerGen
namespace Restic.Proofs.C44
open Restic.Model.Packer

/-- what the proofs need of the layout constants; `genCfg_ok` shows it for the regenerated ones -/
structure CfgOK (c : Cfg) : Prop where
  plain_le : c.plainEntrySize ≤ c.entrySize
  one_fits : c.headerSize + c.entrySize ≤ c.maxHeaderSize
  entries : c.headerSize + c.maxHeaderEntries * c.entrySize ≤ c.maxHeaderSize

theorem genCfg_ok : CfgOK genCfg := by
  constructor <;> decide

def WF (p : Packer) : Prop := p.n = p.blobs.length ∧ p.bytes = sumLen p.blobs

/-- a packer that may be handed to the uploader -/
def Good (c : Cfg) (ps : Nat) (p : Packer) : Prop :=
  WF p ∧ c.headerSize + p.n * c.entrySize ≤ c.maxHeaderSize ∧ noAddAfterFull c ps p.blobs = true

/-- what `Add` needs of the packer it adds to -/
def Pre (c : Cfg) (ps : Nat) (p : Packer) : Prop :=
  WF p ∧ p.bytes < ps ∧ hdrFull c p.n = false

/-- a packer sitting in a slot -/
def Open (c : Cfg) (ps : Nat) (p : Packer) : Prop :=
  Good c ps p ∧ p.bytes < ps ∧ hdrFull c p.n = false

theorem Open.pre {c ps p} (h : Open c ps p) : Pre c ps p := ⟨h.1.1, h.2.1, h.2.2⟩

theorem hdrFull_false {c : Cfg} {k : Nat} :
    hdrFull c k = false ↔ c.headerSize + (k + 1) * c.entrySize ≤ c.maxHeaderSize := by
  simp only [hdrFull, decide_eq_false_iff_not, Nat.not_lt]

theorem noAddAfterFull_cons {c : Cfg} {ps : Nat} {b : Blob} {rest : List Blob} :
    noAddAfterFull c ps (b :: rest) = true ↔ sumLen rest < ps ∧ hdrFull c rest.length = false := by
  simp only [noAddAfterFull, Bool.and_eq_true, decide_eq_true_eq, Bool.not_eq_true']

theorem sumLen_cons (b : Blob) (l : List Blob) : sumLen (b :: l) = b.len + sumLen l := rfl

theorem sumLen_append (a b : List Blob) : sumLen (a ++ b) = sumLen a + sumLen b := by
  simp only [sumLen, List.map_append, List.sum_append]

theorem new_pre {c : Cfg} (hc : CfgOK c) {ps : Nat} (hps : 0 < ps) (s : Nat) : Pre c ps (Packer.new s) :=
  ⟨⟨rfl, rfl⟩, hps, hdrFull_false.mpr (by simpa [Packer.new] using hc.one_fits)⟩

theorem add_good {c : Cfg} {ps : Nat} {p : Packer} (h : Pre c ps p) (b : Blob) : Good c ps (p.add b) := by
  obtain ⟨⟨hn, hb⟩, hlt, hf⟩ := h
  refine ⟨⟨congrArg (· + 1) hn, congrArg (· + b.len) hb |>.trans (Nat.add_comm ..)⟩, hdrFull_false.mp hf, ?_⟩
  exact noAddAfterFull_cons.mpr ⟨hb ▸ hlt, hn ▸ hf⟩

theorem entry_sum_le {c : Cfg} (hc : CfgOK c) (l : List Blob) :
    (l.map (entryBytes c)).sum ≤ l.length * c.entrySize := by
  induction l with
  | nil => simp
  | cons b l ih =>
    have : entryBytes c b ≤ c.entrySize := by
      unfold entryBytes; split
      · exact hc.plain_le
      · exact Nat.le_refl _
    rw [List.map_cons, List.sum_cons, List.length_cons, Nat.add_mul]; omega

/-- header_bound for one packer -/
theorem Good.header_le {c : Cfg} (hc : CfgOK c) {ps p} (h : Good c ps p) :
    p.headerBytes c ≤ c.maxHeaderSize := by
  obtain ⟨⟨hn, _⟩, hh, _⟩ := h
  have := entry_sum_le hc p.blobs
  unfold Packer.headerBytes
  rw [hn] at hh; omega

theorem Good.finalizeOK {c : Cfg} (hc : CfgOK c) {ps p} (h : Good c ps p) : p.finalizeOK c = true :=
  decide_eq_true (h.header_le hc)

theorem merge_eq (p q : Packer) :
    p.merge q = { p with blobs := q.blobs ++ p.blobs, bytes := p.bytes + sumLen q.blobs, n := p.n + q.blobs.length } := by
  unfold Packer.merge
  induction q.blobs with
  | nil => rfl
  | cons b l ih =>
    rw [List.foldr_cons, ih]
    simp only [Packer.add, List.cons_append, sumLen_cons, List.length_cons]
    congr 1 <;> omega

theorem merge_serial (p q : Packer) : (p.merge q).serial = p.serial := by rw [merge_eq]

theorem merge_blobs (p q : Packer) : (p.merge q).blobs = q.blobs ++ p.blobs := by rw [merge_eq]

/-- The entry-count condition of `mergePackers` keeps the merged header within bounds (`CfgOK.entries`);
    the last `Add` of the merge is the last `Add` of `q`, made on top of all of `p`. -/
theorem merge_good {c : Cfg} (hc : CfgOK c) {ps : Nat} {p q : Packer} (hp : Good c ps p) (hq : Good c ps q)
    (hb : p.bytes + q.bytes < ps) (hn : p.n + q.n ≤ c.maxHeaderEntries) : Good c ps (p.merge q) := by
  obtain ⟨⟨hpn, hpb⟩, _, _⟩ := hp
  obtain ⟨⟨hqn, hqb⟩, _, hqa⟩ := hq
  have hhdr : c.headerSize + (p.n + q.n) * c.entrySize ≤ c.maxHeaderSize :=
    Nat.le_trans (Nat.add_le_add_left (Nat.mul_le_mul_right _ hn) _) hc.entries
  rw [merge_eq]
  refine ⟨⟨?_, ?_⟩, hqn ▸ hhdr, ?_⟩
  · show p.n + q.blobs.length = (q.blobs ++ p.blobs).length
    rw [List.length_append, hpn, Nat.add_comm]
  · show p.bytes + sumLen q.blobs = sumLen (q.blobs ++ p.blobs)
    rw [sumLen_append, hpb, Nat.add_comm]
  · cases hqbl : q.blobs with
    | nil => rw [hqbl] at hqa; cases hqa
    | cons b rest =>
      rw [hqbl, sumLen_cons] at hqb
      rw [hqbl, List.length_cons] at hqn
      rw [List.cons_append]
      refine noAddAfterFull_cons.mpr ⟨?_, hdrFull_false.mpr ?_⟩
      · rw [sumLen_append]; omega
      · rw [List.length_append, show rest.length + p.blobs.length + 1 = p.n + q.n by omega]; exact hhdr

theorem perm_of_getElem? {α} {l : List α} {k : Nat} {x : α} (h : l[k]? = some x) : l.Perm (x :: l.eraseIdx k) := by
  obtain ⟨hk, rfl⟩ := List.getElem?_eq_some_iff.mp h
  rw [List.eraseIdx_eq_take_drop_succ]
  refine .trans (.of_eq ?_) List.perm_middle
  rw [List.getElem_cons_drop, List.take_append_drop]

theorem filterMap_id_cons {α} (o : Option α) (l : List (Option α)) :
    (o :: l).filterMap id = o.toList ++ l.filterMap id := by
  cases o <;> rfl

theorem slots_perm {α} {l : List (Option α)} {i : Nat} {o : Option α} (h : l[i]? = some o) :
    (l.filterMap id).Perm (o.toList ++ (l.eraseIdx i).filterMap id) ∧
    ∀ x, ((l.set i x).filterMap id).Perm (x.toList ++ (l.eraseIdx i).filterMap id) := by
  refine ⟨filterMap_id_cons o _ ▸ (perm_of_getElem? h).filterMap id, fun x => ?_⟩
  have := perm_of_getElem? (List.getElem?_set_self (a := x) (List.getElem?_eq_some_iff.mp h).1)
  rw [List.eraseIdx_set_eq] at this
  exact filterMap_id_cons x _ ▸ this.filterMap id

theorem forget_filterMap (l : List (Option Packer)) (s : Nat) :
    (forget l s).filterMap id = (l.filterMap id).filter (fun q => !decide (q.serial = s)) := by
  induction l with
  | nil => rfl
  | cons a l ih =>
    cases a with
    | none => exact ih
    | some q =>
      simp only [forget, List.map_cons, List.filterMap_cons, id, List.filter_cons] at ih ⊢
      by_cases h : q.serial = s <;> simp [h, ih]

theorem forget_perm {l : List (Option Packer)} {s : Nat} {old : Option Packer} {R : List Packer}
    (h : (l.filterMap id).Perm (old.toList ++ R)) (hold : ∀ p ∈ old, p.serial = s) (hR : ∀ r ∈ R, r.serial ≠ s) :
    ((forget l s).filterMap id).Perm R := by
  rw [forget_filterMap]
  refine (h.filter _).trans (.of_eq ?_)
  have hR' : R.filter (fun q => !decide (q.serial = s)) = R :=
    List.filter_eq_self.mpr fun r hr => by simpa using hR r hr
  cases old with
  | none => exact hR'
  | some p => rw [Option.toList, List.singleton_append, List.filter_cons_of_neg (by simpa using hold p rfl), hR']

end Restic.Proofs.C44
