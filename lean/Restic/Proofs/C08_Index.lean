import Restic.Model.Index
import Restic.Proofs.Basics
namespace Restic.Proofs.C08
open Restic.Model.IndexMap (ID Val)
open Restic.Model.Index

theorem bind_eq_ok {α β : Type} {r : Out α} {f : α → Out β} {b : β} :
    r.bind f = .ok b ↔ ∃ a, r = .ok a ∧ f a = .ok b := by
  cases r <;> simp [Out.bind]

theorem ite_eq_ok {α : Type} {c : Prop} [Decidable c] {a b : Out α} {x : α} (h : (if c then a else b) = .ok x)
    (ha : ∀ y, a ≠ .ok y) : ¬c ∧ b = .ok x := by
  by_cases hc : c
  · rw [if_pos hc] at h; exact (ha x h).elim
  · rw [if_neg hc] at h; exact ⟨hc, h⟩

/-- the entries a map resolves to; a value whose pack index is out of range (where Go panics) is
    dropped, so this is what Go computes only for a `Valid` map -/
def entriesOf (packs : List ID) (t : BlobType) (m : IMap) : List PackedBlob := m.filterMap (toPackedBlob packs t)

/-- all entries an index describes (what `Values()` yields if `WFIdx`, see `values_ok`) -/
def entries (idx : Index) : List PackedBlob :=
  entriesOf idx.packs .data idx.data ++ entriesOf idx.packs .tree idx.tree

def Valid (packs : List ID) (m : IMap) : Prop := ∀ v, v ∈ m → v.packIndex < packs.length

structure WFIdx (idx : Index) : Prop where
  data : Valid idx.packs idx.data
  tree : Valid idx.packs idx.tree

theorem WFIdx.byType {idx : Index} (wf : WFIdx idx) (t : BlobType) : Valid idx.packs (idx.byType t) := by
  cases t with
  | data => exact wf.data
  | tree => exact wf.tree

theorem Valid.mono {packs p2 : List ID} {m : IMap} (h : Valid packs m) : Valid (packs ++ p2) m :=
  fun v hv => by have := h v hv; simp; omega

theorem Valid.filter {packs : List ID} {m : IMap} (h : Valid packs m) (p : Val → Bool) : Valid packs (m.filter p) :=
  fun v hv => h v (List.mem_filter.mp hv).1

theorem Valid.tail {packs : List ID} {v : Val} {m : IMap} (h : Valid packs (v :: m)) : Valid packs m :=
  fun x hx => h x (List.mem_cons_of_mem _ hx)

theorem toPackedBlob_some {packs : List ID} {t : BlobType} {v : Val} {p : ID} (h : packs[v.packIndex]? = some p) :
    toPackedBlob packs t v = some ⟨p, ⟨t, v.id, v.offset, v.length, v.ulen⟩⟩ := by
  simp [toPackedBlob, h]

theorem toPackedBlob_inv {packs : List ID} {t : BlobType} {v : Val} {e : PackedBlob}
    (h : toPackedBlob packs t v = some e) :
    ∃ p, packs[v.packIndex]? = some p ∧ e = ⟨p, ⟨t, v.id, v.offset, v.length, v.ulen⟩⟩ := by
  unfold toPackedBlob at h
  obtain ⟨p, hp, rfl⟩ := Option.map_eq_some_iff.mp h
  exact ⟨p, hp, rfl⟩

theorem toPackedBlob_handle {packs : List ID} {t : BlobType} {v : Val} {e : PackedBlob}
    (h : toPackedBlob packs t v = some e) : e.handle = ⟨t, v.id⟩ := by
  obtain ⟨p, _, rfl⟩ := toPackedBlob_inv h
  rfl

theorem Valid.resolve {packs : List ID} {m : IMap} (h : Valid packs m) (t : BlobType) {v : Val} (hv : v ∈ m) :
    ∃ e, toPackedBlob packs t v = some e :=
  ⟨_, toPackedBlob_some (List.getElem?_eq_getElem (h v hv))⟩

theorem resolveAll_ok (packs : List ID) (t : BlobType) : ∀ (l : IMap), Valid packs l →
    resolveAll packs t l = .ok (entriesOf packs t l) := by
  intro l
  induction l with
  | nil => exact fun _ => rfl
  | cons v l ih =>
    intro h
    obtain ⟨e, he⟩ := h.resolve t List.mem_cons_self
    simp [resolveAll, he, ih h.tail, Out.bind, entriesOf]

theorem entriesOf_append_packs (packs p2 : List ID) (t : BlobType) (m : IMap) (h : Valid packs m) :
    entriesOf (packs ++ p2) t m = entriesOf packs t m :=
  filterMap_congr fun v hv => by simp [toPackedBlob, List.getElem?_append_left (h v hv)]

theorem mem_entriesOf {packs : List ID} {t : BlobType} {m : IMap} {e : PackedBlob} :
    e ∈ entriesOf packs t m ↔ ∃ v, v ∈ m ∧ toPackedBlob packs t v = some e := by
  simp [entriesOf, List.mem_filterMap]

theorem mem_entries {idx : Index} {e : PackedBlob} :
    e ∈ entries idx ↔ ∃ t v, v ∈ idx.byType t ∧ toPackedBlob idx.packs t v = some e := by
  simp only [entries, List.mem_append, mem_entriesOf]
  constructor
  · rintro (h | h)
    · exact ⟨.data, h⟩
    · exact ⟨.tree, h⟩
  · rintro ⟨t, h⟩
    cases t with
    | data => exact .inl h
    | tree => exact .inr h

theorem mem_entriesOf_filter {idx : Index} {h : Handle} {e : PackedBlob} :
    e ∈ entriesOf idx.packs h.type ((idx.byType h.type).filter fun v => v.id == h.id) ↔
      e ∈ entries idx ∧ e.handle = h := by
  simp only [mem_entriesOf, mem_entries, List.mem_filter, beq_iff_eq]
  constructor
  · rintro ⟨v, ⟨hv, hid⟩, hr⟩
    exact ⟨⟨_, v, hv, hr⟩, by rw [toPackedBlob_handle hr, hid]⟩
  · rintro ⟨⟨t, v, hv, hr⟩, rfl⟩
    rw [toPackedBlob_handle hr]
    exact ⟨v, ⟨hv, rfl⟩, hr⟩

/-- `Index.Lookup` yields exactly the entries of the index with that handle -/
theorem lookup_mem {idx : Index} (wf : WFIdx idx) (h : Handle) :
    ∃ L, idx.lookup h = .ok L ∧ ∀ e, e ∈ L ↔ e ∈ entries idx ∧ e.handle = h :=
  ⟨_, resolveAll_ok _ _ _ ((wf.byType h.type).filter _), fun _ => mem_entriesOf_filter⟩

theorem values_ok {idx : Index} (wf : WFIdx idx) : idx.values = .ok (entries idx) := by
  simp [Index.values, resolveAll_ok _ _ _ wf.data, resolveAll_ok _ _ _ wf.tree, Out.bind, entries]

theorem entries_setType (idx : Index) (t : BlobType) (v : Val) :
    (entries (idx.setType t (idx.byType t ++ [v]))).Perm (entries idx ++ (toPackedBlob idx.packs t v).toList) := by
  -- only a permutation: `entries` lists data before tree, so a new data entry lands in the middle
  cases t with
  | data =>
    simp only [entries, Index.setType, Index.byType, entriesOf, List.filterMap_append, List.filterMap_cons,
      List.filterMap_nil]
    cases toPackedBlob idx.packs .data v with
    | none => simp
    | some pb =>
      simp only [Option.toList_some, List.append_assoc]
      exact List.Perm.append_left _ List.perm_append_comm
  | tree =>
    simp only [entries, Index.setType, Index.byType, entriesOf, List.filterMap_append, List.filterMap_cons,
      List.filterMap_nil]
    cases toPackedBlob idx.packs .tree v <;> simp

theorem setType_packs (idx : Index) (t : BlobType) (m : IMap) : (idx.setType t m).packs = idx.packs := by
  cases t <;> rfl

theorem setType_final (idx : Index) (t : BlobType) (m : IMap) : (idx.setType t m).final = idx.final := by
  cases t <;> rfl

theorem setType_ids (idx : Index) (t : BlobType) (m : IMap) : (idx.setType t m).ids = idx.ids := by
  cases t <;> rfl

theorem wf_setType {idx : Index} (wf : WFIdx idx) (t : BlobType) (v : Val) (hv : v.packIndex < idx.packs.length) :
    WFIdx (idx.setType t (idx.byType t ++ [v])) := by
  have hnew : Valid idx.packs (idx.byType t ++ [v]) := fun x hx => by
    rcases List.mem_append.mp hx with hx | hx
    · exact wf.byType t x hx
    · rw [List.mem_singleton.mp hx]; exact hv
  cases t with
  | data => exact ⟨hnew, wf.tree⟩
  | tree => exact ⟨wf.data, hnew⟩

/-- `idx'` is `idx` plus the entries `added` -/
structure Stored (idx idx' : Index) (added : List PackedBlob) : Prop where
  wf : WFIdx idx'
  final : idx'.final = idx.final
  ids : idx'.ids = idx.ids
  perm : (entries idx').Perm (entries idx ++ added)

theorem Stored.refl {idx : Index} (wf : WFIdx idx) : Stored idx idx [] := ⟨wf, rfl, rfl, by rw [List.append_nil]⟩

theorem Stored.trans {a b c : Index} {l1 l2 : List PackedBlob} (h1 : Stored a b l1) (h2 : Stored b c l2) :
    Stored a c (l1 ++ l2) :=
  ⟨h2.wf, h2.final.trans h1.final, h2.ids.trans h1.ids,
    h2.perm.trans (List.append_assoc .. ▸ h1.perm.append_right l2)⟩

theorem storeAll_spec (pi : Nat) (pid : ID) : ∀ (blobs : List Blob) (idx idx' : Index), WFIdx idx →
    idx.packs[pi]? = some pid → storeAll pi blobs idx = .ok idx' →
    Stored idx idx' (blobs.map fun b => ⟨pid, b⟩) := by
  intro blobs
  induction blobs with
  | nil =>
    intro idx idx' wf _ h
    cases h
    exact .refl wf
  | cons b bs ih =>
    intro idx idx' wf hp h
    simp only [storeAll, bind_eq_ok] at h
    obtain ⟨idx1, h1, h2⟩ := h
    -- `store` panics on a value beyond `uint32`
    unfold Index.store at h1
    cases (ite_eq_ok h1 nofun).2
    have hlt : pi < idx.packs.length := (List.getElem?_eq_some_iff.mp hp).1
    have hperm := entries_setType idx b.type ⟨b.id, pi, b.offset, b.length, b.ulen⟩
    rw [toPackedBlob_some hp, Option.toList_some] at hperm
    have hwf := wf_setType wf b.type ⟨b.id, pi, b.offset, b.length, b.ulen⟩ hlt
    exact .trans { wf := hwf, final := setType_final .., ids := setType_ids .., perm := hperm }
      (ih _ idx' hwf (by rw [setType_packs]; exact hp) h2)

theorem entries_addPack {idx : Index} (wf : WFIdx idx) (id : ID) :
    entries { idx with packs := idx.packs ++ [id] } = entries idx := by
  simp only [entries]
  rw [entriesOf_append_packs _ _ _ _ wf.data, entriesOf_append_packs _ _ _ _ wf.tree]

theorem decodePacks_spec : ∀ (f : IndexFile) (idx idx' : Index), WFIdx idx → decodePacks f idx = .ok idx' →
    Stored idx idx' (fileEntries f) := by
  intro f
  induction f with
  | nil =>
    intro idx idx' wf h
    cases h
    exact .refl wf
  | cons p ps ih =>
    obtain ⟨pid, blobs⟩ := p
    intro idx idx' wf h
    simp only [decodePacks, bind_eq_ok] at h
    obtain ⟨⟨idx1, pi⟩, h1, idx2, h2, h3⟩ := h
    -- `addToPacks` panics when the pack count no longer fits a `uint32`
    simp only [Index.addToPacks] at h1
    cases (ite_eq_ok h1 nofun).2
    have st := storeAll_spec _ pid blobs _ idx2 ⟨wf.data.mono, wf.tree.mono⟩ (by simp) h2
    exact .trans { st with perm := entries_addPack wf pid ▸ st.perm } (ih idx2 idx' st.wf h3)

theorem new_wf : WFIdx Index.new := ⟨fun _ h => (nomatch h), fun _ h => (nomatch h)⟩

structure DecodedFrom (f : IndexFile) (id : ID) (idx : Index) : Prop where
  wf : WFIdx idx
  final : idx.final = true
  ids : idx.ids = [id]
  perm : (entries idx).Perm (fileEntries f)

theorem decodeIndex_spec {f : IndexFile} {id : ID} {idx : Index} (h : decodeIndex f id = .ok idx) :
    DecodedFrom f id idx := by
  simp only [decodeIndex, bind_eq_ok] at h
  obtain ⟨idx1, h1, h2⟩ := h
  have dec := decodePacks_spec f Index.new idx1 new_wf h1
  cases h2
  exact ⟨⟨dec.wf.data, dec.wf.tree⟩, rfl, by simp [dec.ids, Index.new], dec.perm⟩

theorem fileEntries_modify (b : Blob) : ∀ (list : IndexFile) (i : Nat) (p : ID × List Blob), list[i]? = some p →
    (fileEntries (list.modify i fun p => (p.1, p.2 ++ [b]))).Perm (fileEntries list ++ [⟨p.1, b⟩])
  | [], i, p, h => by simp at h
  | q :: rest, 0, p, h => by
    cases h
    simp only [List.modify_zero_cons, fileEntries, List.flatMap_cons, List.map_append, List.map_cons, List.map_nil,
      List.append_assoc]
    exact List.Perm.append_left _ List.perm_append_comm
  | q :: rest, i + 1, p, h => by
    have ih := fileEntries_modify b rest i p h
    simp only [List.modify_succ_cons, fileEntries, List.flatMap_cons, List.append_assoc] at ih ⊢
    exact List.Perm.append_left _ ih

theorem fileEntries_addToPackList (list : IndexFile) (pid : ID) (b : Blob) :
    (fileEntries (addToPackList list pid b)).Perm (fileEntries list ++ [⟨pid, b⟩]) := by
  unfold addToPackList
  cases hf : list.findIdx? fun p => p.1 == pid with
  | some i =>
    obtain ⟨hi, hp, _⟩ := List.findIdx?_eq_some_iff_getElem.mp hf
    have := fileEntries_modify b list i list[i] (List.getElem?_eq_getElem hi)
    rwa [beq_iff_eq.mp hp] at this
  | none => simp [fileEntries, List.flatMap_append]

theorem generateType_spec (packs : List ID) (t : BlobType) : ∀ (vs : IMap) (list list' : IndexFile),
    generateType packs t vs list = .ok list' →
    (fileEntries list').Perm (fileEntries list ++ entriesOf packs t vs) := by
  intro vs
  induction vs with
  | nil => intro list list' h; cases h; simp [entriesOf]
  | cons v vs ih =>
    intro list list' h
    unfold generateType at h
    cases hp : packs[v.packIndex]? with
    | none => rw [hp] at h; cases h
    | some packID =>
      rw [hp] at h
      -- a null pack id panics
      refine (ih _ list' (ite_eq_ok h nofun).2).trans ?_
      simp only [entriesOf, List.filterMap_cons, toPackedBlob_some hp]
      exact ((fileEntries_addToPackList list packID _).append_right _).trans (by simp)

/-- `Encode`: the written pack list holds exactly the entries of the index (as a multiset) -/
theorem encode_spec {idx : Index} {f : IndexFile} (h : idx.encode = .ok f) : (fileEntries f).Perm (entries idx) := by
  simp only [Index.encode, bind_eq_ok] at h
  obtain ⟨l, h1, h2⟩ := h
  have p1 := generateType_spec _ _ _ _ _ h1
  simp only [fileEntries, List.flatMap_nil, List.nil_append] at p1
  exact (generateType_spec _ _ _ _ _ h2).trans (p1.append_right _)

theorem hasIdentical_spec (packs packs2 : List ID) (t : BlobType) (m : IMap) (e2 : Val) (hm : Valid packs m)
    (b2 : PackedBlob) (hb2 : toPackedBlob packs2 t e2 = some b2) :
    hasIdenticalEntry packs packs2 t m e2 = .ok (decide (b2 ∈ entriesOf packs t m)) := by
  unfold hasIdenticalEntry
  rw [resolveAll_ok _ _ _ (hm.filter _)]
  simp only [Out.bind, hb2]
  congr 1
  rw [Bool.eq_iff_iff]
  simp only [List.any_eq_true, beq_iff_eq, decide_eq_true_eq, mem_entriesOf, List.mem_filter]
  constructor
  · rintro ⟨b, ⟨v, ⟨hv, _⟩, hr⟩, rfl⟩; exact ⟨v, hv, hr⟩
  · rintro ⟨v, hv, hr⟩
    -- an entry that resolves to `b2` has the id of `e2`, so the pre-filter by id keeps it
    have hid := (toPackedBlob_handle hr).symm.trans (toPackedBlob_handle hb2)
    exact ⟨b2, ⟨v, ⟨hv, congrArg Handle.id hid⟩, hr⟩, rfl⟩

/-- `hlen` is the negation of `merge`'s "too many packs" guard: it makes the `uint32` addition of the
    pack offset exact -/
theorem mergeMap_spec (packs1 packs2 : List ID) (t : BlobType) (hlen : (packs1 ++ packs2).length ≤ maxUint32) :
    ∀ (es : IMap) (m m' : IMap), Valid (packs1 ++ packs2) m → Valid packs2 es →
    mergeMap (packs1 ++ packs2) packs2 packs1.length t es m = .ok m' →
    Valid (packs1 ++ packs2) m' ∧ (∃ s, m' = m ++ s) ∧
      ∀ e, e ∈ entriesOf (packs1 ++ packs2) t m' ↔
        e ∈ entriesOf (packs1 ++ packs2) t m ∨ e ∈ entriesOf packs2 t es := by
  intro es
  induction es with
  | nil =>
    intro m m' hm _ h
    cases h
    exact ⟨hm, ⟨[], (List.append_nil m).symm⟩, fun e => (or_iff_left (List.not_mem_nil (a := e))).symm⟩
  | cons e2 es ih =>
    intro m m' hm hes h
    have he2 : e2.packIndex < packs2.length := hes e2 List.mem_cons_self
    obtain ⟨b2, hb2⟩ := hes.resolve t (v := e2) List.mem_cons_self
    unfold mergeMap at h
    rw [hasIdentical_spec _ _ _ _ _ hm b2 hb2] at h
    simp only [Out.bind] at h
    have hcons : ∀ e, e ∈ entriesOf packs2 t (e2 :: es) ↔ e = b2 ∨ e ∈ entriesOf packs2 t es := fun e => by
      simp only [entriesOf, List.filterMap_cons, hb2, List.mem_cons]
    by_cases hfound : b2 ∈ entriesOf (packs1 ++ packs2) t m
    · -- `b2` is an entry of `m` already: `m` stays and the union does not change
      rw [if_pos (decide_eq_true hfound)] at h
      obtain ⟨hval, hext, hmem⟩ := ih m m' hm hes.tail h
      refine ⟨hval, hext, fun e => ?_⟩
      rw [hmem e, hcons e]
      constructor
      · exact Or.imp_right .inr
      · rintro (h1 | rfl | h1)
        · exact .inl h1
        · exact .inl hfound
        · exact .inr h1
    · -- the entry is appended with its pack index shifted by the old number of packs
      have hlt : packs1.length + e2.packIndex < (packs1 ++ packs2).length :=
        List.length_append ▸ Nat.add_lt_add_left he2 _
      have hmod : (e2.packIndex + packs1.length) % 2 ^ 32 = packs1.length + e2.packIndex := by
        rw [Nat.add_comm, Nat.mod_eq_of_lt (Nat.lt_of_lt_of_le hlt (Nat.le_trans hlen (by decide)))]
      rw [if_neg (mt of_decide_eq_true hfound), hmod] at h
      have hnew : toPackedBlob (packs1 ++ packs2) t { e2 with packIndex := packs1.length + e2.packIndex } = some b2 := by
        simp only [toPackedBlob] at hb2 ⊢
        rw [List.getElem?_append_right (Nat.le_add_right ..), Nat.add_sub_cancel_left]
        exact hb2
      have hvalid : Valid (packs1 ++ packs2) (m ++ [{ e2 with packIndex := packs1.length + e2.packIndex }]) := by
        intro v hv
        rcases List.mem_append.mp hv with hv | hv
        · exact hm v hv
        · rw [List.mem_singleton.mp hv]; exact hlt
      obtain ⟨hval, ⟨s, hext⟩, hmem⟩ := ih _ m' hvalid hes.tail h
      refine ⟨hval, ⟨{ e2 with packIndex := packs1.length + e2.packIndex } :: s, by rw [hext, List.append_assoc]; rfl⟩,
        fun e => ?_⟩
      rw [hmem e, hcons e]
      simp only [entriesOf, List.filterMap_append, List.filterMap_cons, hnew, List.filterMap_nil, List.mem_append,
        List.mem_singleton, or_assoc]

structure Merged (idx idx2 idx' : Index) : Prop where
  wf : WFIdx idx'
  final : idx'.final = idx.final
  ids : idx'.ids = idx.ids ++ idx2.ids
  /-- the maps of `idx` only grow at the end, so the first position of an id in them never changes
      (the relation `Ext` that C48 assumes) -/
  grows : ∀ t, ∃ s, idx'.byType t = idx.byType t ++ s
  mem : ∀ e, e ∈ entries idx' ↔ e ∈ entries idx ∨ e ∈ entries idx2

theorem merge_spec {idx idx2 idx' : Index} (wf : WFIdx idx) (wf2 : WFIdx idx2) (h : idx.merge idx2 = .ok idx') :
    Merged idx idx2 idx' := by
  simp only [Index.merge] at h
  -- the two guards that return an error: `idx2` is not final; too many packs
  obtain ⟨_, h⟩ := ite_eq_ok h nofun
  obtain ⟨hlen, h⟩ := ite_eq_ok h nofun
  have hlen := Nat.not_lt.mp hlen
  simp only [bind_eq_ok] at h
  obtain ⟨d, hd, t, ht, h⟩ := h
  cases h
  obtain ⟨dval, dext, dmem⟩ := mergeMap_spec idx.packs idx2.packs .data hlen _ _ d wf.data.mono wf2.data hd
  obtain ⟨tval, text, tmem⟩ := mergeMap_spec idx.packs idx2.packs .tree hlen _ _ t wf.tree.mono wf2.tree ht
  refine { wf := ⟨dval, tval⟩, final := rfl, ids := rfl, grows := fun ty => ?_, mem := fun e => ?_ }
  · cases ty with
    | data => exact dext
    | tree => exact text
  · simp only [entries, List.mem_append]
    rw [dmem e, tmem e, entriesOf_append_packs _ _ _ _ wf.data, entriesOf_append_packs _ _ _ _ wf.tree]
    exact or_or_or_comm

theorem mergeFinalIndexes_eq_ok {mi mi' : MasterIndex} : mi.mergeFinalIndexes = .ok mi' ↔
    ∃ first' keep, mergeLoop mi.rest mi.first [] = .ok (first', keep) ∧
      { mi with first := first', rest := keep } = mi' := by
  simp only [MasterIndex.mergeFinalIndexes, bind_eq_ok, Prod.exists, Out.ok.injEq]

end Restic.Proofs.C08
