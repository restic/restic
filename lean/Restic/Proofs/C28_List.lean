import Restic.Model.Filter
/-!
# C28 helper lemmas: `list` (negated patterns, early break) as a fold
-/
namespace Restic.Proofs.C28
open Restic.Model.Filter

/-- one iteration of `list` without the `break` -/
def listStep (m c neg : Bool) (acc : Bool × Bool) : Bool × Bool :=
  if neg then (acc.1 && !m, acc.2 && !m) else (acc.1 || m, acc.2 || c)

/-- `list` as a plain fold: `mf p`, `cf p` = answers of match / childMatch for pattern `p` -/
def listFold (mf cf : Pattern → Bool) (pats : List Pattern) (acc : Bool × Bool) : Bool × Bool :=
  pats.foldl (fun acc p => listStep (mf p) (cf p) p.negated acc) acc

theorem listFold_cons (mf cf : Pattern → Bool) (p : Pattern) (ps : List Pattern) (acc : Bool × Bool) :
    listFold mf cf (p :: ps) acc = listFold mf cf ps (listStep (mf p) (cf p) p.negated acc) := rfl

theorem listFold_tt (mf cf : Pattern → Bool) (pats : List Pattern)
    (h : ∀ p ∈ pats, p.negated = false) : listFold mf cf pats (true, true) = (true, true) := by
  induction pats with
  | nil => rfl
  | cons p ps ih =>
    rw [listFold_cons, h p List.mem_cons_self]
    exact ih fun q hq => h q (List.mem_cons_of_mem p hq)

/-- the `break` is taken only when no negated pattern can follow and both answers are `true`,
    which plain patterns leave as they are -/
theorem listLoop_eq_fold (glob : Glob) (checkChild hasNeg : Bool) (strs : List Str)
    (mf cf : Pattern → Bool) (pats : List Pattern) (m c : Bool)
    (hm : ∀ p ∈ pats, matchGo glob p.parts strs = .ok (mf p))
    (hc : ∀ p ∈ pats, (if checkChild then childMatch glob p.parts strs else .ok true) = .ok (cf p))
    (hneg : hasNeg = false → ∀ p ∈ pats, p.negated = false) :
    listLoop glob checkChild hasNeg strs pats m c = .ok (listFold mf cf pats (m, c)) := by
  induction pats generalizing m c with
  | nil => rfl
  | cons p ps ih =>
    have hneg' : hasNeg = false → ∀ q ∈ ps, q.negated = false :=
      fun h q hq => hneg h q (List.mem_cons_of_mem p hq)
    have ih := fun m c => ih m c (fun q hq => hm q (List.mem_cons_of_mem p hq))
      (fun q hq => hc q (List.mem_cons_of_mem p hq)) hneg'
    rw [listLoop, hm p List.mem_cons_self, hc p List.mem_cons_self, listFold_cons]
    dsimp only
    cases hn : p.negated with
    | true => exact ih _ _
    | false =>
      rw [if_neg nofun]
      by_cases hbr : ((m || mf p) && (c || cf p) && !hasNeg) = true
      · rw [if_pos hbr]
        simp only [Bool.and_eq_true, Bool.not_eq_true'] at hbr
        obtain ⟨⟨h1, h2⟩, h3⟩ := hbr
        rw [listStep, if_neg nofun, h1, h2, listFold_tt mf cf ps (hneg' h3)]
      · rw [if_neg hbr]
        exact ih _ _

/-- for any `cf`: the matched half of the fold ignores the child answers -/
theorem specList_eq_fold (glob : Glob) (pats : List Pattern) (cf : Pattern → Bool) (strs : List Str) :
    specList glob pats strs =
      (listFold (fun p => specMatch glob p.parts strs) cf pats (false, false)).1 := by
  refine List.foldl_hom (init := (false, false)) Prod.fst fun a p => ?_
  cases p.negated <;> rfl

/-- relating the folds on a path `S` and on an extension `E` of it: a plain pattern that matches
    `E` sets the child answer on `S`; a negated pattern that matches `S` matches `E` too, so
    where it leaves the answer on `E` standing it leaves the child answer on `S` standing -/
theorem listFold_child_sound (mfE cfE mfS cfS : Pattern → Bool) (pats : List Pattern)
    (hchild : ∀ p ∈ pats, mfE p = true → cfS p = true)
    (hup : ∀ p ∈ pats, mfS p = true → mfE p = true)
    (accE accS : Bool × Bool) (h : accE.1 = true → accS.2 = true) :
    (listFold mfE cfE pats accE).1 = true → (listFold mfS cfS pats accS).2 = true := by
  refine List.foldl_rel (r := fun a b : Bool × Bool => a.1 = true → b.2 = true) h fun p hp a b hab => ?_
  cases hn : p.negated with
  | true =>
    simp only [listStep, if_true, Bool.and_eq_true, Bool.not_eq_true']
    rintro ⟨h1, h2⟩
    refine ⟨hab h1, ?_⟩
    cases hS : mfS p with
    | false => rfl
    | true => rw [hup p hp hS] at h2; cases h2
  | false =>
    simp only [listStep, Bool.false_eq_true, if_false, Bool.or_eq_true]
    exact Or.imp hab (hchild p hp)

theorem listFold_matched_child (mf cf : Pattern → Bool) (pats : List Pattern)
    (h : ∀ p ∈ pats, mf p = true → cf p = true) (acc : Bool × Bool) (hacc : acc.1 = true → acc.2 = true) :
    (listFold mf cf pats acc).1 = true → (listFold mf cf pats acc).2 = true :=
  listFold_child_sound mf cf mf cf pats h (fun _ _ h => h) acc acc hacc

theorem listFold_upward (mfE cfE mfS cfS : Pattern → Bool) (pats : List Pattern)
    (hnoneg : ∀ p ∈ pats, p.negated = false)
    (hup : ∀ p ∈ pats, mfS p = true → mfE p = true)
    (accE accS : Bool × Bool) (h : accS.1 = true → accE.1 = true) :
    (listFold mfS cfS pats accS).1 = true → (listFold mfE cfE pats accE).1 = true := by
  refine List.foldl_rel (r := fun a b : Bool × Bool => a.1 = true → b.1 = true) h fun p hp a b hab => ?_
  simp only [listStep, hnoneg p hp, Bool.false_eq_true, if_false, Bool.or_eq_true]
  exact Or.imp hab (hup p hp)

end Restic.Proofs.C28
