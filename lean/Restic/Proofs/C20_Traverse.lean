import Restic.Proofs.Select_Tree
/-!
Which nodes the pruned traversal of `traverseTreeInner` enters / visits, for an arbitrary selection
function `sel path isDir = (selectedForRestore, childMayBeSelected)`.
-/
namespace Restic.Proofs.C20
open Restic.Model.Filter Restic.Model.Select Restic.Proofs.Select

/-- what an event says about a snapshot item: (path, isDir, isFile) -/
def evItem : Ev → Option (List Str × Bool × Bool)
  | .enter p => some (p, true, false)
  | .visit p f => some (p, false, f)
  | .leave _ _ => none
  | .skipped _ _ => none

/-- the traversal descends through every directory strictly between `base` and the item:
    `Through` for the decision `childMayBeSelected` -/
def ChainT (sel : List Str → Bool → Bool × Bool) (base : Nat) (p : List Str) : Prop :=
  ∀ k, base < k → k < p.length → (sel (p.take k) true).2 = true

/-- sockets, which restore skips, are no items -/
def HasItem (names : List Str) (l : List Node) (p : List Str) (d f : Bool) : Prop :=
  ∃ e ∈ entries names l, e.path = p ∧ e.isDir = d ∧ e.isFile = f ∧ e.sock = false

/-- the callback when the traversal is done with the directory `q` (children `ch`): if it went
    inside, `leaveDir` or `skippedDir` with the names of the tree; if not, `leaveDir` with a nil
    slice (Go's `childFilenames` is only assigned under `childMayBeSelected`), and only for a selected
    directory -/
def Closing (sel : List Str → Bool → Bool × Bool) (q : List Str) (ch : List Node) (ev : Ev) : Prop :=
  if (sel q true).2 then
    ev = if (sel q true).1 || (trList sel q ch).2 then Ev.leave q (some (ch.map Node.name))
      else Ev.skipped q (some (ch.map Node.name))
  else (sel q true).1 = true ∧ ev = Ev.leave q none

section
variable {sel : List Str → Bool → Bool × Bool} {names : List Str}

theorem exists_mem_cons_and {α} {P : α → Prop} {a : α} {l : List α} :
    (∃ x, x ∈ a :: l ∧ P x) ↔ P a ∨ ∃ x, x ∈ l ∧ P x := by
  simp only [List.mem_cons, or_and_right, exists_or, exists_eq_left]

theorem exists_mem_append_and {α} {P : α → Prop} {l₁ l₂ : List α} :
    (∃ x, x ∈ l₁ ++ l₂ ∧ P x) ↔ (∃ x, x ∈ l₁ ∧ P x) ∨ ∃ x, x ∈ l₂ ∧ P x := by
  simp only [List.mem_append, or_and_right, exists_or]

theorem hasItem_file {n : Str} {sz : Nat} {cs : List Node} {p : List Str} {d f : Bool} :
    HasItem names (.file n sz :: cs) p d f ↔
      (p = names ++ [n] ∧ d = false ∧ f = true) ∨ HasItem names cs p d f := by
  unfold HasItem
  rw [entries_file, exists_mem_cons_and]
  exact or_congr ⟨fun ⟨h1, h2, h3, _⟩ => ⟨h1.symm, h2.symm, h3.symm⟩,
    fun ⟨h1, h2, h3⟩ => ⟨h1.symm, h2.symm, h3.symm, rfl⟩⟩ Iff.rfl

theorem hasItem_other {n : Str} {s : Bool} {cs : List Node} {p : List Str} {d f : Bool} :
    HasItem names (.other n s :: cs) p d f ↔
      (p = names ++ [n] ∧ d = false ∧ f = false ∧ s = false) ∨ HasItem names cs p d f := by
  unfold HasItem
  rw [entries_other, exists_mem_cons_and]
  exact or_congr ⟨fun ⟨h1, h2, h3, h4⟩ => ⟨h1.symm, h2.symm, h3.symm, h4⟩,
    fun ⟨h1, h2, h3, h4⟩ => ⟨h1.symm, h2.symm, h3.symm, h4⟩⟩ Iff.rfl

theorem hasItem_dir {n : Str} {ch cs : List Node} {p : List Str} {d f : Bool} :
    HasItem names (.dir n ch :: cs) p d f ↔
      (p = names ++ [n] ∧ d = true ∧ f = false) ∨ HasItem (names ++ [n]) ch p d f ∨
        HasItem names cs p d f := by
  unfold HasItem
  rw [entries_dir, exists_mem_cons_and, exists_mem_append_and]
  exact or_congr ⟨fun ⟨h1, h2, h3, _⟩ => ⟨h1.symm, h2.symm, h3.symm⟩,
    fun ⟨h1, h2, h3⟩ => ⟨h1.symm, h2.symm, h3.symm, rfl⟩⟩ Iff.rfl

theorem chainT_item {n : Str} {ch : List Node} {p : List Str} {d f : Bool}
    (h : HasItem (names ++ [n]) ch p d f) :
    ChainT sel names.length p ↔
      ((sel (names ++ [n]) true).2 = true ∧ ChainT sel (names ++ [n]).length p) := by
  obtain ⟨e, he, rfl, _⟩ := h
  exact through_entry (fun q => (sel q true).2 = true) he

theorem chainT_top (n : Str) : ChainT sel names.length (names ++ [n]) :=
  through_top (fun q => (sel q true).2 = true) names n

theorem listing_item : ∀ (names : List Str) (l : List Node) (p ns : List Str),
    (p, ns) ∈ dirListingsList names l → HasItem names l p true false := by
  refine forest_induct ?nil ?file ?other ?dir
  case nil =>
    intro names p ns h; cases h
  case file =>
    intro names n sz cs ih p ns h
    exact hasItem_file.mpr (Or.inr (ih p ns h))
  case other =>
    intro names n s cs ih p ns h
    exact hasItem_other.mpr (Or.inr (ih p ns h))
  case dir =>
    intro names n ch cs ihc ih p ns h
    rw [hasItem_dir]
    rcases List.mem_cons.mp h with h | h
    · exact Or.inl ⟨(Prod.mk.inj h).1, rfl, rfl⟩
    · exact Or.inr ((List.mem_append.mp h).imp (ihc p ns) (ih p ns))

theorem trList_cons (c : Node) (cs : List Node) :
    (trList sel names (c :: cs)).1 = (trNode sel names c).1 ++ (trList sel names cs).1 := rfl

theorem mem_ite_singleton {α} {b : Bool} {x y : α} : y ∈ (if b then [x] else []) ↔ b = true ∧ y = x := by
  cases b
  · exact ⟨nofun, fun h => nomatch h.1⟩
  · exact List.mem_singleton.trans ⟨fun h => ⟨rfl, h⟩, fun h => h.2⟩

theorem mem_trList_file {n : Str} {sz : Nat} {cs : List Node} {ev : Ev} :
    ev ∈ (trList sel names (.file n sz :: cs)).1 ↔
      ((sel (names ++ [n]) false).1 = true ∧ ev = .visit (names ++ [n]) true) ∨
        ev ∈ (trList sel names cs).1 := by
  rw [trList_cons, List.mem_append, trNode, apply_ite Prod.fst]
  exact or_congr mem_ite_singleton Iff.rfl

theorem mem_trList_other {n : Str} {s : Bool} {cs : List Node} {ev : Ev} :
    ev ∈ (trList sel names (.other n s :: cs)).1 ↔
      (s = false ∧ (sel (names ++ [n]) false).1 = true ∧ ev = .visit (names ++ [n]) false) ∨
        ev ∈ (trList sel names cs).1 := by
  rw [trList_cons, List.mem_append, trNode]
  refine or_congr ?_ Iff.rfl
  cases s
  · rw [if_neg Bool.false_ne_true, apply_ite Prod.fst]
    exact mem_ite_singleton.trans (and_iff_right rfl).symm
  · exact ⟨nofun, fun h => nomatch h.1⟩

theorem trNode_dir (n : Str) (ch : List Node) :
    (trNode sel names (.dir n ch)).1 =
      (if (sel (names ++ [n]) true).1 then [Ev.enter (names ++ [n])] else []) ++
      (if (sel (names ++ [n]) true).2 then
        (trList sel (names ++ [n]) ch).1 ++
          [if (sel (names ++ [n]) true).1 || (trList sel (names ++ [n]) ch).2
            then Ev.leave (names ++ [n]) (some (ch.map Node.name))
            else Ev.skipped (names ++ [n]) (some (ch.map Node.name))]
      else if (sel (names ++ [n]) true).1 then [Ev.leave (names ++ [n]) none] else []) := by
  rw [trNode]
  cases (sel (names ++ [n]) true).2
  · cases (sel (names ++ [n]) true).1 <;> rfl
  · rcases trList sel (names ++ [n]) ch with ⟨evs, r⟩
    cases (sel (names ++ [n]) true).1 <;> cases r <;> rfl

theorem mem_trList_dir {n : Str} {ch cs : List Node} {ev : Ev} :
    ev ∈ (trList sel names (.dir n ch :: cs)).1 ↔
      ((sel (names ++ [n]) true).1 = true ∧ ev = .enter (names ++ [n])) ∨
      ((sel (names ++ [n]) true).2 = true ∧ ev ∈ (trList sel (names ++ [n]) ch).1) ∨
      Closing sel (names ++ [n]) ch ev ∨ ev ∈ (trList sel names cs).1 := by
  rw [trList_cons, trNode_dir, List.mem_append, List.mem_append, mem_ite_singleton, or_assoc]
  refine or_congr Iff.rfl ((or_congr ?_ Iff.rfl).trans or_assoc)
  unfold Closing
  by_cases hs2 : (sel (names ++ [n]) true).2 = true
  · rw [if_pos hs2, if_pos hs2, List.mem_append, List.mem_singleton, and_iff_right hs2]
  · rw [if_neg hs2, if_neg hs2, mem_ite_singleton]
    exact ⟨Or.inr, fun h => h.elim (fun h => absurd h.1 hs2) id⟩

theorem closing_del {q : List Str} {ch : List Node} {ev : Ev} {p : List Str} {exp : Option (List Str)}
    (h : Closing sel q ch ev) (hd : delDir ev = some (p, exp)) :
    p = q ∧ if (sel q true).2 then exp = some (ch.map Node.name)
      else exp = none ∧ (sel q true).1 = true ∧ ev = .leave q none := by
  unfold Closing at h
  by_cases hs2 : (sel q true).2 = true
  · rw [if_pos hs2] at h ⊢
    by_cases hl : ((sel q true).1 || (trList sel q ch).2) = true
    · rw [if_pos hl] at h; subst h; cases hd; exact ⟨rfl, rfl⟩
    · rw [if_neg hl] at h; subst h; cases hd; exact ⟨rfl, rfl⟩
  · rw [if_neg hs2] at h ⊢
    obtain ⟨hs1, rfl⟩ := h
    cases hd; exact ⟨rfl, rfl, hs1, rfl⟩

theorem closing_exists {q : List Str} (ch : List Node) (hs2 : (sel q true).2 = true) :
    ∃ ev, Closing sel q ch ev ∧ delDir ev = some (q, some (ch.map Node.name)) := by
  by_cases hl : ((sel q true).1 || (trList sel q ch).2) = true
  · exact ⟨.leave q (some _), by unfold Closing; rw [if_pos hs2, if_pos hl], rfl⟩
  · exact ⟨.skipped q (some _), by unfold Closing; rw [if_pos hs2, if_neg hl], rfl⟩

theorem closing_item {q : List Str} {ch : List Node} {ev : Ev} (h : Closing sel q ch ev) :
    evItem ev = none := by
  unfold Closing at h
  split at h
  · split at h <;> (rw [h]; rfl)
  · rw [h.2]; rfl

end

/-- The include/exclude theorems are read off this: an item is written iff it is selected and the
    traversal descends through every directory above it. -/
theorem tr_list_item (sel : List Str → Bool → Bool × Bool) :
    ∀ (names : List Str) (l : List Node) (p : List Str) (d f : Bool),
      (∃ ev ∈ (trList sel names l).1, evItem ev = some (p, d, f)) ↔
        (HasItem names l p d f ∧ (sel p d).1 = true ∧ ChainT sel names.length p) := by
  refine forest_induct ?nil ?file ?other ?dir
  case nil =>
    intro names p d f
    constructor
    · rintro ⟨_, h, _⟩; cases h
    · rintro ⟨⟨_, h, _⟩, _⟩; cases h
  case file =>
    intro names n sz cs ih p d f
    simp only [mem_trList_file, hasItem_file]
    constructor
    · rintro ⟨ev, ⟨hs, rfl⟩ | hev, hi⟩
      · cases hi; exact ⟨Or.inl ⟨rfl, rfl, rfl⟩, hs, chainT_top n⟩
      · exact ((ih p d f).mp ⟨ev, hev, hi⟩).imp_left Or.inr
    · rintro ⟨⟨rfl, rfl, rfl⟩ | h, hs, hc⟩
      · exact ⟨_, Or.inl ⟨hs, rfl⟩, rfl⟩
      · obtain ⟨ev, hev, hi⟩ := (ih p d f).mpr ⟨h, hs, hc⟩
        exact ⟨ev, Or.inr hev, hi⟩
  case other =>
    intro names n s cs ih p d f
    simp only [mem_trList_other, hasItem_other]
    constructor
    · rintro ⟨ev, ⟨h0, hs, rfl⟩ | hev, hi⟩
      · cases hi; exact ⟨Or.inl ⟨rfl, rfl, rfl, h0⟩, hs, chainT_top n⟩
      · exact ((ih p d f).mp ⟨ev, hev, hi⟩).imp_left Or.inr
    · rintro ⟨⟨rfl, rfl, rfl, h0⟩ | h, hs, hc⟩
      · exact ⟨_, Or.inl ⟨h0, hs, rfl⟩, rfl⟩
      · obtain ⟨ev, hev, hi⟩ := (ih p d f).mpr ⟨h, hs, hc⟩
        exact ⟨ev, Or.inr hev, hi⟩
  case dir =>
    intro names n ch cs ihc ih p d f
    simp only [mem_trList_dir, hasItem_dir]
    constructor
    · rintro ⟨ev, ⟨hs, rfl⟩ | ⟨hs2, hev⟩ | hcl | hev, hi⟩
      · cases hi; exact ⟨Or.inl ⟨rfl, rfl, rfl⟩, hs, chainT_top n⟩
      · obtain ⟨h, hs, hc⟩ := (ihc p d f).mp ⟨ev, hev, hi⟩
        exact ⟨Or.inr (Or.inl h), hs, (chainT_item h).mpr ⟨hs2, hc⟩⟩
      · rw [closing_item hcl] at hi; cases hi
      · exact ((ih p d f).mp ⟨ev, hev, hi⟩).imp_left (Or.inr ∘ Or.inr)
    · rintro ⟨⟨rfl, rfl, rfl⟩ | h | h, hs, hc⟩
      · exact ⟨_, Or.inl ⟨hs, rfl⟩, rfl⟩
      · obtain ⟨hs2, hc'⟩ := (chainT_item h).mp hc
        obtain ⟨ev, hev, hi⟩ := (ihc p d f).mpr ⟨h, hs, hc'⟩
        exact ⟨ev, Or.inr (Or.inl ⟨hs2, hev⟩), hi⟩
      · obtain ⟨ev, hev, hi⟩ := (ih p d f).mpr ⟨h, hs, hc⟩
        exact ⟨ev, Or.inr (Or.inr (Or.inr hev)), hi⟩

/-- The `--delete` theorems are read off this and its converse `tr_list_deldir`: a `leaveDir` or
    `skippedDir` call is for a snapshot directory that the traversal reached, with that directory's own
    name list if it went inside and the nil list otherwise. -/
theorem tr_list_del (sel : List Str → Bool → Bool × Bool) :
    ∀ (names : List Str) (l : List Node) (ev : Ev) (p : List Str) (exp : Option (List Str)),
      ev ∈ (trList sel names l).1 → delDir ev = some (p, exp) →
        ∃ ns, (p, ns) ∈ dirListingsList names l ∧ ChainT sel names.length p ∧
          if (sel p true).2 then exp = some ns
          else exp = none ∧ (sel p true).1 = true ∧ ev = .leave p none := by
  refine forest_induct ?nil ?file ?other ?dir
  case nil =>
    intro names ev p exp h; cases h
  case file =>
    intro names n sz cs ih ev p exp hev hd
    rcases mem_trList_file.mp hev with ⟨_, rfl⟩ | hev
    · cases hd
    · exact ih ev p exp hev hd
  case other =>
    intro names n s cs ih ev p exp hev hd
    rcases mem_trList_other.mp hev with ⟨_, _, rfl⟩ | hev
    · cases hd
    · exact ih ev p exp hev hd
  case dir =>
    intro names n ch cs ihc ih ev p exp hev hd
    rcases mem_trList_dir.mp hev with ⟨_, rfl⟩ | ⟨hs2, hev⟩ | hcl | hev
    · cases hd
    · obtain ⟨ns, hm, hc, hx⟩ := ihc ev p exp hev hd
      exact ⟨ns, List.mem_cons_of_mem _ (List.mem_append_left _ hm),
        (chainT_item (listing_item _ _ p ns hm)).mpr ⟨hs2, hc⟩, hx⟩
    · obtain ⟨rfl, hx⟩ := closing_del hcl hd
      exact ⟨_, List.mem_cons_self, chainT_top n, hx⟩
    · obtain ⟨ns, hm, h⟩ := ih ev p exp hev hd
      exact ⟨ns, List.mem_cons_of_mem _ (List.mem_append_right _ hm), h⟩

theorem tr_list_leave (sel : List Str → Bool → Bool × Bool) (names : List Str) :
    ∀ (l : List Node) (p : List Str) (exp : Option (List Str)), Ev.leave p exp ∈ (trList sel names l).1 →
      HasItem names l p true false ∧ ChainT sel names.length p ∧
        ((sel p true).2 = false → exp = none) ∧ ((sel p true).2 = true → ∃ names', exp = some names') ∧
        (exp = none → (sel p true).1 = true) := by
  intro l p exp h
  obtain ⟨ns, hm, hc, hx⟩ := tr_list_del sel names l _ p exp h rfl
  refine ⟨listing_item names l p ns hm, hc, ?_⟩
  by_cases hs2 : (sel p true).2 = true
  · rw [if_pos hs2] at hx
    exact ⟨fun h' => absurd hs2 (ne_true_of_eq_false h'), fun _ => ⟨ns, hx⟩, fun h' => nomatch hx ▸ h'⟩
  · rw [if_neg hs2] at hx
    exact ⟨fun _ => hx.1, fun h' => absurd h' hs2, fun _ => hx.2.1⟩

theorem tr_list_deldir_names (sel : List Str → Bool → Bool × Bool) (names : List Str) :
    ∀ (l : List Node) (ev : Ev) (p ns : List Str), ev ∈ (trList sel names l).1 →
      delDir ev = some (p, some ns) → (p, ns) ∈ dirListingsList names l := by
  intro l ev p ns hev hd
  obtain ⟨ns', hm, _, hx⟩ := tr_list_del sel names l ev p _ hev hd
  by_cases hs2 : (sel p true).2 = true
  · rw [if_pos hs2] at hx; cases hx; exact hm
  · rw [if_neg hs2] at hx; cases hx.1

/-- `skippedDir` is only called for traversed directories, which always have a name list -/
theorem skipped_none_notin (sel : List Str → Bool → Bool × Bool) (names : List Str) :
    ∀ (l : List Node) (p : List Str), Ev.skipped p none ∉ (trList sel names l).1 := by
  intro l p h
  obtain ⟨ns, _, _, hx⟩ := tr_list_del sel names l _ p none h rfl
  by_cases hs2 : (sel p true).2 = true
  · rw [if_pos hs2] at hx; cases hx
  · rw [if_neg hs2] at hx; cases hx.2.2

/-- every traversed directory is handed to `removeUnexpectedFiles`: by `leaveDir` or, with the fix, `skippedDir` -/
theorem tr_list_deldir (sel : List Str → Bool → Bool × Bool) :
    ∀ (names : List Str) (l : List Node) (p : List Str) (ns : List Str), (p, ns) ∈ dirListingsList names l →
      ChainT sel names.length p → (sel p true).2 = true →
        ∃ ev ∈ (trList sel names l).1, delDir ev = some (p, some ns) := by
  refine forest_induct ?nil ?file ?other ?dir
  case nil =>
    intro names p ns h; cases h
  case file =>
    intro names n sz cs ih p ns h hc hs
    obtain ⟨ev, hev, hd⟩ := ih p ns h hc hs
    exact ⟨ev, mem_trList_file.mpr (Or.inr hev), hd⟩
  case other =>
    intro names n s cs ih p ns h hc hs
    obtain ⟨ev, hev, hd⟩ := ih p ns h hc hs
    exact ⟨ev, mem_trList_other.mpr (Or.inr hev), hd⟩
  case dir =>
    intro names n ch cs ihc ih p ns h hc hs
    simp only [mem_trList_dir]
    rcases List.mem_cons.mp h with h | h
    · cases h
      obtain ⟨ev, hcl, hd⟩ := closing_exists ch hs
      exact ⟨ev, Or.inr (Or.inr (Or.inl hcl)), hd⟩
    · rcases List.mem_append.mp h with h | h
      · obtain ⟨hs2, hc'⟩ := (chainT_item (listing_item _ _ p ns h)).mp hc
        obtain ⟨ev, hev, hd⟩ := ihc p ns h hc' hs
        exact ⟨ev, Or.inr (Or.inl ⟨hs2, hev⟩), hd⟩
      · obtain ⟨ev, hev, hd⟩ := ih p ns h hc hs
        exact ⟨ev, Or.inr (Or.inr (Or.inr hev)), hd⟩

/-! the root is entered and left like a directory that is always traversed -/

theorem traverse_sub {sel : List Str → Bool → Bool × Bool} {root : List Node} {ev : Ev}
    (h : ev ∈ (trList sel [] root).1) : ev ∈ traverse sel root :=
  List.mem_append_left _ (List.mem_append_right _ h)

theorem traverse_del_root (sel : List Str → Bool → Bool × Bool) (root : List Node) :
    ∃ ev ∈ traverse sel root, delDir ev = some ([], some (root.map Node.name)) := by
  by_cases hr : (trList sel [] root).2 = true
  · exact ⟨.leave [] _, List.mem_append_right _ ((if_pos hr).symm ▸ List.mem_cons_self), rfl⟩
  · exact ⟨.skipped [] _, List.mem_append_right _ ((if_neg hr).symm ▸ List.mem_cons_self), rfl⟩

theorem traverse_del {sel : List Str → Bool → Bool × Bool} {root : List Node} {ev : Ev}
    {p : List Str} {exp : Option (List Str)} (h : ev ∈ traverse sel root)
    (hd : delDir ev = some (p, exp)) :
    (p = [] ∧ exp = some (root.map Node.name)) ∨ ev ∈ (trList sel [] root).1 := by
  unfold traverse at h
  rcases List.mem_append.mp h with h | h
  · rcases List.mem_append.mp h with h | h
    · cases List.mem_singleton.mp h; cases hd
    · exact Or.inr h
  · by_cases hr : (trList sel [] root).2 = true
    · rw [if_pos hr] at h; cases List.mem_singleton.mp h; cases hd; exact Or.inl ⟨rfl, rfl⟩
    · rw [if_neg hr] at h; cases List.mem_singleton.mp h; cases hd; exact Or.inl ⟨rfl, rfl⟩

theorem trList_singleton (sel : List Str → Bool → Bool × Bool) (names : List Str) (n : Node) :
    (trList sel names [n]).1 = (trNode sel names n).1 := List.append_nil _

theorem dirListingsList_singleton (names : List Str) (n : Node) :
    dirListingsList names [n] = dirListingsNode names n := List.append_nil _

theorem tr_node_leave (sel : List Str → Bool → Bool × Bool) (names : List Str) :
    ∀ (n : Node) (p : List Str) (exp : Option (List Str)), Ev.leave p exp ∈ (trNode sel names n).1 →
      HasItem names [n] p true false ∧ ChainT sel names.length p ∧
        ((sel p true).2 = false → exp = none) ∧ ((sel p true).2 = true → ∃ names', exp = some names') ∧
        (exp = none → (sel p true).1 = true) :=
  fun n p exp h => tr_list_leave sel names [n] p exp (trList_singleton sel names n ▸ h)

theorem tr_node_deldir (sel : List Str → Bool → Bool × Bool) (names : List Str) :
    ∀ (n : Node) (p : List Str) (ns : List Str), (p, ns) ∈ dirListingsNode names n →
      ChainT sel names.length p → (sel p true).2 = true →
        ∃ ev ∈ (trNode sel names n).1, delDir ev = some (p, some ns) :=
  fun n p ns h hc hs => trList_singleton sel names n ▸
    tr_list_deldir sel names [n] p ns (dirListingsList_singleton names n ▸ h) hc hs

theorem tr_node_deldir_names (sel : List Str → Bool → Bool × Bool) (names : List Str) :
    ∀ (n : Node) (ev : Ev) (p ns : List Str), ev ∈ (trNode sel names n).1 →
      delDir ev = some (p, some ns) → (p, ns) ∈ dirListingsNode names n :=
  fun n ev p ns hev hd => dirListingsList_singleton names n ▸
    tr_list_deldir_names sel names [n] ev p ns (trList_singleton sel names n ▸ hev) hd

theorem skipped_none_notin_node (sel : List Str → Bool → Bool × Bool) (names : List Str) :
    ∀ (n : Node) (p : List Str), Ev.skipped p none ∉ (trNode sel names n).1 :=
  fun n p h => skipped_none_notin sel names [n] p (trList_singleton sel names n ▸ h)

end Restic.Proofs.C20
