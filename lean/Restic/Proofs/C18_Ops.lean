import Restic.Proofs.C18_FS
/-!
Frames of the individual operations: an operation applied to a path `p` that `locate` maps to
itself (its parent chain contains no symlink) changes nothing except at `p` and below (`Only p`).
-/
namespace Restic.Model.RestoreFS

/-- the location the operation works on is `p` itself (or the operation fails) -/
def Lex (fs : FS) (p : Path) : Prop := locate fs p = none ∨ locate fs p = some p

theorem remove_only (fs : FS) (p : Path) (hl : Lex fs p) :
    Only p fs (remove fs p).1 ∧ NoNewSym fs (remove fs p).1 := by
  unfold remove
  rcases hl with h | h <;> rw [h]
  · exact ⟨.refl _ _, .refl _⟩
  · dsimp only
    split
    · exact ⟨.refl _ _, .refl _⟩
    · split
      · exact ⟨.refl _ _, .refl _⟩
      · exact ⟨only_erase _ _, noNewSym_erase _ _⟩
    · exact ⟨only_erase _ _, noNewSym_erase _ _⟩

theorem remove_nondir {fs : FS} {p : Path} {e : Entry} (hl : locate fs p = some p)
    (hg : fs.get p = some e) (he : e.isDir = false) : remove fs p = (fs.erase p, true) := by
  cases e <;> simp_all [remove, Entry.isDir]

theorem removeAll_only (fs : FS) (p : Path) (hl : Lex fs p) : Only p fs (removeAll fs p).1 := by
  unfold removeAll
  rcases hl with h | h <;> rw [h]
  · exact .refl _ _
  · exact only_removeTree _ _

theorem mkdir_only (fs : FS) (p : Path) (m : Nat) (hl : Lex fs p) : Only p fs (mkdir fs p m).1 := by
  unfold mkdir
  rcases hl with h | h <;> rw [h]
  · exact .refl _ _
  · dsimp only
    split
    · exact only_set _ _ _
    · exact .refl _ _

theorem symlink_only (fs : FS) (p : Path) (a : Bool) (t : List Name) (hl : Lex fs p) :
    Only p fs (symlink fs p a t).1 := by
  unfold symlink
  rcases hl with h | h <;> rw [h]
  · exact .refl _ _
  · dsimp only
    split
    · exact only_set _ _ _
    · exact .refl _ _

theorem mknod_only (fs : FS) (p : Path) (m : Nat) (hl : Lex fs p) :
    Only p fs (mknod fs p m).1 := by
  unfold mknod
  rcases hl with h | h <;> rw [h]
  · exact .refl _ _
  · dsimp only
    split
    · exact only_set _ _ _
    · exact .refl _ _

theorem link_only (fs : FS) (old p : Path) (hl : Lex fs p) : Only p fs (link fs old p).1 := by
  unfold link
  split
  · next src loc _ hloc =>
    -- the new name is located at `p`; the only update is `set p`
    have : loc = p := by rcases hl with h | h <;> simp_all
    subst this
    split
    · exact .refl _ _
    · exact only_set _ _ _
    · exact .refl _ _
  · exact .refl _ _

theorem createFile_only (fs : FS) (p : Path) (c : List UInt8) (rd : Bool) (hl : Lex fs p) :
    Only p fs (createFile fs p c rd).1 ∧ NoNewSym fs (createFile fs p c rd).1 := by
  have hset : ∀ (a : FS) e, Only p a (a.set p (.file c e)) ∧ NoNewSym a (a.set p (.file c e)) :=
    fun a e => ⟨only_set _ _ _, noNewSym_set _ _ _ rfl⟩
  unfold createFile
  rcases hl with h | h <;> rw [h]
  · exact ⟨.refl _ _, .refl _⟩
  · dsimp only
    split
    · exact hset _ _
    · exact hset _ _
    · split
      · exact ⟨(only_removeTree _ _).trans (hset _ _).1, (noNewSym_removeTree _ _).trans (hset _ _).2⟩
      · split
        · exact ⟨.refl _ _, .refl _⟩
        · exact hset _ _
    · exact hset _ _

theorem chmod_only (fs : FS) (p : Path) (m : Nat) (hl : locate fs p = some p)
    (hs : isSym fs p = false) : Only p fs (chmod fs p m).1 := by
  unfold chmod
  -- nothing to follow: `locateFollow` stops at `p`
  have hf : locateFollow fs (fuelFor p) p = (match fs.get p with | some _ => some p | none => none) := by
    unfold isSym at hs
    rw [fuelFor, locateFollow, hl]
    dsimp only
    cases hg : fs.get p with
    | none => rfl
    | some e => cases e <;> simp_all [Entry.isSymlink]
  rw [hf]
  cases hg : fs.get p with
  | none => exact .refl _ _
  | some e => simp only [hg]; exact only_set _ _ _

theorem RealFrom.of_only {fs fs' : FS} {d : Path} {c : Name} (hr : RealFrom fs [] d)
    (h : Only (d ++ [c]) fs fs') : RealFrom fs' [] d :=
  hr.congr fun p hp => h p fun hq => by
    have := hq.length_le
    have := hp.length_le
    simp at *
    omega

theorem RealFrom.of_frame {dst : Path} {a b : FS} (hr : RealFrom a [] dst) (h : Frame dst a b) :
    RealFrom b [] dst :=
  hr.congr fun p hp => h p fun hin => hin.2 (prefix_antisymm hp hin.1)

theorem NoSymFrom.of_noNewSym {fs fs' : FS} {cur d : Path} (hr : NoSymFrom fs cur d)
    (h : NoNewSym fs fs') : NoSymFrom fs' cur d := fun k h1 h2 =>
  Bool.eq_false_iff.mpr fun hb => Bool.false_ne_true ((hr k h1 h2).symm.trans (h _ hb))

theorem not_prefix_take' (d : Path) (c : Name) (r : List Name) (k : Nat) :
    ¬ (d ++ [c] ++ r) <+: d.take k := by
  intro h
  have := h.length_le
  simp at this
  omega

theorem mkdirIfMissing_eq {fs : FS} {p : Path} (hl : locate fs p = some p) (m : Nat) :
    mkdirIfMissing fs p m = match fs.get p with | none => fs.set p (.dir m) | some _ => fs := by
  rw [mkdirIfMissing, hl]
  rfl

theorem mkdirChain_real (fs : FS) (m : Nat) (base : Path) (rest : List Name)
    (hp : PlainPath (base ++ rest)) (hr : RealFrom fs [] (base ++ rest)) :
    mkdirChain fs m base rest = fs := by
  induction rest generalizing base with
  | nil => rfl
  | cons c rest ih =>
    rw [List.append_cons] at hp hr
    obtain ⟨_, hg⟩ := isDirAt_iff.mp hr.left.last
    rw [mkdirChain, mkdirIfMissing_eq (locate_real fs base c hp.left.left (hp.left _ (by simp)) hr.left.left), hg]
    exact ih (base ++ [c]) hp hr

theorem mkdirChain_append (fs : FS) (m : Nat) (base : Path) (r1 r2 : List Name) :
    mkdirChain fs m base (r1 ++ r2) = mkdirChain (mkdirChain fs m base r1) m (base ++ r1) r2 := by
  induction r1 generalizing fs base with
  | nil => simp [mkdirChain]
  | cons c r1 ih => simp [mkdirChain, ih]

theorem mkdirAll_fst (fs : FS) (p : Path) (m : Nat) : (mkdirAll fs p m).1 = mkdirChain fs m [] p := by
  unfold mkdirAll
  dsimp only
  split
  · split <;> rfl
  · rfl

theorem mkdirAll_real (fs : FS) (p : Path) (m : Nat) (hp : PlainPath p) (hr : RealFrom fs [] p) :
    (mkdirAll fs p m).1 = fs := by
  rw [mkdirAll_fst, mkdirChain_real fs m [] p hp hr]

theorem mkdirAll_leaf (fs : FS) (d : Path) (c : Name) (m : Nat) (hd : PlainPath d) (hc : PlainName c)
    (hr : RealFrom fs [] d) :
    (mkdirAll fs (d ++ [c]) m).1 =
      match fs.get (d ++ [c]) with | none => fs.set (d ++ [c]) (.dir m) | some _ => fs := by
  rw [mkdirAll_fst, mkdirChain_append, mkdirChain_real fs m [] d hd hr, mkdirChain, mkdirChain,
    List.nil_append, mkdirIfMissing_eq (locate_real fs d c hd hc hr)]

end Restic.Model.RestoreFS
