import Restic.Proofs.C18_Ensure
/-!
The operations of the visitor callbacks, applied at a `Leaf` `p`: each changes only `p` and what
lies below it.
-/
namespace Restic.Model.RestoreTree
open Restic.Model.RestoreFS

/-- `p` lies directly below a chain of real directories, as a node's `dst ++ rel` does once
    `ensureDir` has succeeded on its parent: what does not follow the last component acts on `p` -/
structure Leaf (fs : FS) (p : Path) : Prop where
  plain : PlainPath p
  ne : p ≠ []
  real : RealFrom fs [] p.dropLast

theorem Leaf.below {fs : FS} {dst rel : Path} (hdst : PlainPath dst) (hrel : PlainPath rel) (hne : rel ≠ [])
    (hr : RealFrom fs [] (dst ++ rel.dropLast)) : Leaf fs (dst ++ rel) :=
  ⟨plainPath_append hdst hrel, by simp [hne], by rwa [List.dropLast_append_of_ne_nil hne]⟩

theorem Leaf.of_real {fs : FS} {p : Path} (hp : PlainPath p) (hne : p ≠ []) (hr : RealFrom fs [] p) :
    Leaf fs p :=
  ⟨hp, hne, RealFrom.left (r := [p.getLast hne]) (by rwa [List.dropLast_concat_getLast])⟩

theorem Leaf.locate {fs : FS} {p : Path} (h : Leaf fs p) : locate fs p = some p := by
  have := locate_real fs _ (p.getLast h.ne) (plainPath_dropLast h.plain) (h.plain _ (List.getLast_mem _)) h.real
  rwa [List.dropLast_concat_getLast] at this

theorem Leaf.lstat {fs : FS} {p : Path} (h : Leaf fs p) : lstat fs p = fs.get p := by
  rw [RestoreFS.lstat, h.locate]

theorem Leaf.of_only {fs fs' : FS} {p : Path} (h : Leaf fs p) (ho : Only p fs fs') : Leaf fs' p :=
  { h with real := h.real.of_only (c := p.getLast h.ne) (by rwa [List.dropLast_concat_getLast]) }

theorem removeIfThere_only {fs : FS} {p : Path} (h : Leaf fs p) : Only p fs (removeIfThere fs p).1 := by
  unfold removeIfThere
  split
  · exact .refl _ _
  · exact (remove_only fs _ (Or.inr h.locate)).1

theorem nodeCreateAt_only {fs : FS} (n : Node) {p : Path} (h : Leaf fs p) :
    Only p fs (nodeCreateAt fs n p).1 := by
  have hl : Lex fs p := Or.inr h.locate
  unfold nodeCreateAt
  split
  · exact symlink_only fs _ _ _ hl
  · exact mknod_only fs _ _ hl
  · exact mkdir_only fs _ n.mode hl
  · exact (createFile_only fs _ _ _ hl).1
  · exact .refl _ _
  · exact .refl _ _

/-- the common shape of `restoreNodeTo` and `restoreHardlinkAt`: remove what is there, create
    the item with `op`, apply the metadata; all three at `dst ++ rel` -/
def replaceAt (cfg : Cfg) (fs : FS) (n : Node) (rel : Path) (op : FS → FS × Bool) : FS × Bool :=
  let (fs1, ok1) := removeIfThere fs (cfg.dst ++ rel)
  if !ok1 then (fs1, false) else
  match op fs1 with
  | (fs2, false) => (fs2, false)
  | (fs2, true) => restoreMetadata cfg fs2 n rel

theorem restoreNodeTo_eq (cfg : Cfg) (fs : FS) (n : Node) (rel : Path) :
    restoreNodeTo cfg fs n rel = replaceAt cfg fs n rel (nodeCreateAt · n (cfg.dst ++ rel)) := rfl

theorem restoreHardlinkAt_eq (cfg : Cfg) (fs : FS) (n : Node) (orig rel : Path) :
    restoreHardlinkAt cfg fs n orig rel =
      replaceAt cfg fs n rel (link · (cfg.dst ++ orig) (cfg.dst ++ rel)) := rfl

section
variable (cfg : Cfg) (hmeta : cfg.metaFix = true) {fs : FS} (n : Node) {rel : Path} (h : Leaf fs (cfg.dst ++ rel))
include hmeta h

theorem restoreMetadata_only : Only (cfg.dst ++ rel) fs (restoreMetadata cfg fs n rel).1 := by
  unfold restoreMetadata
  by_cases ht : (n.type == NType.symlink) = true
  · rw [if_pos ht]
    exact .refl _ _
  · rw [if_neg ht, if_pos hmeta, h.lstat]
    split
    · exact .refl _ _
    · next e hg =>
      split
      · exact .refl _ _
      · next hs =>
        -- `chmod` follows symlinks, but `Lstat` has just said that this is none
        exact chmod_only fs _ _ h.locate (by rw [isSym, hg]; simpa using hs)

theorem replaceAt_only (op : FS → FS × Bool)
    (hop : ∀ fs1, Leaf fs1 (cfg.dst ++ rel) → Only (cfg.dst ++ rel) fs1 (op fs1).1) :
    Only (cfg.dst ++ rel) fs (replaceAt cfg fs n rel op).1 := by
  have h1 := removeIfThere_only h
  rw [replaceAt]
  generalize removeIfThere fs (cfg.dst ++ rel) = r at h1 ⊢
  obtain ⟨fs1, ok1⟩ := r
  cases ok1
  · exact h1
  · have h2 := h1.trans (hop fs1 (h.of_only h1))
    dsimp only [Bool.not_true, Bool.false_eq_true, if_false]
    generalize op fs1 = r at h2 ⊢
    obtain ⟨fs2, ok2⟩ := r
    cases ok2
    · exact h2
    · exact h2.trans (restoreMetadata_only cfg hmeta n (h.of_only h2))

theorem restoreNodeTo_only : Only (cfg.dst ++ rel) fs (restoreNodeTo cfg fs n rel).1 :=
  replaceAt_only cfg hmeta n h _ fun _ => nodeCreateAt_only n

theorem restoreHardlinkAt_only (orig : Path) :
    Only (cfg.dst ++ rel) fs (restoreHardlinkAt cfg fs n orig rel).1 :=
  replaceAt_only cfg hmeta n h _ fun fs1 h1 => link_only fs1 _ _ (Or.inr h1.locate)

end

theorem removeEntries_frame (cfg : Cfg) (rel : Path) (keep : List Name) (entries : List Name) (fs : FS)
    (hD : PlainPath (cfg.dst ++ rel)) (hr : RealFrom fs [] (cfg.dst ++ rel)) :
    Frame (cfg.dst ++ rel) fs (removeEntries cfg rel keep entries fs).1 := by
  induction entries generalizing fs with
  | nil => exact .refl _ _
  | cons e rest ih =>
    rw [removeEntries]
    by_cases hkeep : keep.contains e = true
    · rw [if_pos hkeep]; exact ih fs hr
    rw [if_neg hkeep]
    by_cases hpl : plain e = true
    case neg => rw [if_pos (by simpa using hpl)]; exact .refl _ _
    rw [if_neg (by simpa using hpl)]
    by_cases hsel : (cfg.select (rel ++ [e]) false).1 = true
    case neg => rw [if_neg hsel]; exact ih fs hr
    rw [if_pos hsel]
    have ho := removeAll_only fs (cfg.dst ++ rel ++ [e])
      (Or.inr (locate_real fs _ e hD (plainName_of_plain hpl) hr))
    have hf := ho.frame (inside_append _ [e] (by simp))
    cases hra : removeAll fs (cfg.dst ++ rel ++ [e]) with
    | mk fs1 ok =>
      rw [hra] at ho hf
      cases ok with
      | true => exact hf.trans (ih fs1 (hr.of_only ho))
      | false => exact hf

theorem removeUnexpectedFiles_frame (cfg : Cfg) (fs : FS) (rel : Path) (expected : List Name)
    (hD : PlainPath (cfg.dst ++ rel)) (hr : RealFrom fs [] (cfg.dst ++ rel)) :
    Frame (cfg.dst ++ rel) fs (removeUnexpectedFiles cfg fs rel expected).1 := by
  unfold removeUnexpectedFiles
  split
  · exact .refl _ _
  · exact .refl _ _
  · exact removeEntries_frame cfg rel expected _ fs hD hr

end Restic.Model.RestoreTree
