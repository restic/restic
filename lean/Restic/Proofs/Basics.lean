/-! Small facts about `if` and lists that core Lean lacks and that more than one property uses. -/
namespace Restic.Proofs

theorem ite_ne {α : Type} {c : Prop} [Decidable c] {a b r : α} (ha : c → a ≠ r) (hb : ¬ c → b ≠ r) :
    (if c then a else b) ≠ r :=
  iteInduction (motive := (· ≠ r)) ha hb

theorem inj_of_nodup_map {α β} (f : α → β) (l : List α) (h : (l.map f).Nodup) :
    ∀ a ∈ l, ∀ b ∈ l, f a = f b → a = b := by
  induction l with
  | nil => exact nofun
  | cons x xs ih =>
    simp only [List.map_cons, List.nodup_cons, List.mem_map, not_exists, not_and] at h
    intro a ha b hb hab
    rcases List.mem_cons.mp ha with rfl | ha1 <;> rcases List.mem_cons.mp hb with rfl | hb1
    · rfl
    · exact absurd hab.symm (h.1 b hb1)
    · exact absurd hab (h.1 a ha1)
    · exact ih h.2 a ha1 b hb1 hab

theorem filterMap_congr {α β} {f g : α → Option β} {l : List α} (h : ∀ x, x ∈ l → f x = g x) :
    l.filterMap f = l.filterMap g := by
  induction l with
  | nil => rfl
  | cons x l ih =>
    rw [List.filterMap_cons, List.filterMap_cons, h x List.mem_cons_self,
      ih fun y hy => h y (List.mem_cons_of_mem _ hy)]

end Restic.Proofs
