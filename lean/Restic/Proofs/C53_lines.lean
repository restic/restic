import Restic.Proofs.C53_dual
/-! For C53: the lines of `printDir` and of the loop body `diffItem`, against `expectedLine`. -/

namespace Restic.Proofs.C53
open Restic.Model.SnapTree Restic.Model.Diff

def kidsOf : Option Tree → List Tree
  | none => []
  | some t => t.kids

def consPath (n : Name) (l : Line) : Line := { l with path := n :: l.path }
def shift (pre : List Name) (l : Line) : Line := { l with path := pre ++ l.path }

theorem shift_nil (l : Line) : shift [] l = l := rfl

theorem mem_lines {evs : List Ev} {l : Line} : l ∈ lines evs ↔ Ev.line l ∈ evs := by
  simp only [lines, List.mem_filterMap]
  constructor
  · rintro ⟨e, he, h⟩
    cases e <;> simp [prLine] at h
    subst h; exact he
  · intro h; exact ⟨_, h, rfl⟩

theorem shift_consPath (pre : List Name) (n : Name) (l : Line) :
    shift pre (consPath n l) = shift (pre ++ [n]) l := by
  simp [shift, consPath]

theorem lookup_nil (p : List Name) : lookup [] p = none := by
  cases p with
  | nil => rfl
  | cons n rest => simp [lookup, find]

theorem lookup_single (ts : List Tree) (n : Name) : lookup ts [n] = find ts n := by
  simp only [lookup]
  cases find ts n <;> simp

theorem lookup_cons_ne (ts : List Tree) (n : Name) (rest : List Name) (h : rest ≠ []) :
    lookup ts (n :: rest) = lookup (kidsOf (find ts n)) rest := by
  simp only [lookup]
  cases hf : find ts n with
  | none => simp [kidsOf, lookup_nil]
  | some t =>
    have : rest.isEmpty = false := by cases rest <;> simp_all
    simp [kidsOf, this]

theorem lookup_ne_nil {ts : List Tree} {p : List Name} {t : Tree} (h : lookup ts p = some t) : p ≠ [] := by
  intro e; subst e; simp [lookup] at h

theorem expected_nil_path (md : Bool) (l1 l2 : List Tree) : expectedLine md l1 l2 [] = none := by
  simp [expectedLine, lookup]

theorem expected_cons (md : Bool) (l1 l2 : List Tree) (n : Name) (rest : List Name) (h : rest ≠ []) :
    expectedLine md l1 l2 (n :: rest) =
      (expectedLine md (kidsOf (find l1 n)) (kidsOf (find l2 n)) rest).map (consPath n) := by
  unfold expectedLine
  rw [lookup_cons_ne l1 n rest h, lookup_cons_ne l2 n rest h]
  cases lookup (kidsOf (find l1 n)) rest <;> cases lookup (kidsOf (find l2 n)) rest
  · rfl
  · rfl
  · rfl
  · simp only
    split <;> rfl

theorem modOf_self (md : Bool) (m : Meta) : modOf md m m = "" := by
  simp [modOf, equals]

theorem expected_same (md : Bool) (k : List Tree) (p : List Name) : expectedLine md k k p = none := by
  unfold expectedLine
  cases lookup k p with
  | none => rfl
  | some t => simp [modOf_self]

theorem expected_left (md : Bool) (k : List Tree) (p : List Name) :
    expectedLine md k [] p = (lookup k p).map (fun t => ⟨p, t.meta.type == .dir, "-"⟩) := by
  unfold expectedLine
  rw [lookup_nil]
  cases lookup k p <;> rfl

theorem expected_right (md : Bool) (k : List Tree) (p : List Name) :
    expectedLine md [] k p = (lookup k p).map (fun t => ⟨p, t.meta.type == .dir, "+"⟩) := by
  unfold expectedLine
  rw [lookup_nil]
  cases lookup k p <;> rfl

theorem lookup_cons (t : Tree) (ts : List Tree) (n : Name) (rest : List Name) :
    lookup (t :: ts) (n :: rest) =
      if nm t = n then (if rest.isEmpty then some t else lookup t.kids rest) else lookup ts (n :: rest) := by
  simp only [lookup, find_cons]
  by_cases h : nm t = n <;> simp [h]

theorem lookup_cons_some {t : Tree} {ts : List Tree} {p : List Name} {u : Tree} (h : lookup (t :: ts) p = some u) :
    (p = [nm t] ∧ u = t) ∨ (∃ r, p = nm t :: r ∧ lookup t.kids r = some u) ∨ lookup ts p = some u := by
  cases p with
  | nil => simp [lookup] at h
  | cons n rest =>
    rw [lookup_cons] at h
    by_cases hn : nm t = n
    · subst hn
      rw [if_pos rfl] at h
      cases rest with
      | nil => exact .inl ⟨rfl, (Option.some.inj h).symm⟩
      | cons a r => exact .inr (.inl ⟨_, rfl, h⟩)
    · rw [if_neg hn] at h; exact .inr (.inr h)

theorem lookup_mem_paths : ∀ (p : List Name) (ts : List Tree) (pre : List Name) (t : Tree),
    lookup ts p = some t → pre ++ p ∈ pathsL pre ts := by
  intro p
  induction p with
  | nil => intro ts pre t h; simp [lookup] at h
  | cons n rest ih =>
    intro ts
    induction ts with
    | nil => intro pre t h; rw [lookup_nil] at h; cases h
    | cons x xs ihx =>
      intro pre t h
      obtain ⟨m, kids⟩ := x
      simp only [pathsL, pathsT, List.mem_append, List.mem_cons]
      rcases lookup_cons_some h with ⟨hp, _⟩ | ⟨r, hp, hr⟩ | h'
      · exact .inl (.inl (by rw [hp]; rfl))
      · cases hp
        exact .inl (.inr (by simpa [nm, Tree.meta] using ih kids (pre ++ [m.name]) t hr))
      · exact .inr (ihx pre t h')

theorem lookup_tail {t : Tree} {ts : List Tree} (hs : LevelSorted (t :: ts)) {p : List Name} {u : Tree}
    (h : lookup ts p = some u) : lookup (t :: ts) p = some u := by
  cases p with
  | nil => simp [lookup] at h
  | cons n rest =>
    rw [lookup_cons]
    have : nm t ≠ n := by
      apply ne_of_find hs.1
      simp only [lookup] at h
      cases hf : find ts n with
      | none => simp [hf] at h
      | some _ => rfl
    simp [this, h]

def Expected (md : Bool) (pre : List Name) (l1 l2 : List Tree) (l : Line) : Prop :=
  ∃ p l', expectedLine md l1 l2 p = some l' ∧ l = shift pre l'

theorem not_expected_same {md : Bool} {pre : List Name} {k : List Tree} {l : Line} : ¬ Expected md pre k k l := by
  rintro ⟨p, l', he, _⟩; rw [expected_same] at he; cases he

theorem expected_split (md : Bool) (pre : List Name) (l1 l2 : List Tree) (l : Line) :
    Expected md pre l1 l2 l ↔ ∃ n, (∃ l', expectedLine md l1 l2 [n] = some l' ∧ l = shift pre l') ∨
      Expected md (pre ++ [n]) (kidsOf (find l1 n)) (kidsOf (find l2 n)) l := by
  constructor
  · rintro ⟨p, l', he, hl⟩
    cases p with
    | nil => rw [expected_nil_path] at he; cases he
    | cons n rest =>
      refine ⟨n, ?_⟩
      by_cases hr : rest = []
      · subst hr; exact Or.inl ⟨l', he, hl⟩
      · rw [expected_cons md l1 l2 n rest hr, Option.map_eq_some_iff] at he
        obtain ⟨l'', he', rfl⟩ := he
        exact Or.inr ⟨rest, l'', he', by rw [hl, shift_consPath]⟩
  · rintro ⟨n, ⟨l', he, hl⟩ | ⟨p, l', he, hl⟩⟩
    · exact ⟨[n], l', he, hl⟩
    · have hp : p ≠ [] := fun e => by subst e; rw [expected_nil_path] at he; cases he
      exact ⟨n :: p, consPath n l', by rw [expected_cons md l1 l2 n p hp, he]; rfl,
        by rw [shift_consPath]; exact hl⟩

/-- the common shape of `expected_removed` and `expected_added` -/
theorem expected_signed {pre : List Name} {l : Line} (f : List Name → Option Tree) (s : String) :
    (∃ p l', (f p).map (fun t => (⟨p, t.meta.type == .dir, s⟩ : Line)) = some l' ∧ l = shift pre l') ↔
      ∃ p u, f p = some u ∧ l = ⟨pre ++ p, u.meta.type == .dir, s⟩ := by
  simp only [Option.map_eq_some_iff]
  constructor
  · rintro ⟨p, _, ⟨u, hu, rfl⟩, rfl⟩; exact ⟨p, u, hu, rfl⟩
  · rintro ⟨p, u, hu, rfl⟩; exact ⟨p, _, ⟨u, hu, rfl⟩, rfl⟩

theorem expected_removed (md : Bool) (pre : List Name) (k : List Tree) (l : Line) :
    Expected md pre k [] l ↔ ∃ p u, lookup k p = some u ∧ l = ⟨pre ++ p, u.meta.type == .dir, "-"⟩ := by
  simp only [Expected, expected_left]; exact expected_signed _ _

theorem expected_added (md : Bool) (pre : List Name) (k : List Tree) (l : Line) :
    Expected md pre [] k l ↔ ∃ p u, lookup k p = some u ∧ l = ⟨pre ++ p, u.meta.type == .dir, "+"⟩ := by
  simp only [Expected, expected_right]; exact expected_signed _ _

mutual
theorem collectT_blob : ∀ t, ∀ e ∈ collectT t, ∃ b, e = Ev.blob .common b
  | .mk m kids, e, h => by
    simp only [collectT, List.mem_append, List.mem_map] at h
    rcases h with ⟨b, _, rfl⟩ | h
    · exact ⟨b, rfl⟩
    · split at h
      · exact collectL_blob kids e h
      · cases h
theorem collectL_blob : ∀ ts, ∀ e ∈ collectL ts, ∃ b, e = Ev.blob .common b
  | [], e, h => by simp [collectL] at h
  | t :: ts, e, h => by
    simp only [collectL, List.mem_append] at h
    exact h.elim (collectT_blob t e) (collectL_blob ts e)
end

theorem collectL_no_line (l : Line) (ts : List Tree) : Ev.line l ∉ collectL ts := fun h => by
  obtain ⟨b, hb⟩ := collectL_blob ts _ h; cases hb

/-- the kinds of event `printDir s` emits (`filterMap_ofSide` drops them all at once) -/
def OfSide (s : Side) (e : Ev) : Prop := (∃ l, e = .line l) ∨ (∃ m, e = .stat s m) ∨ ∃ b, e = .blob s.which b

mutual
theorem printDirT_ofSide (s : Side) : ∀ (pre : List Name) (t : Tree), ∀ e ∈ printDirT s pre t, OfSide s e
  | pre, .mk m kids, e, h => by
    simp only [printDirT, List.mem_append, List.mem_cons, List.mem_map, List.not_mem_nil, or_false] at h
    rcases h with ((rfl | rfl) | ⟨b, _, rfl⟩) | h
    · exact Or.inl ⟨_, rfl⟩
    · exact Or.inr (Or.inl ⟨_, rfl⟩)
    · exact Or.inr (Or.inr ⟨_, rfl⟩)
    · split at h
      · exact printDirL_ofSide s _ kids e h
      · cases h
theorem printDirL_ofSide (s : Side) : ∀ (pre : List Name) (ts : List Tree), ∀ e ∈ printDirL s pre ts, OfSide s e
  | pre, [], e, h => by simp [printDirL] at h
  | pre, t :: ts, e, h => by
    simp only [printDirL, List.mem_append] at h
    exact h.elim (printDirT_ofSide s pre t e) (printDirL_ofSide s pre ts e)
end

mutual
theorem printDirT_lines (s : Side) (l : Line) : ∀ (pre : List Name) (t : Tree), sortedT t = true → shapeT t = true →
    (Ev.line l ∈ printDirT s pre t ↔
      l = ⟨pre ++ [nm t], t.meta.type == .dir, s.str⟩ ∨
      ∃ p u, lookup t.kids p = some u ∧ l = ⟨pre ++ [nm t] ++ p, u.meta.type == .dir, s.str⟩)
  | pre, .mk m kids, hso, hsh => by
    simp only [sortedT] at hso
    simp only [shapeT, Bool.and_eq_true, Bool.or_eq_true, beq_iff_eq, List.isEmpty_iff] at hsh
    simp only [printDirT, List.mem_append, List.mem_cons, Ev.line.injEq, List.mem_map, nm, Tree.meta, Tree.kids,
      List.not_mem_nil, or_false, reduceCtorEq, and_false, exists_false]
    by_cases hd : m.type = .dir
    · simp only [hd, beq_self_eq_true, if_true]
      rw [printDirL_lines s l (pre ++ [m.name]) kids hso hsh.2]
      simp only [List.append_assoc, List.singleton_append]
      exact Iff.rfl
    · have hk : kids = [] := hsh.1.resolve_left hd
      subst hk
      simp [hd, lookup_nil]
theorem printDirL_lines (s : Side) (l : Line) : ∀ (pre : List Name) (ts : List Tree), sortedL ts = true → shapeL ts = true →
    (Ev.line l ∈ printDirL s pre ts ↔ ∃ p u, lookup ts p = some u ∧ l = ⟨pre ++ p, u.meta.type == .dir, s.str⟩)
  | pre, [], _, _ => by simp [printDirL, lookup_nil]
  | pre, t :: ts, hso, hsh => by
    have hls := levelSorted_of_sortedL _ hso
    simp only [sortedL, Bool.and_eq_true] at hso
    simp only [shapeL, Bool.and_eq_true] at hsh
    simp only [printDirL, List.mem_append]
    rw [printDirT_lines s l pre t hso.1.1 hsh.1, printDirL_lines s l pre ts hso.2 hsh.2]
    constructor
    · rintro ((h | ⟨p, u, hp, hl⟩) | ⟨p, u, hp, hl⟩)
      · exact ⟨[nm t], t, by simp [lookup_cons], h⟩
      · refine ⟨nm t :: p, u, ?_, by simpa using hl⟩
        have : p.isEmpty = false := by
          cases p with
          | nil => simp [lookup] at hp
          | cons _ _ => rfl
        simp [lookup_cons, this, hp]
      · exact ⟨p, u, lookup_tail hls hp, hl⟩
    · rintro ⟨p, u, hp, hl⟩
      rcases lookup_cons_some hp with ⟨rfl, rfl⟩ | ⟨r, rfl, hr⟩ | h'
      · exact .inl (.inl hl)
      · exact .inl (.inr ⟨r, u, hr, by simpa using hl⟩)
      · exact .inr ⟨p, u, h', hl⟩
end

section item
variable (rec : List Name → List Tree → List Tree → List Ev) (md : Bool) (pre : List Name)

/-- the expression in `diffItem` that handles what is below two nodes of the same name -/
def subEvs (m1 m2 : Meta) (k1 k2 : List Tree) : List Ev :=
  if m1.type == .dir && m2.type == .dir then
    (if m1.subtree == m2.subtree then collectL k1 else rec pre k1 k2)
  else if m1.type == .dir then printDirL .removed pre k1
  else if m2.type == .dir then printDirL .added pre k2
  else []

theorem diffItem_both (m1 m2 : Meta) (k1 k2 : List Tree) :
    diffItem rec md pre (some (.mk m1 k1), some (.mk m2 k2)) =
      (blobsOf m1).map (Ev.blob .before) ++ (blobsOf m2).map (Ev.blob .after) ++
      (if modOf md m1 m2 != "" then [Ev.line ⟨pre ++ [m1.name], m2.type == .dir, modOf md m1 m2⟩] else []) ++
      (if isM m1 m2 then [Ev.changed] else []) ++ subEvs rec (pre ++ [m1.name]) m1 m2 k1 k2 := rfl

theorem mem_subEvs {e : Ev} {m1 m2 : Meta} {k1 k2 : List Tree} (h : e ∈ subEvs rec pre m1 m2 k1 k2) :
    e ∈ collectL k1 ∨ e ∈ rec pre k1 k2 ∨ e ∈ printDirL .removed pre k1 ∨ e ∈ printDirL .added pre k2 := by
  unfold subEvs at h
  repeat' split at h
  · exact .inl h
  · exact .inr (.inl h)
  · exact .inr (.inr (.inl h))
  · exact .inr (.inr (.inr h))
  · cases h

/-- Below a pair of directory-shaped nodes with faithful subtree ids: nothing to report for
    identical children (`same`), the recursive call (`recur`), or `printDir` of the one side that is
    a directory (`removed`, `added`). When neither is one, `k1 = k2 = []` and the empty result is
    `printDirL .removed pre []`: that fourth outcome is `removed`. -/
theorem subEvs_elim {motive : List Ev → List Tree → List Tree → Prop} {m1 m2 : Meta} {k1 k2 : List Tree}
    (hd1 : m1.type = .dir ∨ k1 = []) (hd2 : m2.type = .dir ∨ k2 = [])
    (hf : m1.type = .dir → m2.type = .dir → m1.subtree = m2.subtree → k1 = k2)
    (same : motive (collectL k1) k1 k1)
    (recur : m1.type = .dir → m2.type = .dir → motive (rec pre k1 k2) k1 k2)
    (removed : motive (printDirL .removed pre k1) k1 [])
    (added : motive (printDirL .added pre k2) [] k2) :
    motive (subEvs rec pre m1 m2 k1 k2) k1 k2 := by
  unfold subEvs
  by_cases d1 : m1.type = .dir
  · by_cases d2 : m2.type = .dir
    · rw [if_pos (by simp [d1, d2])]
      by_cases hs : m1.subtree = m2.subtree
      · rw [if_pos (by simpa using hs)]; cases hf d1 d2 hs; exact same
      · rw [if_neg (by simpa using hs)]; exact recur d1 d2
    · cases hd2.resolve_left d2
      rw [if_neg (by simp [d2]), if_pos (by simp [d1])]; exact removed
  · cases hd1.resolve_left d1
    rw [if_neg (by simp [d1]), if_neg (by simp [d1])]
    by_cases d2 : m2.type = .dir
    · rw [if_pos (by simp [d2])]; exact added
    · cases hd2.resolve_left d2
      rw [if_neg (by simp [d2])]; exact removed

theorem sub_lines (l : Line) {m1 m2 : Meta} {k1 k2 : List Tree}
    (hd1 : m1.type = .dir ∨ k1 = []) (hd2 : m2.type = .dir ∨ k2 = [])
    (hf : m1.type = .dir → m2.type = .dir → m1.subtree = m2.subtree → k1 = k2)
    (so1 : sortedL k1 = true) (so2 : sortedL k2 = true) (sh1 : shapeL k1 = true) (sh2 : shapeL k2 = true)
    (hrec : m1.type = .dir → m2.type = .dir → (Ev.line l ∈ rec pre k1 k2 ↔ Expected md pre k1 k2 l)) :
    Ev.line l ∈ subEvs rec pre m1 m2 k1 k2 ↔ Expected md pre k1 k2 l :=
  subEvs_elim (motive := fun evs a b => Ev.line l ∈ evs ↔ Expected md pre a b l) rec pre hd1 hd2 hf
    (iff_of_false (collectL_no_line l k1) not_expected_same) hrec
    ((printDirL_lines .removed l pre k1 so1 sh1).trans (expected_removed md pre k1 l).symm)
    ((printDirL_lines .added l pre k2 so2 sh2).trans (expected_added md pre k2 l).symm)

theorem line_mem_diffItem_both (l : Line) (m1 m2 : Meta) (k1 k2 : List Tree) :
    Ev.line l ∈ diffItem rec md pre (some (.mk m1 k1), some (.mk m2 k2)) ↔
      (modOf md m1 m2 ≠ "" ∧ l = ⟨pre ++ [m1.name], m2.type == .dir, modOf md m1 m2⟩) ∨
      Ev.line l ∈ subEvs rec (pre ++ [m1.name]) m1 m2 k1 k2 := by
  have hch : Ev.line l ∉ (if isM m1 m2 then [Ev.changed] else []) := by split <;> simp
  simp only [diffItem_both, List.mem_append, List.mem_map, reduceCtorEq, and_false, exists_false, false_or, hch,
    or_false]
  by_cases hmod : modOf md m1 m2 = "" <;> simp [hmod]

/-- only a permutation: `diffItem` records the blobs first -/
theorem diffItem_removed (x : Tree) : (diffItem rec md pre (some x, none)).Perm (printDirT .removed pre x) := by
  obtain ⟨m, k⟩ := x
  exact List.perm_append_comm.append_right _

theorem diffItem_added (y : Tree) : (diffItem rec md pre (none, some y)).Perm (printDirT .added pre y) := by
  obtain ⟨m, k⟩ := y
  exact List.perm_append_comm.append_right _

end item

end Restic.Proofs.C53
