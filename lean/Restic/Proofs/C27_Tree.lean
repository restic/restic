import Restic.Proofs.Select_Tree
/-!
# C27 helper lemmas: `RewriteTree` on the tree model

For arbitrary decision functions `sel` (RewriteNode keeps the node) and `keep`
(KeepEmptyDirectory): which entries survive, summary statistics, the no-match cases.
-/
namespace Restic.Proofs.C27
open Restic.Model.Filter Restic.Model.Select Restic.Proofs.Select

def fsum (l : List (List Str × Nat)) : Nat := (l.map (·.2)).sum

theorem fsum_append (a b : List (List Str × Nat)) : fsum (a ++ b) = fsum a + fsum b := by
  simp only [fsum, List.map_append, List.sum_append]

section
variable {sel : List Str → Bool → Bool} {keep : List Str → Bool} {names : List Str}

theorem rwList_singleton (c : Node) (st : Stats) :
    rwList sel keep names [c] st =
      ((rwNode sel keep names c st).1.toList, (rwNode sel keep names c st).2) := by
  rw [rwList]
  rcases rwNode sel keep names c st with ⟨_ | c', st1⟩ <;> rfl

theorem rwList_file (n : Str) (sz : Nat) (cs : List Node) (st : Stats) :
    rwList sel keep names (.file n sz :: cs) st =
      if sel (names ++ [n]) false then
        Prod.map (.file n sz :: ·) id (rwList sel keep names cs ⟨st.count + 1, st.size + sz⟩)
      else rwList sel keep names cs st := by
  rw [rwList, rwNode]; cases sel (names ++ [n]) false <;> rfl

theorem rwList_other (n : Str) (s : Bool) (cs : List Node) (st : Stats) :
    rwList sel keep names (.other n s :: cs) st =
      if sel (names ++ [n]) false then Prod.map (.other n s :: ·) id (rwList sel keep names cs st)
      else rwList sel keep names cs st := by
  rw [rwList, rwNode]; cases sel (names ++ [n]) false <;> rfl

theorem rwList_dir (n : Str) (ch cs : List Node) (st : Stats) :
    rwList sel keep names (.dir n ch :: cs) st =
      if sel (names ++ [n]) true then
        if (rwList sel keep (names ++ [n]) ch st).1.isEmpty && !keep (names ++ [n]) then
          rwList sel keep names cs (rwList sel keep (names ++ [n]) ch st).2
        else Prod.map (.dir n (rwList sel keep (names ++ [n]) ch st).1 :: ·) id
          (rwList sel keep names cs (rwList sel keep (names ++ [n]) ch st).2)
      else rwList sel keep names cs st := by
  rw [rwList, rwNode]
  cases sel (names ++ [n]) true
  · rfl
  · rcases rwList sel keep (names ++ [n]) ch st with ⟨res, st'⟩
    dsimp only
    cases res.isEmpty && !keep (names ++ [n]) <;> rfl

/-- `RewriteTree` on the root: the null tree ID stands for an empty result that is not kept -/
theorem rewriteRoot_eq (root : List Node) :
    rewriteRoot sel keep root =
      (if (rwList sel keep [] root ⟨0, 0⟩).1.isEmpty && !keep [] then none
        else some (rwList sel keep [] root ⟨0, 0⟩).1, (rwList sel keep [] root ⟨0, 0⟩).2) := by
  unfold rewriteRoot
  rcases rwList sel keep [] root ⟨0, 0⟩ with ⟨res, st⟩
  dsimp only
  cases res.isEmpty && !keep [] <;> rfl

theorem rwList_of_rewriteRoot {root t : List Node} {st : Stats}
    (h : rewriteRoot sel keep root = (some t, st)) : rwList sel keep [] root ⟨0, 0⟩ = (t, st) := by
  rw [rewriteRoot_eq, Prod.mk.injEq] at h
  by_cases c : ((rwList sel keep [] root ⟨0, 0⟩).1.isEmpty && !keep []) = true
  · rw [if_pos c] at h; cases h.1
  · rw [if_neg c] at h; exact Prod.ext (Option.some.inj h.1) h.2

end

theorem sum_list (sel : List Str → Bool → Bool) (keep : List Str → Bool) :
    ∀ (names : List Str) (l : List Node) (st : Stats),
      (rwList sel keep names l st).2 =
        ⟨st.count + (files names (rwList sel keep names l st).1).length,
         st.size + fsum (files names (rwList sel keep names l st).1)⟩ := by
  intro names l
  induction names, l using forest_induct with
  | nil names => intro st; rfl
  | file names n sz cs ih =>
    intro st
    rw [rwList_file]
    split
    · rw [Prod.map_snd, Prod.map_fst, id_eq, ih, files_file, List.length_cons, Stats.mk.injEq]
      exact ⟨Nat.add_right_comm .., Nat.add_assoc ..⟩
    · exact ih st
  | other names n s cs ih =>
    intro st
    rw [rwList_other]
    split
    · rw [Prod.map_snd, Prod.map_fst, id_eq, files_other]; exact ih st
    · exact ih st
  | dir names n ch cs ihc ih =>
    intro st
    rw [rwList_dir]
    split
    · by_cases he : ((rwList sel keep (names ++ [n]) ch st).1.isEmpty && !keep (names ++ [n])) = true
      · -- nothing of the dropped subtree was counted
        rw [if_pos he]
        rw [Bool.and_eq_true, List.isEmpty_iff] at he
        rw [ih, ihc, he.1]; rfl
      · rw [if_neg he, Prod.map_snd, Prod.map_fst, id_eq, ih, ihc, files_dir, List.length_append, fsum_append,
          Stats.mk.injEq]
        exact ⟨Nat.add_assoc .., Nat.add_assoc ..⟩
    · exact ih st

theorem sum_node (sel : List Str → Bool → Bool) (keep : List Str → Bool) (names : List Str) :
    ∀ (n : Node) (st : Stats),
      (rwNode sel keep names n st).2 =
        ⟨st.count + (files names (rwNode sel keep names n st).1.toList).length,
         st.size + fsum (files names (rwNode sel keep names n st).1.toList)⟩ := by
  intro n st
  simpa only [rwList_singleton] using sum_list sel keep names [n] st

theorem tree_summary {sel : List Str → Bool → Bool} {keep : List Str → Bool} {root t : List Node}
    {st : Stats} (h : rwList sel keep [] root ⟨0, 0⟩ = (t, st)) :
    st.count = (files [] t).length ∧ st.size = fsum (files [] t) := by
  have hs := sum_list sel keep [] root ⟨0, 0⟩
  rw [h] at hs
  exact ⟨(congrArg Stats.count hs).trans (Nat.zero_add _), (congrArg Stats.size hs).trans (Nat.zero_add _)⟩

/-- the decisions on the way from the directory `base` down to the item `p`: the item itself is
    kept by `sel`, and so is every directory strictly between (`Through` for `sel · true`) -/
def Chain (sel : List Str → Bool → Bool) (base : Nat) (p : List Str) (isDir : Bool) : Prop :=
  sel p isDir = true ∧ ∀ k, base < k → k < p.length → sel (p.take k) true = true

theorem chain_top {sel : List Str → Bool → Bool} {names : List Str} {n : Str} {d : Bool}
    (h : sel (names ++ [n]) d = true) : Chain sel names.length (names ++ [n]) d :=
  And.intro h (through_top (sel · true = true) names n)

theorem chain_entry {sel : List Str → Bool → Bool} {names : List Str} {n : Str} {ch : List Node}
    {e : Entry} (h : e ∈ entries (names ++ [n]) ch) (d : Bool) :
    Chain sel names.length e.path d ↔
      (sel (names ++ [n]) true = true ∧ Chain sel (names ++ [n]).length e.path d) :=
  (and_congr_right fun _ => through_entry (sel · true = true) h).trans and_left_comm

/-- what survives is an original entry that `sel` kept together with every directory above it -/
theorem rw_list_sub (sel : List Str → Bool → Bool) (keep : List Str → Bool) :
    ∀ (names : List Str) (l : List Node) (st : Stats) (e : Entry),
      e ∈ entries names (rwList sel keep names l st).1 →
        e ∈ entries names l ∧ Chain sel names.length e.path e.isDir := by
  intro names l
  induction names, l using forest_induct with
  | nil names => intro st e h; cases h
  | file names n sz cs ih =>
    intro st e h
    rw [rwList_file] at h
    rw [entries_file, List.mem_cons]
    by_cases hs : sel (names ++ [n]) false = true
    · rw [if_pos hs, Prod.map_fst, entries_file, List.mem_cons] at h
      rcases h with rfl | h
      · exact ⟨Or.inl rfl, chain_top hs⟩
      · exact (ih _ e h).imp_left Or.inr
    · rw [if_neg hs] at h; exact (ih st e h).imp_left Or.inr
  | other names n s cs ih =>
    intro st e h
    rw [rwList_other] at h
    rw [entries_other, List.mem_cons]
    by_cases hs : sel (names ++ [n]) false = true
    · rw [if_pos hs, Prod.map_fst, entries_other, List.mem_cons] at h
      rcases h with rfl | h
      · exact ⟨Or.inl rfl, chain_top hs⟩
      · exact (ih _ e h).imp_left Or.inr
    · rw [if_neg hs] at h; exact (ih st e h).imp_left Or.inr
  | dir names n ch cs ihc ih =>
    intro st e h
    rw [rwList_dir] at h
    rw [entries_dir, List.mem_cons, List.mem_append]
    by_cases hs : sel (names ++ [n]) true = true
    · rw [if_pos hs] at h
      split at h
      · exact (ih _ e h).imp_left (Or.inr ∘ Or.inr)
      · rw [Prod.map_fst, entries_dir, List.mem_cons, List.mem_append] at h
        rcases h with rfl | h | h
        · exact ⟨Or.inl rfl, chain_top hs⟩
        · have ⟨h1, h2⟩ := ihc st e h
          exact ⟨Or.inr (Or.inl h1), (chain_entry h1 _).mpr ⟨hs, h2⟩⟩
        · exact (ih _ e h).imp_left (Or.inr ∘ Or.inr)
    · rw [if_neg hs] at h; exact (ih _ e h).imp_left (Or.inr ∘ Or.inr)

/-- an original entry with a positive chain of decisions survives, provided empty directories are
    kept (`exclude` mode), the entry is not a directory (then the directories above it are not
    empty), or `KeepEmptyDirectory` keeps this very directory -/
theorem rw_list_sup' (sel : List Str → Bool → Bool) (keep : List Str → Bool) :
    ∀ (names : List Str) (l : List Node) (st : Stats) (e : Entry),
      ((∀ p, keep p = true) ∨ e.isDir = false ∨ keep e.path = true) →
      e ∈ entries names l → Chain sel names.length e.path e.isDir →
        e ∈ entries names (rwList sel keep names l st).1 := by
  intro names l
  induction names, l using forest_induct with
  | nil names => intro st e _ h; cases h
  | file names n sz cs ih =>
    intro st e hk h hc
    rw [entries_file, List.mem_cons] at h
    rw [rwList_file]
    rcases h with rfl | h
    · rw [if_pos hc.1, Prod.map_fst, entries_file]; exact List.mem_cons_self
    · split
      · rw [Prod.map_fst, entries_file]; exact List.mem_cons_of_mem _ (ih _ e hk h hc)
      · exact ih st e hk h hc
  | other names n s cs ih =>
    intro st e hk h hc
    rw [entries_other, List.mem_cons] at h
    rw [rwList_other]
    rcases h with rfl | h
    · rw [if_pos hc.1, Prod.map_fst, entries_other]; exact List.mem_cons_self
    · split
      · rw [Prod.map_fst, entries_other]; exact List.mem_cons_of_mem _ (ih _ e hk h hc)
      · exact ih st e hk h hc
  | dir names n ch cs ihc ih =>
    intro st e hk h hc
    rw [entries_dir, List.mem_cons, List.mem_append] at h
    rw [rwList_dir]
    rcases h with rfl | h | h
    · -- the directory itself: `keep` holds it even if it comes back empty
      have hkeep : keep (names ++ [n]) = true := hk.elim (· _) (·.elim nofun id)
      rw [if_pos hc.1, hkeep, Bool.not_true, Bool.and_false, if_neg Bool.false_ne_true,
        Prod.map_fst, entries_dir]
      exact List.mem_cons_self
    · -- an entry inside: the directory comes back non-empty
      have ⟨hs, hc'⟩ := (chain_entry h _).mp hc
      have hin := ihc st e hk h hc'
      have hne : (rwList sel keep (names ++ [n]) ch st).1.isEmpty = false :=
        List.isEmpty_eq_false_iff.mpr fun h0 => by rw [h0] at hin; cases hin
      rw [if_pos hs, hne, Bool.false_and, if_neg Bool.false_ne_true, Prod.map_fst, entries_dir]
      exact List.mem_cons_of_mem _ (List.mem_append_left _ hin)
    · split
      · split
        · exact ih _ e hk h hc
        · rw [Prod.map_fst, entries_dir]
          exact List.mem_cons_of_mem _ (List.mem_append_right _ (ih _ e hk h hc))
      · exact ih st e hk h hc

theorem rw_node_sup' (sel : List Str → Bool → Bool) (keep : List Str → Bool) (names : List Str) :
    ∀ (n : Node) (st : Stats) (e : Entry),
      ((∀ p, keep p = true) ∨ e.isDir = false ∨ keep e.path = true) →
      e ∈ entries names [n] → Chain sel names.length e.path e.isDir →
        e ∈ entries names (rwNode sel keep names n st).1.toList := by
  intro n st e hk h hc
  simpa only [rwList_singleton] using rw_list_sup' sel keep names [n] st e hk h hc

theorem rw_list_sup (sel : List Str → Bool → Bool) (keep : List Str → Bool) (names : List Str)
    (l : List Node) (st : Stats) (e : Entry) (hk : (∀ p, keep p = true) ∨ e.isDir = false) :
    e ∈ entries names l → Chain sel names.length e.path e.isDir →
      e ∈ entries names (rwList sel keep names l st).1 :=
  rw_list_sup' sel keep names l st e (hk.imp_right Or.inl)

theorem rw_node_sup (sel : List Str → Bool → Bool) (keep : List Str → Bool) (names : List Str) :
    ∀ (n : Node) (st : Stats) (e : Entry),
      ((∀ p, keep p = true) ∨ e.isDir = false) →
      e ∈ entries names [n] → Chain sel names.length e.path e.isDir →
        e ∈ entries names (rwNode sel keep names n st).1.toList :=
  fun n st e hk => rw_node_sup' sel keep names n st e (hk.imp_right Or.inl)

theorem rw_list_id (sel : List Str → Bool → Bool) :
    ∀ (names : List Str) (l : List Node) (st : Stats),
      (∀ e ∈ entries names l, sel e.path e.isDir = true) →
        (rwList sel (fun _ => true) names l st).1 = l := by
  intro names l
  induction names, l using forest_induct with
  | nil names => intro st _; rfl
  | file names n sz cs ih =>
    intro st h
    rw [entries_file, List.forall_mem_cons] at h
    rw [rwList_file, if_pos h.1, Prod.map_fst, ih _ h.2]
  | other names n s cs ih =>
    intro st h
    rw [entries_other, List.forall_mem_cons] at h
    rw [rwList_other, if_pos h.1, Prod.map_fst, ih _ h.2]
  | dir names n ch cs ihc ih =>
    intro st h
    rw [entries_dir, List.forall_mem_cons, List.forall_mem_append] at h
    rw [rwList_dir, if_pos h.1, Bool.not_true, Bool.and_false, if_neg Bool.false_ne_true,
      Prod.map_fst, ihc _ h.2.1, ih _ h.2.2]

theorem rw_node_id (sel : List Str → Bool → Bool) (names : List Str) :
    ∀ (n : Node) (st : Stats), (∀ e ∈ entries names [n], sel e.path e.isDir = true) →
      (rwNode sel (fun _ => true) names n st).1 = some n := by
  intro n st h
  have := rw_list_id sel names [n] st h
  rw [rwList_singleton] at this
  cases ho : (rwNode sel (fun _ => true) names n st).1 <;> rw [ho] at this <;> cases this
  rfl

theorem rw_list_none (sel : List Str → Bool → Bool) (keep : List Str → Bool) (names : List Str)
    (l : List Node) (st : Stats) (h : ∀ c ∈ l, sel (names ++ [c.name]) c.isDir = false) :
    (rwList sel keep names l st).1 = [] := by
  induction l with
  | nil => rfl
  | cons c cs ih =>
    rw [List.forall_mem_cons] at h
    have hc := ne_true_of_eq_false h.1
    cases c
    · rw [rwList_file]; exact (congrArg Prod.fst (if_neg hc)).trans (ih h.2)
    · rw [rwList_other]; exact (congrArg Prod.fst (if_neg hc)).trans (ih h.2)
    · rw [rwList_dir]; exact (congrArg Prod.fst (if_neg hc)).trans (ih h.2)

/-- `e'` lies strictly below the directory `e` -/
def Below (e e' : Entry) : Prop := e.path.length < e'.path.length ∧ e'.path.take e.path.length = e.path

theorem below_of_mem {q : List Str} {l : List Node} {e e' : Entry} (he : e.path = q)
    (h : e' ∈ entries q l) : Below e e' := by
  obtain ⟨m, rest, hr⟩ := entries_prefix q l e' h
  unfold Below
  rw [he, hr]
  exact ⟨by rw [List.length_append]; exact Nat.lt_add_of_pos_right (Nat.succ_pos _), List.take_left⟩

theorem entries_ne_nil (names : List Str) {l : List Node} (h : l ≠ []) : ∃ e, e ∈ entries names l := by
  rcases l with _ | ⟨_ | _ | _, r⟩
  · exact absurd rfl h
  · exact ⟨_, entries_file .. ▸ List.mem_cons_self⟩
  · exact ⟨_, entries_other .. ▸ List.mem_cons_self⟩
  · exact ⟨_, entries_dir .. ▸ List.mem_cons_self⟩

/-- a directory that survives is held by `keep` or has a surviving entry below it -/
theorem rw_list_dir_reason (sel : List Str → Bool → Bool) (keep : List Str → Bool) :
    ∀ (names : List Str) (l : List Node) (st : Stats) (e : Entry),
      e ∈ entries names (rwList sel keep names l st).1 → e.isDir = true →
        keep e.path = true ∨ ∃ e' ∈ entries names (rwList sel keep names l st).1, Below e e' := by
  -- the witness found in a part of the rewritten forest is a witness in the whole
  have widen : ∀ {e : Entry} {part whole : List Entry}, (∀ x ∈ part, x ∈ whole) →
      (keep e.path = true ∨ ∃ e' ∈ part, Below e e') → keep e.path = true ∨ ∃ e' ∈ whole, Below e e' :=
    fun hsub => Or.imp_right fun ⟨e', he', hb⟩ => ⟨e', hsub e' he', hb⟩
  intro names l
  induction names, l using forest_induct with
  | nil names => intro st e h; cases h
  | file names n sz cs ih =>
    intro st e
    rw [rwList_file]
    split
    · rw [Prod.map_fst, entries_file]
      intro h hd
      rcases List.mem_cons.mp h with rfl | h
      · cases hd
      · exact widen (fun _ => List.mem_cons_of_mem _) (ih _ e h hd)
    · exact ih st e
  | other names n s cs ih =>
    intro st e
    rw [rwList_other]
    split
    · rw [Prod.map_fst, entries_other]
      intro h hd
      rcases List.mem_cons.mp h with rfl | h
      · cases hd
      · exact widen (fun _ => List.mem_cons_of_mem _) (ih _ e h hd)
    · exact ih st e
  | dir names n ch cs ihc ih =>
    intro st e
    rw [rwList_dir]
    split
    · by_cases hkeep : ((rwList sel keep (names ++ [n]) ch st).1.isEmpty && !keep (names ++ [n])) = true
      · rw [if_pos hkeep]; exact ih _ e
      · rw [if_neg hkeep, Prod.map_fst, entries_dir]
        intro h hd
        rw [List.mem_cons, List.mem_append] at h
        rcases h with rfl | h | h
        · -- the directory itself: not held by `keep` means it came back non-empty
          cases hk : keep (names ++ [n]) with
          | true => exact Or.inl rfl
          | false =>
            rw [hk, Bool.not_false, Bool.and_true, List.isEmpty_iff] at hkeep
            obtain ⟨e', he'⟩ := entries_ne_nil (names ++ [n]) hkeep
            exact Or.inr ⟨e', List.mem_cons_of_mem _ (List.mem_append_left _ he'), below_of_mem rfl he'⟩
        · exact widen (fun _ hx => List.mem_cons_of_mem _ (List.mem_append_left _ hx)) (ihc st e h hd)
        · exact widen (fun _ hx => List.mem_cons_of_mem _ (List.mem_append_right _ hx)) (ih _ e h hd)
    · exact ih st e

theorem rw_node_dir_reason (sel : List Str → Bool → Bool) (keep : List Str → Bool) (names : List Str) :
    ∀ (n : Node) (st : Stats) (e : Entry),
      e ∈ entries names (rwNode sel keep names n st).1.toList → e.isDir = true →
        keep e.path = true ∨ ∃ e' ∈ entries names (rwNode sel keep names n st).1.toList, Below e e' := by
  intro n st e
  simpa only [rwList_singleton] using rw_list_dir_reason sel keep names [n] st e

end Restic.Proofs.C27
