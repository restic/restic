import Restic.Model.RestoreTree
import Restic.Proofs.C18_Ops
/-!
`ensureDir` with the component-wise check (`chainFix`): touches only locations strictly inside `dst`, creates no symlink,
keeps `dst` a real directory, and on success leaves the whole chain `dst ++ rel` as real
directories.
-/
namespace Restic.Model.RestoreTree
open Restic.Model.RestoreFS

theorem plainName_of_plain {n : Name} (h : plain n = true) : PlainName n := by
  unfold plain at h
  simp only [Bool.and_eq_true, Bool.not_eq_true', beq_eq_false_iff_ne] at h
  exact ⟨h.1.1.1, h.1.1.2, h.1.2⟩

theorem lstat_real (fs : FS) (d : Path) (name : Name) (hd : PlainPath d) (hn : PlainName name)
    (hr : RealFrom fs [] d) : lstat fs (d ++ [name]) = fs.get (d ++ [name]) := by
  rw [lstat, locate_real fs d name hd hn hr]

theorem ensureSingleDir_fst (fs : FS) (d : Path) (c : Name) (hd : PlainPath d) (hc : PlainName c)
    (hr : RealFrom fs [] d) :
    (ensureSingleDir fs (d ++ [c])).1 =
      match fs.get (d ++ [c]) with
      | none => fs.set (d ++ [c]) (.dir 0o700)
      | some e => if e.isDir then fs else (fs.erase (d ++ [c])).set (d ++ [c]) (.dir 0o700) := by
  have hloc := locate_real fs d c hd hc hr
  rw [ensureSingleDir, lstat_real fs d c hd hc hr]
  cases hg : fs.get (d ++ [c]) with
  | none =>
    simp only [Bool.not_true, Bool.false_eq_true, if_false]
    rw [mkdirAll_leaf fs d c _ hd hc hr, hg]
  | some e =>
    by_cases he : e.isDir = true
    · simp only [he, if_true, Bool.not_true, Bool.false_eq_true, if_false]
      rw [mkdirAll_leaf fs d c _ hd hc hr, hg]
    · simp only [he, Bool.false_eq_true, if_false]
      rw [remove_nondir hloc hg (Bool.eq_false_iff.mpr he)]
      simp only [Bool.not_true, Bool.false_eq_true, if_false]
      rw [mkdirAll_leaf _ d c _ hd hc (hr.of_only (only_erase _ _)), FS.get_erase, if_pos rfl]

theorem ensureSingleDir_spec (fs : FS) (d : Path) (c : Name) (hd : PlainPath d) (hc : PlainName c)
    (hr : RealFrom fs [] d) :
    Only (d ++ [c]) fs (ensureSingleDir fs (d ++ [c])).1 ∧
    NoNewSym fs (ensureSingleDir fs (d ++ [c])).1 ∧
    isDirAt (ensureSingleDir fs (d ++ [c])).1 (d ++ [c]) = true := by
  have hset : ∀ a : FS, isDirAt (a.set (d ++ [c]) (.dir 0o700)) (d ++ [c]) = true := fun a => by
    simp [isDirAt, FS.get_set, Entry.isDir]
  rw [ensureSingleDir_fst fs d c hd hc hr]
  split
  · exact ⟨only_set _ _ _, noNewSym_set _ _ _ rfl, hset _⟩
  · next e hg =>
    split
    · next he => exact ⟨.refl _ _, .refl _, by simp [isDirAt, hg, he]⟩
    · exact ⟨(only_erase _ _).trans (only_set _ _ _),
        (noNewSym_erase _ _).trans (noNewSym_set _ _ _ rfl), hset _⟩

theorem ensureSingleDir_real (fs : FS) (d : Path) (c : Name) (hd : PlainPath d) (hc : PlainName c)
    (hr : RealFrom fs [] (d ++ [c])) : (ensureSingleDir fs (d ++ [c])).1 = fs := by
  obtain ⟨m, hg⟩ := isDirAt_iff.mp hr.last
  rw [ensureSingleDir_fst fs d c hd hc hr.left, hg]
  rfl

theorem chainFrom_spec (fs : FS) (base : Path) (rest : List Name) (hp : PlainPath (base ++ rest))
    (hr : RealFrom fs [] base) :
    Frame base fs (chainFrom fs base rest).1 ∧ NoNewSym fs (chainFrom fs base rest).1 ∧
    ((chainFrom fs base rest).2 = true → RealFrom (chainFrom fs base rest).1 [] (base ++ rest)) := by
  induction rest generalizing fs base with
  | nil => exact ⟨.refl _ _, .refl _, fun _ => by simpa [chainFrom] using hr⟩
  | cons c rest ih =>
    rw [List.append_cons] at hp ⊢
    obtain ⟨ho, hn, hd⟩ := ensureSingleDir_spec fs base c hp.left.left (hp.left c (by simp)) hr
    have hf := ho.frame (inside_append base [c] (by simp))
    rw [chainFrom]
    split
    · next fs1 heq =>
      rw [heq] at ho hn hd hf
      obtain ⟨hf2, hn2, hd2⟩ := ih fs1 (base ++ [c]) hp ((hr.of_only ho).snoc hd)
      exact ⟨hf.trans (hf2.mono (List.prefix_append _ _)), hn.trans hn2, hd2⟩
    · next fs1 heq =>
      rw [heq] at hn hf
      exact ⟨hf, hn, fun h => by cases h⟩

theorem ensureDir_spec (cfg : Cfg) (hfix : cfg.chainFix = true) (hdst : PlainPath cfg.dst)
    (hne : cfg.dst ≠ []) (fs : FS) (rel : Path) (hrel : PlainPath rel)
    (hr : RealFrom fs [] cfg.dst) :
    Frame cfg.dst fs (ensureDir cfg fs rel).1 ∧ NoNewSym fs (ensureDir cfg fs rel).1 ∧
    RealFrom (ensureDir cfg fs rel).1 [] cfg.dst ∧
    ((ensureDir cfg fs rel).2 = true → RealFrom (ensureDir cfg fs rel).1 [] (cfg.dst ++ rel)) := by
  have key : Frame cfg.dst fs (ensureDir cfg fs rel).1 ∧ NoNewSym fs (ensureDir cfg fs rel).1 ∧
      ((ensureDir cfg fs rel).2 = true → RealFrom (ensureDir cfg fs rel).1 [] (cfg.dst ++ rel)) := by
    rw [ensureDir, if_pos hfix]
    -- `dst` itself is left as it is
    have hsame : (ensureSingleDir fs cfg.dst).1 = fs := by
      have hd0 := (List.dropLast_concat_getLast hne).symm
      rw [hd0] at hdst hr ⊢
      exact ensureSingleDir_real fs _ _ hdst.left (hdst _ (by simp)) hr
    split
    · next fs1 heq =>
      rw [heq] at hsame
      subst hsame
      exact chainFrom_spec _ cfg.dst rel (plainPath_append hdst hrel) hr
    · next fs1 heq =>
      rw [heq] at hsame
      subst hsame
      exact ⟨.refl _ _, .refl _, fun h => by cases h⟩
  exact ⟨key.1, key.2.1, hr.of_frame key.1, key.2.2⟩

end Restic.Model.RestoreTree
