import Restic.Model.Prune
import Restic.Proofs.Fold
/-!
For C09: what a step allowed by `Prune.step` keeps (`step_inv`, `step_sound`); `acceptFrom_prefix` takes it to every
prefix of an accepted trace.
-/
namespace Restic.Proofs.C09Exec
open Restic.Model.Repo Restic.Model.Prune

theorem packHas_iff (r : Repo) (p : ID) (b : BlobH) :
    packHas r p b = true ↔ ∃ pk ∈ r.packs, pk.1 = p ∧ ∃ e ∈ pk.2, e.blob = b := by
  simp only [packHas, List.any_eq_true, Bool.and_eq_true, decide_eq_true_eq, Prod.exists]

theorem packPresent_iff {r : Repo} {p : ID} : packPresent r p = true ↔ ∃ pk ∈ r.packs, pk.1 = p := by
  simp only [packPresent, List.any_eq_true, decide_eq_true_eq]

theorem hasWitness_iff (avoid : List ID) (r : Repo) (b : BlobH) :
    hasWitness avoid r b = true ↔
      ∃ i ∈ r.indexes, ∃ x ∈ i.2, x.1 ∉ avoid ∧ (∃ e ∈ x.2, e.blob = b) ∧ packHas r x.1 b = true := by
  simp only [hasWitness, List.contains_eq_mem, List.any_eq_true, Bool.and_eq_true, Bool.not_eq_eq_eq_not,
    Bool.not_true, decide_eq_false_iff_not, decide_eq_true_eq, and_assoc, Prod.exists]

theorem indexed_iff (r : Repo) (b : BlobH) :
    Indexed r b = true ↔ ∃ i ∈ r.indexes, ∃ x ∈ i.2, (∃ e ∈ x.2, e.blob = b) ∧ packHas r x.1 b = true := by
  simp only [Indexed, List.any_eq_true, Bool.and_eq_true, decide_eq_true_eq, Prod.exists]

theorem hasWitness_indexed {avoid : List ID} {r : Repo} {b : BlobH} (h : hasWitness avoid r b = true) :
    Indexed r b = true := by
  rw [hasWitness_iff] at h; rw [indexed_iff]
  obtain ⟨i, hi, x, hx, _, he, hp⟩ := h
  exact ⟨i, hi, x, hx, he, hp⟩

theorem hasWitness_weaken {a c : List ID} {r : Repo} {b : BlobH} (h : hasWitness (a ++ c) r b = true) :
    hasWitness a r b = true := by
  rw [hasWitness_iff] at h ⊢
  obtain ⟨i, hi, x, hx, hn, he, hp⟩ := h
  exact ⟨i, hi, x, hx, fun hm => hn (List.mem_append_left _ hm), he, hp⟩

theorem mem_rm {α : Type} (l : List (ID × α)) (id : ID) (x : ID × α) : x ∈ rm l id ↔ x ∈ l ∧ x.1 ≠ id := by
  simp [rm]

theorem hasWitness_mono {avoid : List ID} {r r' : Repo} {b : BlobH}
    (hidx : ∀ i ∈ r.indexes, ∀ x ∈ i.2, x.1 ∉ avoid → (∃ e ∈ x.2, e.blob = b) → packHas r x.1 b = true →
        ∃ i' ∈ r'.indexes, ∃ x' ∈ i'.2, x'.1 = x.1 ∧ ∃ e ∈ x'.2, e.blob = b)
    (hpk : ∀ pk ∈ r.packs, pk.1 ∉ avoid → pk ∈ r'.packs)
    (h : hasWitness avoid r b = true) : hasWitness avoid r' b = true := by
  rw [hasWitness_iff] at h ⊢
  obtain ⟨i, hi, x, hx, hn, he, hp⟩ := h
  obtain ⟨i', hi', x', hx', hxx, he'⟩ := hidx i hi x hx hn he hp
  refine ⟨i', hi', x', hx', by rw [hxx]; exact hn, he', ?_⟩
  rw [packHas_iff] at hp ⊢
  obtain ⟨pk, hpk1, hpk2, hpk3⟩ := hp
  exact ⟨pk, hpk pk hpk1 (by rw [hpk2]; exact hn), by rw [hxx]; exact hpk2, hpk3⟩

/-- Before deletions of referenced files start (`ph ≤ 1`), blobs to be repacked only need a copy outside the
    unindexed packs; all other used blobs — from phase 2 on all used blobs — have a copy outside every pack
    that is going to be deleted -/
def Inv (pl : XPlan) (used : List BlobH) (ph : Nat) (r : Repo) : Prop :=
  ∀ b ∈ used,
    (ph ≥ 2 ∨ b ∉ pl.keep → hasWitness (pl.removeFirst ++ pl.exclude) r b = true) ∧
    hasWitness pl.removeFirst r b = true

/-- `hm2`: the witness outside `removeFirst` alone need only persist before phase 2 (an index removal does not
    keep it); from phase 2 on it is the other witness, weakened. -/
theorem inv_of_mono {pl : XPlan} {used : List BlobH} {ph ph' : Nat} {r r' : Repo}
    (h : Inv pl used ph r)
    (hph : ph' ≥ 2 → ph ≥ 2 ∨ keepGuard pl r = true)
    (hm1 : ∀ b, hasWitness (pl.removeFirst ++ pl.exclude) r b = true → hasWitness (pl.removeFirst ++ pl.exclude) r' b = true)
    (hm2 : ph' ≥ 2 ∨ ∀ b, hasWitness pl.removeFirst r b = true → hasWitness pl.removeFirst r' b = true) :
    Inv pl used ph' r' := by
  intro b hb
  obtain ⟨h1, h2⟩ := h b hb
  have key : (ph' ≥ 2 ∨ b ∉ pl.keep) → hasWitness (pl.removeFirst ++ pl.exclude) r' b = true := by
    intro hc
    apply hm1
    rcases hc with hc | hc
    · rcases hph hc with h3 | h3
      · exact h1 (Or.inl h3)
      · by_cases hk : b ∈ pl.keep
        · simp only [keepGuard, List.all_eq_true] at h3
          exact h3 b hk
        · exact h1 (Or.inr hk)
    · exact h1 (Or.inr hc)
  refine ⟨key, ?_⟩
  rcases hm2 with hm2 | hm2
  · exact hasWitness_weaken (key (Or.inl hm2))
  · exact hm2 b h2

theorem hasWitness_congr {avoid : List ID} {r r' : Repo} (hi : r'.indexes = r.indexes) (hp : r'.packs = r.packs)
    (b : BlobH) : hasWitness avoid r' b = hasWitness avoid r b := by
  simp [hasWitness, packHas, hi, hp]

theorem keepGuard_congr {pl : XPlan} {r r' : Repo} (hi : r'.indexes = r.indexes) (hp : r'.packs = r.packs) :
    keepGuard pl r' = keepGuard pl r := by
  unfold keepGuard
  congr 1
  funext b
  exact hasWitness_congr hi hp b

theorem inv_congr {pl : XPlan} {used : List BlobH} {ph : Nat} {r r' : Repo}
    (hi : r'.indexes = r.indexes) (hp : r'.packs = r.packs) (h : Inv pl used ph r) : Inv pl used ph r' := by
  intro b hb
  rw [hasWitness_congr hi hp, hasWitness_congr hi hp]
  exact h b hb

theorem hasWitness_rm_pack {avoid : List ID} {r : Repo} {p : ID} (hp : p ∈ avoid) (b : BlobH)
    (h : hasWitness avoid r b = true) : hasWitness avoid { r with packs := rm r.packs p } b = true := by
  apply hasWitness_mono _ _ h
  · intro i hi x hx _ he _
    exact ⟨i, hi, x, hx, rfl, he⟩
  · intro pk hpk hn
    rw [mem_rm]
    exact ⟨hpk, fun hc => hn (hc ▸ hp)⟩

theorem ne_of_not_present {r : Repo} {p : ID} (hf : packPresent r p = false) {pk : ID × List Entry}
    (hpk : pk ∈ r.packs) : pk.1 ≠ p :=
  fun e => Bool.false_ne_true (hf ▸ packPresent_iff.mpr ⟨pk, hpk, e⟩)

theorem hasWitness_save_pack {avoid : List ID} {r : Repo} {p : ID} {es : List Entry} (hf : packPresent r p = false)
    (b : BlobH) (h : hasWitness avoid r b = true) :
    hasWitness avoid { r with packs := (p, es) :: rm r.packs p } b = true := by
  apply hasWitness_mono _ _ h
  · intro i hi x hx _ he _
    exact ⟨i, hi, x, hx, rfl, he⟩
  · intro pk hpk _
    refine List.mem_cons_of_mem _ ?_
    rw [mem_rm]
    exact ⟨hpk, ne_of_not_present hf hpk⟩

theorem hasWitness_save_index {avoid : List ID} {r : Repo} {i : ID} {f : IdxFile}
    (hf : ∀ x ∈ r.indexes, x.1 ≠ i) (b : BlobH) (h : hasWitness avoid r b = true) :
    hasWitness avoid { r with indexes := (i, f) :: rm r.indexes i } b = true := by
  apply hasWitness_mono _ _ h
  · intro j hj x hx _ he _
    refine ⟨j, List.mem_cons_of_mem _ ?_, x, hx, rfl, he⟩
    rw [mem_rm]
    exact ⟨hj, hf j hj⟩
  · intro pk hpk _; exact hpk

theorem hasWitness_rm_index {pl : XPlan} {r : Repo} {i : ID} (hg : idxRemoveOK pl r i = true) (b : BlobH)
    (h : hasWitness (pl.removeFirst ++ pl.exclude) r b = true) :
    hasWitness (pl.removeFirst ++ pl.exclude) { r with indexes := rm r.indexes i } b = true := by
  apply hasWitness_mono _ _ h
  · intro j hj x hx hn he _
    by_cases hji : j.1 = i
    · simp only [idxRemoveOK, List.all_eq_true, Bool.or_eq_true, List.any_eq_true, Bool.and_eq_true,
        decide_eq_true_eq, ne_eq, List.contains_eq_mem] at hg
      have h1 := hg j hj
      rcases h1 with h1 | h1
      · exact absurd hji (by simpa using h1)
      · have h2 := h1 x hx
        rcases h2 with h2 | h2
        · exact absurd (List.mem_append_right _ (by simpa using h2)) hn
        · obtain ⟨e, hex, heb⟩ := he
          obtain ⟨j', hj', hne, y, hy, hyx, e', he', hbb⟩ := h2 e hex
          refine ⟨j', ?_, y, hy, hyx, e', he', by rw [hbb, heb]⟩
          rw [mem_rm]; exact ⟨hj', by simpa using hne⟩
    · refine ⟨j, ?_, x, hx, rfl, he⟩
      rw [mem_rm]; exact ⟨hj, hji⟩
  · intro pk hpk _; exact hpk


theorem step_cases {pl : XPlan} {ph ph' : Nat} {r : Repo} {e : Ev} (hs : step pl ph r e = some ph') :
    (ph' = ph ∧ (apply r e).indexes = r.indexes ∧ (apply r e).packs = r.packs ∧ (apply r e).snaps = r.snaps ∧
      ((∃ t id, e = .read t id) ∨ (∃ id c, e = .save .lock id c) ∨ (∃ id, e = .remove .lock id))) ∨
    (∃ p es, e = .save .pack p (.pack es) ∧ ph' = 1 ∧ packPresent r p = false) ∨
    (∃ i f, e = .save .index i (.index f) ∧ ph' = 1 ∧ idxSaveOK pl r i f = true) ∨
    (∃ p, e = .remove .pack p ∧ noIndexNames r p = true ∧
      ((ph' = 0 ∧ p ∈ pl.removeFirst) ∨ (ph' = 3 ∧ p ∈ pl.exclude ∧ (ph ≥ 2 ∨ keepGuard pl r = true)))) ∨
    (∃ i, e = .remove .index i ∧ ph' = 2 ∧ idxRemoveOK pl r i = true ∧ (ph = 2 ∨ keepGuard pl r = true)) := by
  cases e with
  | read t id => exact Or.inl ⟨(Option.some.inj hs).symm, rfl, rfl, rfl, .inl ⟨t, id, rfl⟩⟩
  | save t id c =>
    cases t with
    | pack =>
      cases c with
      | pack es =>
        obtain ⟨hc, hs⟩ := Option.ite_none_right_eq_some.mp hs
        exact Or.inr (Or.inl ⟨id, es, rfl, (Option.some.inj hs).symm, by simpa using hc.2.1⟩)
      | _ => cases hs
    | index =>
      cases c with
      | index f =>
        obtain ⟨hc, hs⟩ := Option.ite_none_right_eq_some.mp hs
        exact Or.inr (Or.inr (Or.inl ⟨id, f, rfl, (Option.some.inj hs).symm, hc.2⟩))
      | _ => cases hs
    | lock =>
      have : step pl ph r (.save .lock id c) = some ph := by cases c <;> rfl
      refine Or.inl ⟨Option.some.inj (hs.symm.trans this), ?_, ?_, ?_, .inr (.inl ⟨id, c, rfl⟩)⟩ <;> cases c <;> rfl
    | snapshot => cases c <;> cases hs
    | key => cases c <;> cases hs
    | config => cases c <;> cases hs
  | remove t id =>
    cases t with
    | pack =>
      simp only [step] at hs
      by_cases hc : ph = 0 ∧ pl.removeFirst.contains id = true ∧ noIndexNames r id = true
      · rw [if_pos hc] at hs
        exact Or.inr (Or.inr (Or.inr (Or.inl ⟨id, rfl, hc.2.2, Or.inl ⟨(Option.some.inj hs).symm, by simpa using hc.2.1⟩⟩)))
      · rw [if_neg hc] at hs
        obtain ⟨hc, hs⟩ := Option.ite_none_right_eq_some.mp hs
        exact Or.inr (Or.inr (Or.inr (Or.inl ⟨id, rfl, hc.2.1,
          Or.inr ⟨(Option.some.inj hs).symm, by simpa using hc.1, hc.2.2⟩⟩)))
    | index =>
      obtain ⟨hc, hs⟩ := Option.ite_none_right_eq_some.mp hs
      exact Or.inr (Or.inr (Or.inr (Or.inr ⟨id, rfl, (Option.some.inj hs).symm, hc.2.1, hc.2.2⟩)))
    | lock => exact Or.inl ⟨(Option.some.inj hs).symm, rfl, rfl, rfl, .inr (.inr ⟨id, rfl⟩)⟩
    | snapshot => cases hs
    | key => cases hs
    | config => cases hs

theorem step_snaps {pl : XPlan} {ph ph' : Nat} {r : Repo} {e : Ev} (hs : step pl ph r e = some ph') :
    (apply r e).snaps = r.snaps := by
  rcases step_cases hs with ⟨-, -, -, h, -⟩ | ⟨_, _, rfl, -⟩ | ⟨_, _, rfl, -⟩ | ⟨_, rfl, -⟩ | ⟨_, rfl, -⟩
  · exact h
  all_goals rfl

theorem step_inv {pl : XPlan} {used : List BlobH} {ph ph' : Nat} {r : Repo} {e : Ev}
    (h : Inv pl used ph r) (hs : step pl ph r e = some ph') : Inv pl used ph' (apply r e) := by
  rcases step_cases hs with ⟨rfl, hi, hp, -⟩ | ⟨p, es, rfl, rfl, hf⟩ | ⟨i, f, rfl, rfl, hok⟩ |
    ⟨p, rfl, -, ⟨rfl, hm⟩ | ⟨rfl, hm, hg⟩⟩ | ⟨i, rfl, rfl, hok, hg⟩
  · exact inv_congr hi hp h
  · exact inv_of_mono h (hph := fun h2 => absurd h2 (by omega))
      (hm1 := hasWitness_save_pack hf) (hm2 := Or.inr (hasWitness_save_pack hf))
  · have hf : ∀ x ∈ r.indexes, x.1 ≠ i := by
      simp only [idxSaveOK, Bool.and_eq_true, List.all_eq_true, decide_eq_true_eq] at hok
      exact hok.1
    exact inv_of_mono h (hph := fun h2 => absurd h2 (by omega))
      (hm1 := hasWitness_save_index hf) (hm2 := Or.inr (hasWitness_save_index hf))
  · exact inv_of_mono h (hph := fun h2 => absurd h2 (by omega))
      (hm1 := hasWitness_rm_pack (List.mem_append_left _ hm))
      (hm2 := Or.inr (hasWitness_rm_pack hm))
  · exact inv_of_mono h (hph := fun _ => hg)
      (hm1 := hasWitness_rm_pack (List.mem_append_right _ hm)) (hm2 := Or.inl (by omega))
  · exact inv_of_mono h (hph := fun _ => hg.imp (fun h => by omega) id)
      (hm1 := hasWitness_rm_index hok) (hm2 := Or.inl (by omega))

theorem idxSound_iff (r : Repo) :
    IdxSound r = true ↔ ∀ i ∈ r.indexes, ∀ x ∈ i.2, ∃ pk ∈ r.packs, pk.1 = x.1 ∧ ∀ e ∈ x.2, e ∈ pk.2 := by
  simp only [IdxSound, List.contains_eq_mem, List.all_eq_true, List.any_eq_true, Bool.and_eq_true,
    decide_eq_true_eq, Prod.exists, Prod.forall]

theorem idxSound_mono {r r' : Repo} (h : IdxSound r = true)
    (hidx : ∀ i ∈ r'.indexes, i ∈ r.indexes ∨ ∀ x ∈ i.2, ∃ pk ∈ r'.packs, pk.1 = x.1 ∧ ∀ e ∈ x.2, e ∈ pk.2)
    (hpk : ∀ pk ∈ r.packs, (∃ i ∈ r.indexes, ∃ x ∈ i.2, x.1 = pk.1) → pk ∈ r'.packs) : IdxSound r' = true := by
  rw [idxSound_iff] at h ⊢
  intro i hi x hx
  rcases hidx i hi with h1 | h1
  · obtain ⟨pk, hpk1, hpk2, hpk3⟩ := h i h1 x hx
    exact ⟨pk, hpk pk hpk1 ⟨i, h1, x, hx, hpk2.symm⟩, hpk2, hpk3⟩
  · exact h1 x hx

theorem noIndexNames_iff (r : Repo) (p : ID) : noIndexNames r p = true ↔ ∀ i ∈ r.indexes, ∀ x ∈ i.2, x.1 ≠ p := by
  simp only [noIndexNames, ne_eq, decide_not, List.all_eq_true, Bool.not_eq_eq_eq_not, Bool.not_true,
    decide_eq_false_iff_not, Prod.forall]

theorem step_sound {pl : XPlan} {ph ph' : Nat} {r : Repo} {e : Ev}
    (h : IdxSound r = true) (hs : step pl ph r e = some ph') : IdxSound (apply r e) = true := by
  rcases step_cases hs with ⟨-, hi, hp, -⟩ | ⟨p, es, rfl, -, hf⟩ | ⟨i, f, rfl, -, hok⟩ | ⟨p, rfl, hn, -⟩ | ⟨i, rfl, -⟩
  · unfold IdxSound at h ⊢; rw [hi, hp]; exact h
  · refine idxSound_mono (r' := apply r (.save .pack p (.pack es))) h (fun i hi => Or.inl hi) fun pk hpk _ => ?_
    exact List.mem_cons_of_mem _ ((mem_rm _ _ _).mpr ⟨hpk, ne_of_not_present hf hpk⟩)
  · simp only [idxSaveOK, Bool.and_eq_true, List.all_eq_true, decide_eq_true_eq, List.any_eq_true,
      List.contains_eq_mem] at hok
    refine idxSound_mono (r' := apply r (.save .index i (.index f))) h (fun j hj => ?_) (fun pk hpk _ => hpk)
    rcases List.mem_cons.mp hj with rfl | h1
    · exact Or.inr fun x hx => (hok.2 x hx).2
    · exact Or.inl ((mem_rm _ _ _).mp h1).1
  · rw [noIndexNames_iff] at hn
    refine idxSound_mono (r' := apply r (.remove .pack p)) h (fun i hi => Or.inl hi) ?_
    rintro pk hpk ⟨i, hi, x, hx, hxp⟩
    exact (mem_rm _ _ _).mpr ⟨hpk, fun hc => hn i hi x hx (hxp.trans hc)⟩
  · exact idxSound_mono (r' := apply r (.remove .index i)) h (fun j hj => Or.inl ((mem_rm _ _ _).mp hj).1)
      (fun pk hpk _ => hpk)

theorem acceptFrom_guarded (pl : XPlan) :
    Restic.Proofs.Trace.Guarded (σ := Nat × Repo) (fun s e => ((step pl s.1 s.2 e).getD s.1, apply s.2 e))
      (fun s e => (step pl s.1 s.2 e).isSome) (fun s tr => acceptFrom pl s.1 s.2 tr) where
  nil := fun _ => rfl
  cons := fun s e tr => by
    show acceptFrom pl s.1 s.2 (e :: tr) = _
    rw [acceptFrom]
    cases step pl s.1 s.2 e <;> rfl

theorem acceptFrom_prefix {pl : XPlan} {P : Nat → Repo → Prop}
    (hstep : ∀ {ph ph' r e}, P ph r → step pl ph r e = some ph' → P ph' (apply r e))
    (tr : List Ev) (ph : Nat) (r : Repo) (h : P ph r) (ha : acceptFrom pl ph r tr = true) (k : Nat) :
    ∃ ph', P ph' (applyAll r (tr.take k)) := by
  have hG := acceptFrom_guarded pl
  have hP := hG.inv (I := fun s => P s.1 s.2) (s := (ph, r)) (fun s e hI hg => by
    obtain ⟨ph', hs⟩ := Option.isSome_iff_exists.mp hg
    exact hs ▸ hstep hI hs) h (hG.take ha k)
  rw [← List.foldl_hom Prod.snd (g₂ := apply) (H := fun _ _ => rfl)] at hP
  exact ⟨_, hP⟩

end Restic.Proofs.C09Exec
