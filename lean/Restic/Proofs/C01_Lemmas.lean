import Restic.Model.Backup
namespace Restic.Proofs.C01
open Restic.Model.Backup

def Collision {ID : Type} (hash : Bytes → ID) : Prop := ∃ a b : Bytes, a ≠ b ∧ hash a = hash b

theorem withOffsets_length (off : Nat) (blobs : List Bytes) : (withOffsets off blobs).length = blobs.length := by
  induction blobs generalizing off with
  | nil => rfl
  | cons b bs ih => simp [withOffsets, ih]

/-! ### lists of pairs in which the first entry for a key wins

The blob store (`Store.get`, `Store.put`) and the hard-link index (`idxValue`, `hardlinkStep`) are
both searched from the front and only ever extended, at the end, by a key that is not there yet. -/

def lookup {κ ν : Type} [DecidableEq κ] (l : List (κ × ν)) (k : κ) : Option ν := (l.find? (·.1 = k)).map (·.2)

def addNew {κ ν : Type} [DecidableEq κ] (l : List (κ × ν)) (k : κ) (v : ν) : List (κ × ν) :=
  if (l.find? (·.1 = k)).isSome then l else l ++ [(k, v)]

theorem lookup_addNew {κ ν : Type} [DecidableEq κ] (l : List (κ × ν)) (k k' : κ) (v : ν) :
    lookup (addNew l k v) k' = (lookup l k').or (if k = k' then some v else none) := by
  unfold addNew lookup
  by_cases hp : (l.find? (·.1 = k)).isSome
  · rw [if_pos hp]
    by_cases hk : k = k'
    · subst hk; exact (Option.or_of_isSome (by rw [Option.isSome_map]; exact hp)).symm
    · rw [if_neg hk, Option.or_none]
  · rw [if_neg hp, List.find?_append, Option.map_or, List.find?_singleton]
    by_cases hk : k = k'
    · rw [if_pos hk, if_pos (decide_eq_true hk)]; rfl
    · rw [if_neg hk, if_neg (by rw [decide_eq_true_eq]; exact hk)]; rfl

theorem lookup_foldl_addNew {α κ ν : Type} [DecidableEq κ] (g : α → Prop) [DecidablePred g] (k : α → κ) (v : α → ν)
    (xs : List α) (l : List (κ × ν)) (key : κ) :
    lookup (xs.foldl (fun l x => if g x then addNew l (k x) (v x) else l) l) key =
      (lookup l key).or ((xs.find? fun x => g x ∧ k x = key).map v) := by
  induction xs generalizing l with
  | nil => exact Option.or_none.symm
  | cons x xs ih =>
    rw [List.foldl_cons, ih, List.find?_cons]
    by_cases hg : g x
    · rw [if_pos hg, lookup_addNew, Option.or_assoc]
      by_cases hk : k x = key
      · rw [if_pos hk, decide_eq_true (And.intro hg hk)]; rfl
      · rw [if_neg hk, decide_eq_false (fun h => hk h.2)]; rfl
    · rw [if_neg hg, decide_eq_false (fun h => hg h.1)]

theorem get_eq_lookup {ID : Type} [DecidableEq ID] (s : Store ID) (id : ID) : s.get id = lookup s id := rfl

theorem idxValue_eq_lookup (idx : List ((Nat × Nat) × Path)) (key : Nat × Nat) : idxValue idx key = lookup idx key := rfl

theorem put_eq_addNew {ID : Type} [DecidableEq ID] (hash : Bytes → ID) (s : Store ID) (b : Bytes) :
    Store.put hash s b = addNew s (hash b) b := by
  unfold Store.put Store.get addNew; rw [Option.isSome_map]

theorem hardlinkStep_eq_addNew {ID : Type} (idx : List ((Nat × Nat) × Path)) (n : Node ID) :
    hardlinkStep idx n = if n.kind = .file ∧ n.links > 1 then addNew idx (n.inode, n.deviceID) n.path else idx := rfl

theorem get_foldl_put {ID : Type} [DecidableEq ID] (hash : Bytes → ID) (cs : List Bytes) (s : Store ID) (id : ID) :
    (cs.foldl (Store.put hash) s).get id = (s.get id).or (cs.find? (hash · = id)) := by
  -- the store takes every chunk: the guard of `lookup_foldl_addNew` is `True`
  have hput : Store.put hash = fun l x => if True then addNew l (hash x) x else l :=
    funext fun s => funext fun b => (put_eq_addNew hash s b).trans (if_pos trivial).symm
  rw [hput, get_eq_lookup, lookup_foldl_addNew (fun _ => True) hash (fun b => b) cs s id]
  simp only [true_and, Option.map_id']
  rfl

theorem saved_chunk_loads {ID : Type} [DecidableEq ID] (hash : Bytes → ID) (cs : List Bytes) (c : Bytes) (hc : c ∈ cs) :
    (cs.foldl (Store.put hash) []).get (hash c) = some c ∨ Collision hash := by
  rw [get_foldl_put]
  cases hf : cs.find? (hash · = hash c) with
  | none => exact absurd (decide_eq_true rfl) (List.find?_eq_none.mp hf c hc)
  | some x =>
    by_cases hxc : x = c
    · exact .inl (congrArg some hxc)
    · have hx := List.find?_some (p := fun x => decide (hash x = hash c)) hf
      exact .inr ⟨x, c, hxc, of_decide_eq_true hx⟩

theorem loadAll_saved {ID : Type} [DecidableEq ID] (hash : Bytes → ID) (s : Store ID) (chunks : List Bytes)
    (h : ∀ c ∈ chunks, s.get (hash c) = some c) : loadAll s (chunks.map hash) = some chunks := by
  induction chunks with
  | nil => rfl
  | cons c cs ih =>
    simp only [List.map_cons, loadAll]
    rw [h c (by simp), ih (fun d hd => h d (by simp [hd]))]

def chunksOf (split : Bytes → List Bytes) (it : Item) : List Bytes :=
  if it.kind = .file then split it.content else []

def toNode {ID : Type} (hash : Bytes → ID) (split : Bytes → List Bytes) (it : Item) : Node ID :=
  if it.kind = .file then
    { path := it.path, kind := .file, md := it.md, content := (split it.content).map hash,
      size := it.content.length, target := [], device := 0, deviceID := it.dev, inode := it.ino, links := it.nlink }
  else
    { path := it.path, kind := it.kind, md := it.md, content := [], size := 0,
      target := if it.kind = .symlink then it.target else [],
      device := if it.kind = .dev ∨ it.kind = .chardev then it.rdev else 0,
      deviceID := it.dev, inode := it.ino,
      links := if it.kind = .dir ∨ it.kind = .fifo then 0 else it.nlink }

theorem toNode_path {ID : Type} (hash : Bytes → ID) (split : Bytes → List Bytes) (it : Item) :
    (toNode hash split it).path = it.path := by
  unfold toNode
  split <;> rfl

theorem backupItem_eq {ID : Type} [DecidableEq ID] (hash : Bytes → ID) (split : Bytes → List Bytes) (s : Store ID) (it : Item) :
    backupItem hash split s it =
      ((chunksOf split it).foldl (Store.put hash) s, if it.kind = .socket then none else some (toNode hash split it)) := by
  unfold backupItem chunksOf toNode
  cases hk : it.kind <;> simp

theorem backup_fold {ID : Type} [DecidableEq ID] (hash : Bytes → ID) (split : Bytes → List Bytes) (t : List Item)
    (s0 : Store ID) (ns0 : List (Node ID)) :
    t.foldl (backupStep hash split) (s0, ns0)
      = ((t.flatMap (chunksOf split)).foldl (Store.put hash) s0,
         ns0 ++ (t.filter (·.kind != .socket)).map (toNode hash split)) := by
  induction t generalizing s0 ns0 with
  | nil => simp
  | cons it rest ih =>
    simp only [List.foldl_cons, List.flatMap_cons, List.foldl_append, backupStep]
    rw [backupItem_eq]
    by_cases hk : it.kind = .socket
    · simp only [hk, if_true]
      rw [ih]
      simp [hk]
    · simp only [hk, if_false]
      rw [ih]
      simp [hk]

theorem backup_eq {ID : Type} [DecidableEq ID] (hash : Bytes → ID) (split : Bytes → List Bytes) (t : List Item) :
    backup hash split t =
      ((t.flatMap (chunksOf split)).foldl (Store.put hash) [],
       (t.filter (·.kind != .socket)).map (toNode hash split)) := by
  unfold backup
  rw [backup_fold]
  simp

def isLinked {ID : Type} (key : Nat × Nat) (n : Node ID) : Bool :=
  n.kind = .file && decide (n.links > 1) && decide ((n.inode, n.deviceID) = key)

theorem hardlinkIndex_eq {ID : Type} (nodes : List (Node ID)) (key : Nat × Nat) :
    idxValue (hardlinkIndex nodes) key = (nodes.find? (isLinked key)).map (·.path) := by
  rw [idxValue_eq_lookup, hardlinkIndex, show @hardlinkStep ID = _ from funext fun idx => funext (hardlinkStep_eq_addNew idx),
    lookup_foldl_addNew]
  simp only [Bool.decide_and]
  rfl

theorem mapM'_map_map {α β γ : Type} (f : β → Option γ) (h : α → β) (g : α → γ) (l : List α)
    (hh : ∀ a ∈ l, f (h a) = some (g a)) : mapM' f (l.map h) = some (l.map g) := by
  induction l with
  | nil => rfl
  | cons a as ih =>
    simp only [mapM', List.map_cons]
    rw [hh a (by simp), ih (fun b hb => hh b (by simp [hb]))]

theorem mapM'_map {α β : Type} (f : α → Option β) (g : α → β) (l : List α) (h : ∀ a ∈ l, f a = some (g a)) :
    mapM' f l = some (l.map g) := by
  simpa using mapM'_map_map f id g l h

end Restic.Proofs.C01
