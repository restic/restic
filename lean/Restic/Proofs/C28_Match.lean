import Restic.Model.Filter
/-!
# C28 helper lemmas: what `match` computes

Every loop of `match` is a search: it answers a question (does the window fit here, is there a
fitting offset, a fitting number of `*` parts) or stops with the error of the glob oracle.
`Decides P Bad r` says this of a result `r`; `panic` and `fuel` are not among the results it
allows, so a loop that `Decides` something keeps all its indices and slice bounds in range.
-/
namespace Restic.Proofs.C28
open Restic.Model.Filter

/-- the result `r` answers the question `P`, or is the glob error, which needs `Bad` -/
inductive Decides (P Bad : Prop) : Res Bool → Prop
  | yes : P → Decides P Bad (.ok true)
  | no : ¬ P → Decides P Bad (.ok false)
  | bad : Bad → Decides P Bad (.err .badPattern)

namespace Decides
variable {P P' Bad Bad' : Prop} {r : Res Bool}

theorem imp (hP : P ↔ P') (hB : Bad → Bad') (h : Decides P Bad r) : Decides P' Bad' r := by
  cases h with
  | yes h => exact .yes (hP.mp h)
  | no h => exact .no fun h' => h (hP.mpr h')
  | bad h => exact .bad (hB h)

theorem total (h : Decides P Bad r) : r ≠ .panic ∧ r ≠ .fuel := by
  cases h <;> exact ⟨nofun, nofun⟩

theorem ok_iff {b : Bool} (h : Decides P Bad (.ok b)) : b = true ↔ P := by
  cases h with
  | yes h => exact iff_of_true rfl h
  | no h => exact iff_of_false nofun h

theorem err {e : Err} (h : Decides P Bad (.err e)) : e = .badPattern ∧ Bad := by
  cases h with
  | bad h => exact ⟨rfl, h⟩

theorem eq_ok (hB : ¬ Bad) {b : Bool} (hb : b = true ↔ P) (h : Decides P Bad r) : r = .ok b := by
  cases h with
  | yes h => rw [hb.mpr h]
  | no h => rw [Bool.eq_false_iff.mpr fun h' => h (hb.mp h')]
  | bad h => exact absurd h hB

end Decides

def PartOK (glob : Glob) (p : Part) (c : Str) : Prop := partMatch glob p c = some true

/-- the parts `qs` accept the components of `strs` at positions `off, off+1, …` -/
def WindowAt (glob : Glob) (qs : List Part) (strs : List Str) (off : Nat) : Prop :=
  off + qs.length ≤ strs.length ∧
  ∀ i p c, qs[i]? = some p → strs[off + i]? = some c → PartOK glob p c

/-- documented meaning of a pattern without recursive wildcard -/
def MatchFlatSpec (glob : Glob) (qs : List Part) (strs : List Str) : Prop :=
  match qs with
  | [] => strs = []
  | q0 :: _ => ∃ off, WindowAt glob qs strs off ∧
      (q0.pat = slash → off = 0) ∧ (q0.pat ≠ slash → strs.head? = some slash → 1 ≤ off)

/-- some comparison a run may perform makes the glob oracle fail -/
def BadOn (glob : Glob) (parts : List Part) (strs : List Str) : Prop :=
  ∃ p, (p ∈ parts ∨ p = starPart) ∧ ∃ c ∈ strs, partMatch glob p c = none

theorem WindowAt.len_le {glob : Glob} {qs : List Part} {strs : List Str} {off : Nat}
    (h : WindowAt glob qs strs off) : off + qs.length ≤ strs.length := h.1

theorem WindowAt.mono {glob : Glob} {qs qs' : List Part} {strs strs' : List Str} {off : Nat}
    (h : WindowAt glob qs strs off) (hq : qs' <+: qs) (hlen : off + qs'.length ≤ strs'.length)
    (hs : ∀ i, i < off + qs'.length → strs'[i]? = strs[i]?) : WindowAt glob qs' strs' off := by
  obtain ⟨t, rfl⟩ := hq
  refine ⟨hlen, fun i p c hp hc => ?_⟩
  have hi := (List.getElem?_eq_some_iff.mp hp).1
  rw [hs _ (Nat.add_lt_add_left hi off)] at hc
  exact h.2 i p c (by rw [List.getElem?_append_left hi]; exact hp) hc

theorem windowLoop_outcome (glob : Glob) (parts : List Part) (strs : List Str) (off : Nat)
    (hb : off + parts.length ≤ strs.length) (n : Nat) (hn : n ≤ parts.length) :
    Decides (∀ i p c, i < n → parts[i]? = some p → strs[off + i]? = some c → PartOK glob p c)
      (BadOn glob parts strs) (windowLoop glob parts strs off n) := by
  induction n with
  | zero => exact .yes fun i _ _ hi => absurd hi (Nat.not_lt_zero i)
  | succ n ih =>
    have hsi : off + n < strs.length := Nat.lt_of_lt_of_le (Nat.add_lt_add_left hn off) hb
    have hp := List.getElem?_eq_getElem hn
    have hs := List.getElem?_eq_getElem hsi
    rw [windowLoop, hp, hs]
    dsimp only
    cases hm : partMatch glob parts[n] strs[off + n] with
    | none => exact .bad ⟨_, .inl (List.getElem_mem hn), _, List.getElem_mem hsi, hm⟩
    | some b =>
      cases b with
      | false =>
        refine .no fun h => ?_
        have := h n _ _ (Nat.lt_succ_self n) hp hs
        rw [PartOK, hm] at this
        cases this
      | true =>
        refine (ih (Nat.le_of_lt hn)).imp ⟨fun h i p c hi hpp hcc => ?_,
          fun h i p c hi => h i p c (Nat.lt_succ_of_lt hi)⟩ id
        rcases Nat.lt_succ_iff_lt_or_eq.mp hi with hi | rfl
        · exact h i p c hi hpp hcc
        · rw [hp] at hpp; rw [hs] at hcc
          cases hpp; cases hcc
          exact hm

theorem windowLoop_full (glob : Glob) (parts : List Part) (strs : List Str) (off : Nat)
    (hb : off + parts.length ≤ strs.length) :
    Decides (WindowAt glob parts strs off) (BadOn glob parts strs)
      (windowLoop glob parts strs off parts.length) :=
  (windowLoop_outcome glob parts strs off hb _ (Nat.le_refl _)).imp
    ⟨fun h => ⟨hb, fun i p c hp => h i p c (List.getElem?_eq_some_iff.mp hp).1 hp⟩,
      fun h i p c _ => h.2 i p c⟩ id

theorem offsetLoop_outcome (glob : Glob) (parts : List Part) (strs : List Str) (minOff n : Nat)
    (hn : n + parts.length ≤ strs.length + 1) :
    Decides (∃ off, minOff ≤ off ∧ off < n ∧ WindowAt glob parts strs off) (BadOn glob parts strs)
      (offsetLoop glob parts strs minOff n) := by
  induction n with
  | zero => exact .no fun ⟨_, _, h, _⟩ => Nat.not_lt_zero _ h
  | succ n ih =>
    rw [Nat.succ_add] at hn
    rw [offsetLoop]
    by_cases hlt : n < minOff
    · rw [if_pos hlt]
      exact .no fun ⟨off, h1, h2, _⟩ => Nat.not_le_of_lt hlt (Nat.le_trans h1 (Nat.le_of_lt_succ h2))
    · rw [if_neg hlt]
      have hw := windowLoop_full glob parts strs n (Nat.le_of_succ_le_succ hn)
      generalize windowLoop glob parts strs n parts.length = r at hw
      cases hw with
      | yes h => exact .yes ⟨n, Nat.le_of_not_lt hlt, Nat.lt_succ_self n, h⟩
      | bad h => exact .bad h
      | no h =>
        refine (ih (Nat.le_of_succ_le hn)).imp
          ⟨fun ⟨off, h1, h2, h3⟩ => ⟨off, h1, Nat.lt_succ_of_lt h2, h3⟩,
            fun ⟨off, h1, h2, h3⟩ => ⟨off, h1, ?_, h3⟩⟩ id
        exact Nat.lt_of_le_of_ne (Nat.le_of_lt_succ h2) fun e => h (e ▸ h3)

theorem matchFlat_outcome (glob : Glob) (parts : List Part) (strs : List Str) :
    Decides (MatchFlatSpec glob parts strs) (BadOn glob parts strs) (matchFlat glob parts strs) := by
  unfold matchFlat
  cases parts with
  | nil =>
    cases strs with
    | nil => exact .yes rfl
    | cons s ss => exact .no nofun
  | cons p0 pt =>
    have hne : (p0 :: pt).length ≠ 0 := Nat.succ_ne_zero _
    rw [if_neg fun h => hne h.1, if_neg hne]
    by_cases hle : (p0 :: pt).length ≤ strs.length
    · simp only [if_pos hle, List.getElem?_cons_zero]
      have hmax : strs.length - (p0 :: pt).length + 1 + (p0 :: pt).length ≤ strs.length + 1 := by
        rw [Nat.add_right_comm, Nat.sub_add_cancel hle]; exact Nat.le_refl _
      -- in each case the offsets the loop tries are those the meaning of the pattern allows
      by_cases habs : p0.pat = slash
      · rw [if_pos habs]
        have h1 : 1 + (p0 :: pt).length ≤ strs.length + 1 := Nat.add_comm _ 1 ▸ Nat.succ_le_succ hle
        refine (offsetLoop_outcome glob _ strs 0 1 h1).imp ⟨?_, ?_⟩ id
        · rintro ⟨off, _, h, hw⟩
          exact ⟨off, hw, fun _ => Nat.lt_one_iff.mp h, fun h' => absurd habs h'⟩
        · rintro ⟨off, hw, h, _⟩
          exact ⟨off, Nat.zero_le _, h habs ▸ Nat.zero_lt_one, hw⟩
      · rw [if_neg habs]
        cases strs with
        | nil => exact absurd hle (Nat.not_succ_le_zero _)
        | cons s0 st =>
          simp only [List.getElem?_cons_zero]
          by_cases hroot : s0 = slash
          · rw [if_pos hroot]
            refine (offsetLoop_outcome glob _ _ 1 _ hmax).imp ⟨?_, ?_⟩ id
            · rintro ⟨off, h, _, hw⟩
              exact ⟨off, hw, fun h' => absurd h' habs, fun _ _ => h⟩
            · rintro ⟨off, hw, _, h⟩
              exact ⟨off, h habs (congrArg some hroot), by have := hw.1; omega, hw⟩
          · rw [if_neg hroot]
            refine (offsetLoop_outcome glob _ _ 0 _ hmax).imp ⟨?_, ?_⟩ id
            · rintro ⟨off, _, _, hw⟩
              exact ⟨off, hw, fun h' => absurd h' habs, fun _ h' => absurd (Option.some.inj h') hroot⟩
            · rintro ⟨off, hw, _, _⟩
              exact ⟨off, Nat.zero_le _, by have := hw.1; omega, hw⟩
    · rw [if_neg hle]
      exact .no fun ⟨off, hw, _⟩ => hle (Nat.le_trans (Nat.le_add_left _ off) hw.1)

/-- `qs` arises from `ps` by replacing every recursive wildcard by `k ≥ 0` parts `*` -/
inductive Expand : List Part → List Part → Prop
  | nil : Expand [] []
  | keep {p : Part} {ps qs : List Part} : p.pat ≠ [] → Expand ps qs → Expand (p :: ps) (p :: qs)
  | dw {p : Part} {ps qs : List Part} (k : Nat) : p.pat = [] → Expand ps qs →
      Expand (p :: ps) (List.replicate k starPart ++ qs)

/-- documented meaning of a pattern: some expansion of the recursive wildcards fits a window -/
def MatchSpec (glob : Glob) (ps : List Part) (strs : List Str) : Prop :=
  ∃ qs, Expand ps qs ∧ MatchFlatSpec glob qs strs

def NoDW (ps : List Part) : Prop := ∀ p ∈ ps, p.pat ≠ []

theorem NoDW.append {a b : List Part} (ha : NoDW a) (hb : NoDW b) : NoDW (a ++ b) := by
  intro p hp
  rcases List.mem_append.mp hp with h | h
  · exact ha p h
  · exact hb p h

theorem noDW_replicate_star (k : Nat) : NoDW (List.replicate k starPart) :=
  fun _ hp => (List.mem_replicate.mp hp).2 ▸ nofun

theorem noDW_take {ps : List Part} (h : NoDW ps) (l : Nat) : NoDW (ps.take l) :=
  fun p hp => h p (List.mem_of_mem_take hp)

theorem expand_noDW_append {pre : List Part} (h : NoDW pre) {rest qs : List Part} :
    Expand (pre ++ rest) qs ↔ ∃ qs', qs = pre ++ qs' ∧ Expand rest qs' := by
  induction pre generalizing qs with
  | nil => simp
  | cons p pre ih =>
    have hp : p.pat ≠ [] := h p List.mem_cons_self
    have hpre : NoDW pre := fun q hq => h q (List.mem_cons_of_mem p hq)
    constructor
    · intro he
      cases he with
      | keep _ he' =>
        obtain ⟨qs', rfl, h2⟩ := (ih hpre).mp he'
        exact ⟨qs', rfl, h2⟩
      | dw k hk _ => exact absurd hk hp
    · rintro ⟨qs', rfl, h2⟩
      exact Expand.keep hp ((ih hpre).mpr ⟨qs', rfl, h2⟩)

theorem expand_noDW {ps qs : List Part} (h : NoDW ps) : Expand ps qs ↔ qs = ps := by
  have := expand_noDW_append h (rest := []) (qs := qs)
  rw [List.append_nil] at this
  rw [this]
  constructor
  · rintro ⟨qs', rfl, h2⟩
    cases h2
    exact List.append_nil ps
  · rintro rfl
    exact ⟨[], (List.append_nil _).symm, Expand.nil⟩

theorem matchSpec_noDW {glob : Glob} {ps : List Part} (h : NoDW ps) (strs : List Str) :
    MatchSpec glob ps strs ↔ MatchFlatSpec glob ps strs := by
  simp only [MatchSpec, expand_noDW h, exists_eq_left]

theorem matchSpec_first_dw {glob : Glob} {pre tail : List Part} {d : Part} (hpre : NoDW pre)
    (hd : d.pat = []) (strs : List Str) :
    MatchSpec glob (pre ++ d :: tail) strs ↔
      ∃ i, MatchSpec glob (pre ++ (List.replicate i starPart ++ tail)) strs := by
  simp only [MatchSpec, expand_noDW_append hpre, expand_noDW_append (noDW_replicate_star _)]
  constructor
  · rintro ⟨qs, ⟨qs', h1, h2⟩, hm⟩
    cases h2 with
    | keep hk _ => exact absurd hd hk
    | dw k _ he => exact ⟨k, qs, ⟨_, h1, _, rfl, he⟩, hm⟩
  · rintro ⟨i, qs, ⟨qs', h1, qs'', rfl, h4⟩, hm⟩
    exact ⟨qs, ⟨_, h1, Expand.dw i hd h4⟩, hm⟩

/-! ### counting parts: `required` bounds the expansion loop, `countDW` the recursion -/

theorem required_append (a b : List Part) : required (a ++ b) = required a + required b := by
  simp [required, List.filter_append]

theorem required_noDW {ps : List Part} (h : NoDW ps) : required ps = ps.length := by
  rw [required, List.filter_eq_self.mpr fun p hp => decide_eq_true (h p hp)]

theorem required_replicate_star (k : Nat) : required (List.replicate k starPart) = k := by
  rw [required_noDW (noDW_replicate_star k), List.length_replicate]

theorem required_cons_dw {d : Part} (hd : d.pat = []) (tail : List Part) :
    required (d :: tail) = required tail := by
  rw [required, List.filter_cons_of_neg (by simpa using hd)]; rfl

theorem countDW_append (a b : List Part) : countDW (a ++ b) = countDW a + countDW b := by
  simp [countDW, List.filter_append]

theorem countDW_noDW {ps : List Part} (h : NoDW ps) : countDW ps = 0 := by
  rw [countDW, List.filter_eq_nil_iff.mpr fun p hp => by simpa using h p hp]; rfl

theorem countDW_cons_dw {d : Part} (hd : d.pat = []) (tail : List Part) :
    countDW (d :: tail) = countDW tail + 1 := by
  rw [countDW, List.filter_cons_of_pos (by simpa using hd)]; rfl

theorem required_le_of_expand {ps qs : List Part} (h : Expand ps qs) : required ps ≤ qs.length := by
  induction h with
  | nil => exact Nat.le_refl 0
  | keep hp _ ih =>
    rw [required, List.filter_cons_of_pos (by exact decide_eq_true hp)]
    exact Nat.succ_le_succ ih
  | dw k hp _ ih =>
    rw [required_cons_dw hp, List.length_append]
    exact Nat.le_trans ih (Nat.le_add_left _ _)

theorem matchFlatSpec_len {glob : Glob} {qs : List Part} {strs : List Str}
    (h : MatchFlatSpec glob qs strs) : qs.length ≤ strs.length := by
  cases qs with
  | nil => exact Nat.zero_le _
  | cons q0 qt =>
    obtain ⟨off, hw, _⟩ := h
    exact Nat.le_trans (Nat.le_add_left _ off) hw.1

theorem matchSpec_required {glob : Glob} {ps : List Part} {strs : List Str}
    (h : MatchSpec glob ps strs) : required ps ≤ strs.length := by
  obtain ⟨qs, he, hm⟩ := h
  exact Nat.le_trans (required_le_of_expand he) (matchFlatSpec_len hm)

theorem hasDW_none {ps : List Part} (h : hasDW ps = none) : NoDW ps := by
  induction ps with
  | nil => nofun
  | cons p ps ih =>
    rw [hasDW] at h
    by_cases hp : p.pat = []
    · rw [if_pos hp] at h; cases h
    · rw [if_neg hp, Option.map_eq_none_iff] at h
      intro q hq
      rcases List.mem_cons.mp hq with rfl | h1
      · exact hp
      · exact ih h q h1

theorem hasDW_some {ps : List Part} {pos : Nat} (h : hasDW ps = some pos) :
    ∃ pre d tail, ps = pre ++ d :: tail ∧ pre.length = pos ∧ NoDW pre ∧ d.pat = [] := by
  induction ps generalizing pos with
  | nil => cases h
  | cons p ps ih =>
    rw [hasDW] at h
    by_cases hp : p.pat = []
    · rw [if_pos hp] at h
      cases h
      exact ⟨[], p, ps, rfl, rfl, nofun, hp⟩
    · rw [if_neg hp, Option.map_eq_some_iff] at h
      obtain ⟨pos', h1, rfl⟩ := h
      obtain ⟨pre, d, tail, rfl, rfl, e3, e4⟩ := ih h1
      refine ⟨p :: pre, d, tail, rfl, rfl, fun q hq => ?_, e4⟩
      rcases List.mem_cons.mp hq with rfl | h3
      · exact hp
      · exact e3 q h3

/-- a search without buffer: try `f i`, `f (i+1)`, … (`r` iterations) -/
def cleanLoop (f : Nat → Res Bool) : Nat → Nat → Res Bool
  | 0, _ => .ok false
  | r + 1, i =>
    match f i with
    | .ok true => .ok true
    | .ok false => cleanLoop f r (i + 1)
    | e => e

theorem cleanLoop_outcome {f : Nat → Res Bool} {P : Nat → Prop} {Bad : Prop}
    (hf : ∀ j, Decides (P j) Bad (f j)) (r i : Nat) :
    Decides (∃ j, i ≤ j ∧ j < i + r ∧ P j) Bad (cleanLoop f r i) := by
  induction r generalizing i with
  | zero => exact .no fun ⟨j, h1, h2, _⟩ => Nat.not_lt_of_le h1 h2
  | succ r ih =>
    rw [cleanLoop]
    have h := hf i
    generalize f i = x at h
    cases h with
    | yes h => exact .yes ⟨i, Nat.le_refl i, Nat.lt_add_of_pos_right (Nat.succ_pos r), h⟩
    | bad h => exact .bad h
    | no h =>
      rw [← Nat.succ_add_eq_add_succ]
      refine (ih (i + 1)).imp
        ⟨fun ⟨j, h1, h2, h3⟩ => ⟨j, Nat.le_of_succ_le h1, h2, h3⟩,
          fun ⟨j, h1, h2, h3⟩ => ⟨j, ?_, h2, h3⟩⟩ id
      exact Nat.lt_of_le_of_ne h1 fun e => h (e ▸ h3)

theorem overwriteAt_length {α} (buf : List α) (k : Nat) (tail : List α) (h : k + tail.length ≤ buf.length) :
    (overwriteAt buf k tail).length = buf.length := by
  rw [overwriteAt, List.length_append, List.length_append, List.length_take_of_le (by omega),
    List.length_drop]
  omega

theorem overwriteAt_take {α} (buf : List α) (k : Nat) (tail : List α) (h : k ≤ buf.length) :
    (overwriteAt buf k tail).take k = buf.take k := by
  rw [overwriteAt, List.append_assoc, List.take_left' (List.length_take_of_le h)]

/-- While iterations are left (`r ≠ 0`) the buffer has the length `n` it was made with, the loop
    variable stays within it, and at the head of iteration `i` the first `pos + (i-1)` cells hold
    the static prefix followed by `i-1` stars (the cell `pos+i-1` is written in this iteration).
    So the pattern handed to the recursive call is the prefix, `i` stars and the tail. -/
theorem expandLoop_eq_clean (rec : List Part → Res Bool) (pre tail : List Part) (n r i : Nat)
    (buf : List Part)
    (h : r ≠ 0 → buf.length = n ∧ pre.length + i + r ≤ n + 1 ∧
      buf.take (pre.length + (i - 1)) = pre ++ List.replicate (i - 1) starPart) :
    expandLoop rec tail pre.length r i buf =
      cleanLoop (fun j => rec (pre ++ (List.replicate j starPart ++ tail))) r i := by
  induction r generalizing i buf with
  | zero => rfl
  | succ r ih =>
    obtain ⟨hlen, hbound, hinv⟩ := h (Nat.succ_ne_zero r)
    have hb : pre.length + i ≤ n ∧ pre.length + (i + 1) + r ≤ n + 1 := by omega
    rw [expandLoop, cleanLoop, if_pos (hlen ▸ hb.1)]
    -- the buffer after the conditional write
    obtain ⟨buf1, hk1, hk2, hk3⟩ : ∃ buf1,
        (if i > 0 then setAt buf (pre.length + i - 1) starPart else some buf) = some buf1 ∧
        buf1.length = n ∧ buf1.take (pre.length + i) = pre ++ List.replicate i starPart := by
      cases i with
      | zero => exact ⟨buf, rfl, hlen, hinv⟩
      | succ j =>
        have hlt : pre.length + j < buf.length := hlen ▸ hb.1
        rw [Nat.add_sub_cancel] at hinv
        refine ⟨buf.set (pre.length + j) starPart, ?_, by rw [List.length_set]; exact hlen, ?_⟩
        · rw [if_pos (Nat.succ_pos j)]
          exact if_pos hlt
        · rw [← Nat.add_assoc, List.take_succ_eq_append_getElem (by rw [List.length_set]; exact hlt),
            List.take_set_of_le (Nat.le_refl _), List.getElem_set_self, hinv, List.replicate_succ',
            List.append_assoc]
    rw [hk1]
    dsimp only
    rw [hk3, List.append_assoc]
    cases rec (pre ++ (List.replicate i starPart ++ tail)) with
    | ok b =>
      cases b with
      | true => rfl
      | false =>
        refine ih (i + 1) _ fun _ => ?_
        rw [Nat.add_sub_cancel]
        by_cases hfit : pre.length + i + tail.length ≤ buf1.length
        · rw [if_pos hfit, overwriteAt_length _ _ _ hfit, overwriteAt_take _ _ _ (hk2 ▸ hb.1)]
          exact ⟨hk2, hb.2, hk3⟩
        · rw [if_neg hfit]
          exact ⟨hk2, hb.2, hk3⟩
    | _ => rfl

theorem sliceTo_append_length {α} (a b : List α) : sliceTo (a ++ b) a.length = some a := by
  rw [sliceTo, if_pos (by simp), List.take_left]

theorem sliceFrom_append_cons {α} (a : List α) (d : α) (b : List α) :
    sliceFrom (a ++ d :: b) (a.length + 1) = some b := by
  rw [sliceFrom, if_pos (by simp), List.append_cons, List.drop_left' (by simp)]

theorem copyInto_replicate (n : Nat) (pre : List Part) (h : pre.length ≤ n) :
    copyInto (List.replicate n zeroPart) pre = pre ++ List.replicate (n - pre.length) zeroPart := by
  rw [copyInto, List.length_replicate, List.take_of_length_le h, Nat.min_eq_right h, List.drop_replicate]

theorem badOn_expand {glob : Glob} {pre tail : List Part} {strs : List Str} (d : Part) (j : Nat) :
    BadOn glob (pre ++ (List.replicate j starPart ++ tail)) strs → BadOn glob (pre ++ d :: tail) strs := by
  rintro ⟨p, hp, hc⟩
  refine ⟨p, ?_, hc⟩
  simp only [List.mem_append, List.mem_replicate, List.mem_cons] at hp ⊢
  rcases hp with (h | ⟨_, h⟩ | h) | h
  · exact .inl (.inl h)
  · exact .inr h
  · exact .inl (.inr (.inr h))
  · exact .inr h

theorem matchFuel_outcome (glob : Glob) (strs : List Str) (fuel : Nat) (parts : List Part)
    (hfuel : countDW parts < fuel) :
    Decides (MatchSpec glob parts strs) (BadOn glob parts strs)
      (matchFuel itersFixed glob fuel parts strs) := by
  induction fuel generalizing parts with
  | zero => exact absurd hfuel (Nat.not_lt_zero _)
  | succ fuel ih =>
    rw [matchFuel]
    cases hdw : hasDW parts with
    | none => exact (matchFlat_outcome glob parts strs).imp (matchSpec_noDW (hasDW_none hdw) strs).symm id
    | some pos =>
      obtain ⟨pre, d, tail, rfl, rfl, hpre, hd⟩ := hasDW_some hdw
      have hreq : required (pre ++ d :: tail) = pre.length + required tail := by
        rw [required_append, required_cons_dw hd, required_noDW hpre]
      rw [countDW_append, countDW_noDW hpre, countDW_cons_dw hd, Nat.zero_add] at hfuel
      simp only [sliceTo_append_length, sliceFrom_append_cons]
      rw [expandLoop_eq_clean _ pre tail strs.length]
      · -- some number of stars below the loop bound fits iff any number does
        refine (cleanLoop_outcome (fun j => (ih _ ?_).imp Iff.rfl (badOn_expand d j)) _ 0).imp ?_ id
        · rw [countDW_append, countDW_append, countDW_noDW hpre, countDW_noDW (noDW_replicate_star j),
            Nat.zero_add, Nat.zero_add]
          exact Nat.lt_of_succ_lt_succ hfuel
        · rw [matchSpec_first_dw hpre hd]
          refine ⟨fun ⟨j, _, _, h⟩ => ⟨j, h⟩, fun ⟨j, h⟩ => ⟨j, Nat.zero_le j, ?_, h⟩⟩
          have := matchSpec_required h
          rw [required_append, required_append, required_replicate_star, required_noDW hpre] at this
          rw [itersFixed, hreq]
          omega
      · -- the hypothesis of `expandLoop_eq_clean` at the start: `pre` copied into the fresh buffer, no star yet
        intro hit
        rw [itersFixed, hreq] at hit ⊢
        have hle : pre.length ≤ strs.length :=
          Nat.le_trans (Nat.le_add_right _ _) (Nat.le_of_lt_succ (Nat.lt_of_sub_ne_zero hit))
        rw [copyInto_replicate _ _ hle]
        exact ⟨by rw [List.length_append, List.length_replicate, Nat.add_sub_of_le hle], by omega,
          (List.take_left' rfl).trans (List.append_nil pre).symm⟩

theorem matchGo_outcome (glob : Glob) (parts : List Part) (strs : List Str) :
    Decides (MatchSpec glob parts strs) (BadOn glob parts strs) (matchGo glob parts strs) :=
  matchFuel_outcome glob strs _ parts (Nat.lt_succ_self _)

end Restic.Proofs.C28
