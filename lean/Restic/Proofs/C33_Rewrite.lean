import Restic.Model.RepairIndex
import Restic.Proofs.Fold
namespace Restic.Proofs.C33
open Restic.Model.RepairIndex

theorem mem_flat {c : IdxContent} {p : ID} {e : Entry} :
    (p, e) ∈ flat c ↔ ∃ es, (p, es) ∈ c ∧ e ∈ es := by
  unfold flat
  simp only [List.mem_flatMap, List.mem_map, Prod.mk.injEq, Prod.exists]
  constructor
  · rintro ⟨q, es, h1, e', h2, rfl, rfl⟩; exact ⟨es, h1, h2⟩
  · rintro ⟨es, h1, h2⟩; exact ⟨p, es, h1, e, h2, rfl, rfl⟩

theorem mem_flatAll {cs : List IdxContent} {x : ID × Entry} :
    x ∈ flatAll cs ↔ ∃ c ∈ cs, x ∈ flat c := by
  unfold flatAll; simp [List.mem_flatMap]

theorem mem_insertOff {e x : Entry} {l : List Entry} : x ∈ insertOff e l ↔ x = e ∨ x ∈ l := by
  induction l with
  | nil => simp [insertOff]
  | cons y ys ih =>
    unfold insertOff
    split
    · simp
    · simp only [List.mem_cons, ih]
      exact or_left_comm

@[simp] theorem mem_sortOff {x : Entry} {l : List Entry} : x ∈ sortOff l ↔ x ∈ l := by
  induction l with
  | nil => simp [sortOff]
  | cons y ys ih =>
    have : sortOff (y :: ys) = insertOff y (sortOff ys) := rfl
    rw [this, mem_insertOff, ih]; simp

theorem flat_append (a b : IdxContent) : flat (a ++ b) = flat a ++ flat b := by
  unfold flat; simp

theorem flatAll_append (a b : List IdxContent) : flatAll (a ++ b) = flatAll a ++ flatAll b := by
  unfold flatAll; simp

theorem mem_group {c : IdxContent} {p : ID} {e : Entry} :
    e ∈ sortOff ((c.filter (fun pe => pe.1 == p)).flatMap (·.2)) ↔ (p, e) ∈ flat c := by
  simp only [mem_sortOff, List.mem_flatMap, List.mem_filter, beq_iff_eq, mem_flat]
  constructor
  · rintro ⟨⟨q, es⟩, ⟨h, rfl⟩, he⟩; exact ⟨es, h, he⟩
  · rintro ⟨es, h, he⟩; exact ⟨(p, es), ⟨h, rfl⟩, he⟩

theorem mem_flat_groupsOf {c : IdxContent} {ex : List ID} {p : ID} {e : Entry} :
    (p, e) ∈ flat (groupsOf c ex) ↔ p ∉ ex ∧ (p, e) ∈ flat c := by
  rw [mem_flat]
  simp only [groupsOf, List.mem_filter, List.mem_map, List.mem_eraseDups,
    Bool.not_eq_true', List.contains_eq_mem, decide_eq_false_iff_not, List.isEmpty_eq_false_iff]
  constructor
  · rintro ⟨_, ⟨⟨q, ⟨_, hex⟩, h⟩, _⟩, he⟩
    cases h; exact ⟨hex, mem_group.mp he⟩
  · rintro ⟨hex, h⟩
    obtain ⟨es, hes, _⟩ := mem_flat.mp h
    have he := mem_group.mpr h
    exact ⟨_, ⟨⟨p, ⟨⟨(p, es), hes, rfl⟩, hex⟩, rfl⟩, List.ne_nil_of_mem he⟩, he⟩

/-- what the index files describe after (part of) a rewrite -/
def out (st : RwState) : List (ID × Entry) :=
  flatAll (st.kept.filterMap (·.content)) ++ flat st.newIndex

theorem mem_loadedEntries {idxs : List IdxFile} {x : ID × Entry} :
    x ∈ loadedEntries idxs ↔ ∃ f ∈ idxs, ∃ c, f.content = some c ∧ x ∈ flat c := by
  unfold loadedEntries
  simp only [mem_flatAll, List.mem_filterMap]
  constructor
  · rintro ⟨c, ⟨f, hf, hc⟩, hx⟩; exact ⟨f, hf, c, hc, hx⟩
  · rintro ⟨f, hf, c, hc, hx⟩; exact ⟨c, ⟨f, hf, hc⟩, hx⟩

/-- the loop invariant of `Rewrite`, for the files `done` processed so far -/
structure Inv (ex : List ID) (extra : List ID) (done : List IdxFile) (st : RwState) : Prop where
  /-- lets `complete` survive `storeGroups`: a group it skips as seen is already in `out` -/
  seen_in : ∀ g ∈ st.seen, ∀ e ∈ g.2, (g.1, e) ∈ out st
  /-- with `complete`: `out` is the loadable content of `done` without the excluded packs -/
  sound : ∀ x ∈ out st, x.1 ∉ ex ∧ ∃ f ∈ done, ∃ c, f.content = some c ∧ x ∈ flat c
  complete : ∀ f ∈ done, ∀ c, f.content = some c → ∀ x ∈ flat c, x.1 ∉ ex → x ∈ out st
  /-- with `f ∉ done`: the file being processed is not yet in `kept`, which `obsolete_eq` needs -/
  kept_sub : ∀ f ∈ st.kept, f ∈ done
  /-- an unloadable file is neither kept (`kept_some`) nor removed -/
  obsolete_eq : ∀ i, i ∈ st.obsolete ↔ i ∈ extra ∨ ∃ f ∈ done, f.content.isSome ∧ f ∉ st.kept ∧ f.id = i
  kept_some : ∀ f ∈ st.kept, f.content.isSome

theorem storeGroups_cons (st : RwState) (g : ID × List Entry) (gs : IdxContent) :
    storeGroups st (g :: gs) = storeGroups (if st.seen.contains g then st
      else { st with seen := st.seen ++ [g], newIndex := st.newIndex ++ [g] }) gs := rfl

theorem storeGroups_eq (gs : IdxContent) : ∀ st : RwState, ∃ new,
    storeGroups st gs = { st with seen := st.seen ++ new, newIndex := st.newIndex ++ new } ∧
    ∀ g, g ∈ new ↔ g ∈ gs ∧ g ∉ st.seen := by
  induction gs with
  | nil => exact fun st => ⟨[], by simp [storeGroups], by simp⟩
  | cons g gs ih =>
    intro st
    rw [storeGroups_cons]
    by_cases hs : g ∈ st.seen
    · obtain ⟨new, h1, h2⟩ := ih st
      rw [if_pos (List.contains_iff_mem.mpr hs)]
      refine ⟨new, h1, fun g' => ?_⟩
      rw [h2, List.mem_cons]
      exact ⟨fun ⟨a, b⟩ => ⟨Or.inr a, b⟩, fun ⟨a, b⟩ => ⟨a.resolve_left fun e => b (e ▸ hs), b⟩⟩
    · obtain ⟨new, h1, h2⟩ := ih { st with seen := st.seen ++ [g], newIndex := st.newIndex ++ [g] }
      rw [if_neg (mt List.contains_iff_mem.mp hs)]
      refine ⟨g :: new, by simpa using h1, fun g' => ?_⟩
      simp only [List.mem_cons, h2, List.mem_append, not_or]
      by_cases e : g' = g
      · subst e; simp [hs]
      · simp [e]

/-- one `rewriteTask` from `st` to `st'`; above each part, the fields of `Inv` it is for -/
structure OneStep (ex : List ID) (st st' : RwState) (f : IdxFile) : Prop where
  /-- `sound`, `complete`, `seen_in` -/
  out : ∀ x, x ∈ out st' ↔ x ∈ out st ∨ x.1 ∉ ex ∧ ∃ c, f.content = some c ∧ x ∈ flat c
  /-- `seen_in` -/
  seen : ∀ g ∈ st'.seen, g ∈ st.seen ∨ ∃ c, f.content = some c ∧ g ∈ groupsOf c ex
  /-- `kept_sub`, `obsolete_eq`, `kept_some`: `f` is kept as it is, or is obsolete if loadable -/
  kept : f.content.isSome ∧ st'.kept = st.kept ++ [f] ∧ st'.obsolete = st.obsolete ∨
    st'.kept = st.kept ∧ ∀ i, i ∈ st'.obsolete ↔ i ∈ st.obsolete ∨ f.content.isSome ∧ f.id = i

/-- `hseen` is needed because a group seen before is not stored again. -/
theorem rewriteOne_spec {ex : List ID} {st : RwState} {f : IdxFile}
    (hseen : ∀ g ∈ st.seen, ∀ e ∈ g.2, (g.1, e) ∈ out st) : OneStep ex st (rewriteOne ex st f) f := by
  generalize hst' : rewriteOne ex st f = st'
  suffices h : _ ∧ _ ∧ _ from ⟨h.1, h.2.1, h.2.2⟩
  unfold rewriteOne at hst'
  cases hc : f.content with
  | none =>
    simp only [hc] at hst'; subst hst'
    exact ⟨fun x => ⟨Or.inl, fun h => h.elim id fun h => nomatch h.2⟩, fun g hg => Or.inl hg,
      Or.inr ⟨rfl, fun i => (or_iff_left fun h => nomatch h.1).symm⟩⟩
  | some c =>
    simp only [hc] at hst'
    simp only [Option.some.injEq, exists_eq_left', Option.isSome_some, true_and]
    split at hst'
    · -- kept as it is: no pack of `c` is excluded
      rename_i hcond
      rw [Bool.and_eq_true, Bool.and_eq_true, List.all_eq_true] at hcond
      subst hst'
      refine ⟨fun x => ?_, fun g hg => ?_, Or.inl ⟨rfl, rfl⟩⟩
      · have hex : x ∈ flat c → x.1 ∉ ex := fun hx =>
          have ⟨es, hes, _⟩ := mem_flat.mp hx
          by simpa using hcond.1.1 x.1 (List.mem_map.mpr ⟨_, hes, rfl⟩)
        have hf : flatAll ([f].filterMap (·.content)) = flat c := by simp [hc, flatAll]
        refine Iff.trans (b := x ∈ out st ∨ x ∈ flat c) ?_ (or_congr_right ⟨fun h => ⟨hex h, h⟩, And.right⟩)
        simp only [out, List.filterMap_append, flatAll_append, hf, List.mem_append]
        exact or_right_comm
      · exact (List.mem_append.mp hg).imp_right List.mem_eraseDups.mp
    · -- rewritten: its groups not seen before go to the new index
      obtain ⟨new, hst, hnew⟩ := storeGroups_eq (groupsOf c ex) { st with obsolete := st.obsolete ++ [f.id] }
      rw [hst] at hst'; subst hst'
      refine ⟨fun x => ?_, fun g hg => ?_, Or.inr ⟨rfl, fun i => by simp [eq_comm]⟩⟩
      · refine Iff.trans (b := x ∈ out st ∨ x ∈ flat new)
          (by simp only [out, flat_append, List.mem_append, or_assoc]) ⟨?_, ?_⟩
        · refine Or.imp_right fun hx => ?_
          obtain ⟨es, hes, he⟩ := mem_flat.mp hx
          exact mem_flat_groupsOf.mp (mem_flat.mpr ⟨es, ((hnew _).mp hes).1, he⟩)
        · rintro (h | h)
          · exact Or.inl h
          · obtain ⟨es, hes, he⟩ := mem_flat.mp (mem_flat_groupsOf.mpr h)
            by_cases hs : (x.1, es) ∈ st.seen
            · exact Or.inl (hseen _ hs _ he)
            · exact Or.inr (mem_flat.mpr ⟨es, (hnew _).mpr ⟨hes, hs⟩, he⟩)
      · exact (List.mem_append.mp hg).imp_right fun h => ((hnew g).mp h).1

theorem exists_mem_append_singleton {α} {l : List α} {a : α} {P : α → Prop} :
    (∃ x ∈ l ++ [a], P x) ↔ (∃ x ∈ l, P x) ∨ P a := by
  simp only [List.mem_append, List.mem_singleton, or_and_right, exists_or, exists_eq_left]

theorem inv_init (ex extra : List ID) :
    Inv ex extra [] { seen := [], newIndex := [], obsolete := extra, kept := [] } :=
  ⟨fun _ h => (nomatch h), fun _ h => (nomatch h), fun _ h => (nomatch h), fun _ h => (nomatch h),
    fun i => by simp, fun _ h => (nomatch h)⟩

theorem rewriteOne_inv {ex extra : List ID} {done : List IdxFile} {st : RwState} (f : IdxFile)
    (hnd : f ∉ done) (h : Inv ex extra done st) : Inv ex extra (done ++ [f]) (rewriteOne ex st f) := by
  have s := rewriteOne_spec (ex := ex) (f := f) h.seen_in
  have hsub : ∀ f' ∈ st.kept, f' ∈ done ++ [f] := fun f' hf' => List.mem_append_left _ (h.kept_sub f' hf')
  refine ⟨fun g hg e he => (s.out _).mpr ?_, fun x hx => ?_, fun f' hf' c hc x hx hex => (s.out x).mpr ?_, ?_, ?_, ?_⟩
  · exact (s.seen g hg).imp (h.seen_in g · e he) fun ⟨c, hc, hg⟩ =>
      have := mem_flat_groupsOf.mp (mem_flat.mpr ⟨g.2, hg, he⟩)
      ⟨this.1, c, hc, this.2⟩
  · rcases (s.out x).mp hx with hx | ⟨hex, c, hc, hx⟩
    · obtain ⟨hex, f', hf', r⟩ := h.sound x hx
      exact ⟨hex, f', List.mem_append_left _ hf', r⟩
    · exact ⟨hex, f, by simp, c, hc, hx⟩
  · rcases List.mem_append.mp hf' with hf' | hf'
    · exact Or.inl (h.complete f' hf' c hc x hx hex)
    · cases List.mem_singleton.mp hf'
      exact Or.inr ⟨hex, c, hc, hx⟩
  · rcases s.kept with ⟨_, hk, _⟩ | ⟨hk, _⟩ <;> rw [hk]
    · exact fun f' hf' => (List.mem_append.mp hf').elim (hsub f') (List.mem_append_right _)
    · exact hsub
  · intro i
    rcases s.kept with ⟨hs, hk, ho⟩ | ⟨hk, ho⟩
    · -- kept: `f` is the one new file in `kept`, and no file of `done`
      rw [ho, h.obsolete_eq i, exists_mem_append_singleton, hk]
      refine or_congr_right (.trans (exists_congr fun f' => and_congr_right fun hf' => ?_)
        (or_iff_left fun hf => hf.2.1 (by simp)).symm)
      rw [List.mem_append, List.mem_singleton, or_iff_left fun e : f' = f => hnd (e ▸ hf')]
    · -- obsolete: `f` is the one new file of `done` not in `kept`, if it is loadable
      have hfk : f ∉ st.kept := fun hk => hnd (h.kept_sub f hk)
      rw [ho, h.obsolete_eq i, exists_mem_append_singleton, hk, or_assoc]
      exact or_congr_right (or_congr_right (and_congr_right fun _ => (and_iff_right hfk).symm))
  · rcases s.kept with ⟨hs, hk, _⟩ | ⟨hk, _⟩ <;> rw [hk]
    · exact fun f' hf' => (List.mem_append.mp hf').elim (h.kept_some f') fun hf' => List.mem_singleton.mp hf' ▸ hs
    · exact h.kept_some

theorem rewrite_inv (ex : List ID) (old : List IdxFile) (extra : List ID) (hnd : old.Nodup) :
    Inv ex extra old (rewrite ex old extra) :=
  foldl_seen (P := fun done st => done.Nodup → Inv ex extra done st)
    (fun _ _ f h hnd =>
      have hnd := List.nodup_append.mp hnd
      rewriteOne_inv f (fun hf => hnd.2.2 f hf f List.mem_cons_self rfl) (h hnd.1))
    old (fun _ => inv_init ex extra) hnd

end Restic.Proofs.C33
