import Restic.Proofs.C06_Bytes
/-!
C06 helper lemmas: `parseHeaderEntry` / `parseLoop` are total (no slice out of range, fuel suffices),
produce only well-formed entries with cumulative offsets, and invert `encEntry`.
-/
namespace Restic.Proofs.C06
open Restic.Model.Pack Restic.Gen

/-- the `switch` of `parseHeaderEntry` on the type byte -/
def blobTypeOf (tpe : UInt8) : Option Nat :=
  if tpe = 0 ∨ tpe = 2 then some restic_DataBlob
  else if tpe = 1 ∨ tpe = 3 then some restic_TreeBlob
  else none

theorem blobTypeOf_some {tpe : UInt8} {ty : Nat} (h : blobTypeOf tpe = some ty) :
    ty = restic_DataBlob ∨ ty = restic_TreeBlob := by
  unfold blobTypeOf at h
  by_cases c0 : tpe = 0 ∨ tpe = 2
  · rw [if_pos c0] at h; exact .inl (Option.some.inj h).symm
  · by_cases c1 : tpe = 1 ∨ tpe = 3
    · rw [if_neg c0, if_pos c1] at h; exact .inr (Option.some.inj h).symm
    · rw [if_neg c0, if_neg c1] at h; cases h

theorem parseHeaderEntry_cons (tpe : UInt8) (p : Bytes) (h : pack_plainEntrySize ≤ p.length + 1) :
    parseHeaderEntry (tpe :: p) =
      match blobTypeOf tpe with
      | none => .err .invalidType
      | some ty =>
        if tpe = 2 ∨ tpe = 3 then
          if p.length + 1 < pack_entrySize then .err .entryShort
          else .ok ({ type := ty, id := copyID ((p.drop 4).drop 4), length := unle32 (p.take 4), offset := 0,
                      ulen := unle32 ((p.drop 4).take 4) }, pack_entrySize)
        else .ok ({ type := ty, id := copyID (p.drop 4), length := unle32 (p.take 4), offset := 0,
                    ulen := 0 }, pack_plainEntrySize) := by
  have h4 := facts_layout.hls_eq; have hplain := facts_layout.plain_eq; have hentry := facts_layout.entry_eq
  unfold parseHeaderEntry blobTypeOf
  simp only [List.length_cons, if_neg (Nat.not_lt.2 h)]
  generalize (if tpe = 0 ∨ tpe = 2 then some restic_DataBlob
    else if tpe = 1 ∨ tpe = 3 then some restic_TreeBlob else none) = oty
  cases oty with
  | none => rfl
  | some ty =>
    have hlen : 5 ≤ (tpe :: p).length := by rw [List.length_cons]; omega
    simp only [slice?_ok _ 1 5 (by omega) hlen, from?_ok _ 5 hlen, List.take_succ_cons,
      List.drop_succ_cons, List.drop_zero]
    by_cases hext : tpe = 2 ∨ tpe = 3
    · simp only [if_pos hext]
      by_cases hl : p.length + 1 < pack_entrySize
      · simp only [if_pos hl]
      · have hlen2 : 4 ≤ (p.drop 4).length := by rw [List.length_drop]; omega
        simp only [if_neg hl, slice?_ok _ 0 4 (by omega) hlen2, from?_ok _ 4 hlen2, List.drop_zero]
    · simp only [if_neg hext]

/-- `pos` and `le` are what makes the fuel of `parseLoop` suffice -/
structure EntryOK (p : Bytes) (e : Blob) (sz : Nat) : Prop where
  pos : 0 < sz
  le : sz ≤ p.length
  type : e.type = restic_DataBlob ∨ e.type = restic_TreeBlob
  id : e.id.length = restic_idSize
  length : e.length < 4294967296
  ulen : e.ulen < 4294967296
  offset : e.offset = 0
  size : sz = pack_plainEntrySize ∨ sz = pack_entrySize

theorem parseHeaderEntry_cases (p : Bytes) :
    (parseHeaderEntry p = .err .entryShort ∨ parseHeaderEntry p = .err .invalidType) ∨
    (∃ e sz, parseHeaderEntry p = .ok (e, sz) ∧ EntryOK p e sz) := by
  have h4 := facts_layout.hls_eq; have hplain := facts_layout.plain_eq; have hentry := facts_layout.entry_eq
  by_cases h : p.length < pack_plainEntrySize
  · left; left; unfold parseHeaderEntry; simp only [if_pos h]
  · match p with
    | [] => rw [List.length_nil] at h; omega
    | tpe :: p =>
      rw [List.length_cons] at h
      rw [parseHeaderEntry_cons tpe p (by omega)]
      cases hty : blobTypeOf tpe with
      | none => exact .inl (.inr rfl)
      | some ty =>
        have hT := blobTypeOf_some hty
        by_cases hext : tpe = 2 ∨ tpe = 3
        · simp only [if_pos hext]
          by_cases hl : p.length + 1 < pack_entrySize
          · left; left; simp only [if_pos hl]
          · simp only [if_neg hl]
            exact .inr ⟨_, _, rfl, {
              pos := by omega
              le := by rw [List.length_cons]; omega
              type := hT, id := copyID_length _, length := unle32_lt _, ulen := unle32_lt _
              offset := rfl, size := .inr rfl }⟩
        · simp only [if_neg hext]
          exact .inr ⟨_, _, rfl, {
            pos := by omega
            le := by rw [List.length_cons]; omega
            type := hT, id := copyID_length _, length := unle32_lt _, ulen := Nat.zero_lt_succ _
            offset := rfl, size := .inl rfl }⟩

theorem parseHeaderEntry_no_panic (p : Bytes) : parseHeaderEntry p ≠ .panic := by
  rcases parseHeaderEntry_cases p with (h | h) | ⟨e, sz, h, _⟩ <;> simp [h]

theorem typeByte_spec {b : Blob} (ht : b.type = restic_DataBlob ∨ b.type = restic_TreeBlob) :
    ∃ tb, typeByte b = some tb ∧ blobTypeOf tb = some b.type ∧ ((tb = 2 ∨ tb = 3) ↔ b.ulen ≠ 0) := by
  have hdt := facts_layout.types_ne.symm
  by_cases hz : b.ulen = 0 <;> rcases ht with ht | ht <;> simp [typeByte, ht, hz, hdt, blobTypeOf]

theorem encEntry_spec (b : Blob) (hwf : WF b) :
    ∃ e, encEntry b = some e ∧ e.length = entrySizeOf b ∧
      ∀ rest, parseHeaderEntry (e ++ rest) = .ok ({ b with offset := 0 }, entrySizeOf b) := by
  have h4 := facts_layout.hls_eq; have hplain := facts_layout.plain_eq; have hentry := facts_layout.entry_eq
  obtain ⟨tb, htb, hty, hext⟩ := typeByte_spec hwf.type
  have hid := hwf.id
  refine ⟨_, by rw [encEntry, htb], ?length, fun rest => ?parse⟩ <;> unfold entrySizeOf
  case length =>
    by_cases hz : b.ulen ≠ 0
    · simp only [if_pos hz, List.length_cons, List.length_append, le32_length, hid]; omega
    · simp only [if_neg hz, List.length_cons, List.length_append, le32_length, hid, List.length_nil]; omega
  case parse =>
    by_cases hz : b.ulen ≠ 0
    · simp only [if_pos hz, List.cons_append, List.append_assoc]
      rw [parseHeaderEntry_cons _ _ (by simp only [List.length_append, le32_length]; omega), hty]
      simp only [if_pos (hext.2 hz), List.length_append, le32_length]
      rw [if_neg (by omega)]
      simp only [List.take_left' (le32_length _), List.drop_left' (le32_length _),
        unle32_le32_of_lt _ hwf.length, unle32_le32_of_lt _ hwf.ulen, copyID_append _ _ hwf.id]
    · simp only [if_neg hz, List.cons_append, List.append_assoc, List.nil_append]
      rw [parseHeaderEntry_cons _ _ (by simp only [List.length_append, le32_length]; omega), hty]
      simp only [if_neg (mt hext.1 hz), List.take_left' (le32_length _),
        List.drop_left' (le32_length _), unle32_le32_of_lt _ hwf.length, copyID_append _ _ hwf.id,
        Decidable.not_not.1 hz]

theorem parse_encEntry (b : Blob) (e rest : Bytes) (hwf : WF b) (h : encEntry b = some e) :
    parseHeaderEntry (e ++ rest) = .ok ({ b with offset := 0 }, entrySizeOf b) := by
  obtain ⟨_, he, -, hp⟩ := encEntry_spec b hwf
  exact Option.some.inj (h.symm.trans he) ▸ hp rest

/-- offsets as assigned by the loop of `List`: running sum of the stored lengths -/
def withOffsets : Nat → List Blob → List Blob
  | _, [] => []
  | pos, b :: bs => { b with offset := pos } :: withOffsets (pos + b.length) bs

def AllWF (bs : List Blob) : Prop := ∀ b ∈ bs, WF b

theorem parseLoop_nil (fuel pos : Nat) : parseLoop fuel [] pos = .ok [] := by
  cases fuel <;> rfl

theorem parseLoop_step (fuel : Nat) (buf : Bytes) (pos : Nat) (e : Blob) (sz : Nat)
    (h : parseHeaderEntry buf = .ok (e, sz)) (hpos : 0 < sz) (hle : sz ≤ buf.length) :
    parseLoop (fuel + 1) buf pos =
      match parseLoop fuel (buf.drop sz) (pos + e.length) with
      | .err e => .err e
      | .panic => .panic
      | .ok es => .ok ({ e with offset := pos } :: es) := by
  match buf with
  | [] => exact absurd hle (Nat.not_le.2 hpos)
  | x :: xs => rw [parseLoop, h]; simp only [from?_ok _ sz hle]; rfl

theorem parseLoop_cases (fuel : Nat) (p : Bytes) (pos : Nat) (hf : p.length ≤ fuel) :
    (parseLoop fuel p pos = .err .entryShort ∨ parseLoop fuel p pos = .err .invalidType) ∨
    (∃ es, parseLoop fuel p pos = .ok es ∧ AllWF es ∧ withOffsets pos es = es) := by
  induction fuel generalizing p pos with
  | zero =>
    rw [List.eq_nil_of_length_eq_zero (Nat.le_zero.1 hf)]
    exact .inr ⟨[], rfl, nofun, rfl⟩
  | succ f ih =>
    match p with
    | [] => exact .inr ⟨[], rfl, nofun, rfl⟩
    | x :: xs =>
      rcases parseHeaderEntry_cases (x :: xs) with (h | h) | ⟨e, sz, h, hok⟩
      · left; left; rw [parseLoop, h]
      · left; right; rw [parseLoop, h]
      · rw [parseLoop_step f _ pos e sz h hok.pos hok.le]
        have hlen : ((x :: xs).drop sz).length ≤ f := by
          have := hok.pos; rw [List.length_drop]; omega
        rcases ih _ (pos + e.length) hlen with (h' | h') | ⟨es, h', hwf, hoff⟩
        · left; left; rw [h']
        · left; right; rw [h']
        · rw [h']
          refine .inr ⟨_, rfl, ?_, by rw [withOffsets, hoff]⟩
          intro b hb
          rcases List.mem_cons.1 hb with rfl | hb
          · exact { hok with }
          · exact hwf b hb

theorem parseLoop_no_panic (fuel : Nat) (p : Bytes) (pos : Nat) (hf : p.length ≤ fuel) :
    parseLoop fuel p pos ≠ .panic := by
  rcases parseLoop_cases fuel p pos hf with (h | h) | ⟨es, h, _⟩ <;> simp [h]

end Restic.Proofs.C06
