import Restic.Model.IndexMap
/-!
# C56: the bit packing of pointer words

All statements are for an arbitrary value of the regenerated constant `bloomShift`; only the width bound
needs `bloomShift < 64`, discharged from the regenerated constant in `Props/C56`.
-/
namespace Restic.Proofs.C56
open Restic.Model.IndexMap

/-- the bloom bit of an id: `id[0] % (64 - bloomShift)` -/
def bitOf (id : ID) : Nat := (id.headD 0).toNat % (wordBits - bloomShift)

theorem bloomForID_eq (id : ID) : bloomForID id = 2 ^ bitOf id := by
  simp [bloomForID, bitOf, Nat.one_shiftLeft]

theorem and_two_pow_bne_zero (x j : Nat) : (x &&& 2 ^ j != 0) = x.testBit j := by
  cases h : x.testBit j
  · have : x &&& 2 ^ j = 0 := by
      apply Nat.eq_of_testBit_eq
      intro i
      simp only [Nat.testBit_and, Nat.testBit_two_pow, Nat.zero_testBit]
      by_cases hi : j = i
      · subst hi; simp [h]
      · simp [hi]
    simp [this]
  · have : (x &&& 2 ^ j).testBit j = true := by
      simp [Nat.testBit_and, h]
    have hne : x &&& 2 ^ j ≠ 0 := by
      intro h0; rw [h0] at this; simp at this
    simp [hne]

theorem bloomHasID_eq (w : Nat) (id : ID) : bloomHasID w id = w.testBit (bloomShift + bitOf id) := by
  simp only [bloomHasID, bloomForID_eq, and_two_pow_bne_zero, Nat.testBit_shiftRight]

theorem bloomMask_eq : bloomMask = 2 ^ bloomShift - 1 := by
  simp [bloomMask, Nat.one_shiftLeft]

theorem bloomCleanID_eq (x : Nat) : bloomCleanID x = x % 2 ^ bloomShift := by
  simp [bloomCleanID, bloomMask_eq]

theorem bloomCleanID_of_lt {x : Nat} (h : x < 2 ^ bloomShift) : bloomCleanID x = x := by
  rw [bloomCleanID_eq, Nat.mod_eq_of_lt h]

theorem bloomCleanID_lt (x : Nat) : bloomCleanID x < 2 ^ bloomShift := by
  rw [bloomCleanID_eq]; exact Nat.mod_lt _ (Nat.two_pow_pos _)

theorem testBit_of_lt_shift {p i : Nat} (hp : p < 2 ^ bloomShift) (hi : bloomShift ≤ i) : p.testBit i = false := by
  apply Nat.testBit_lt_two_pow
  exact Nat.lt_of_lt_of_le hp (Nat.pow_le_pow_right (by decide) hi)

theorem testBit_bloomInsertID (idx nxt : Nat) (id : ID) (i : Nat) :
    (bloomInsertID idx nxt id).testBit i =
      (idx.testBit i || decide (i ≥ bloomShift) && nxt.testBit (bloomShift + (i - bloomShift)) ||
        decide (i ≥ bloomShift) && decide (bitOf id = i - bloomShift)) := by
  simp only [bloomInsertID, bloomForID_eq, Nat.testBit_or, Nat.testBit_shiftLeft, Nat.testBit_shiftRight,
    Nat.testBit_two_pow]

/-- the low bits of an inserted word are the index -/
theorem bloomCleanID_insert {idx : Nat} (nxt : Nat) (id : ID) (h : idx < 2 ^ bloomShift) :
    bloomCleanID (bloomInsertID idx nxt id) = idx := by
  rw [bloomCleanID_eq]
  apply Nat.eq_of_testBit_eq
  intro i
  rw [Nat.testBit_mod_two_pow, testBit_bloomInsertID]
  by_cases hi : i < bloomShift
  · rw [decide_eq_true hi, decide_eq_false (Nat.not_le.mpr hi)]
    simp only [Bool.true_and, Bool.false_and, Bool.or_false]
  · rw [decide_eq_false hi, testBit_of_lt_shift h (Nat.le_of_not_lt hi)]; rfl

/-- bloom of the new word = bloom of `next` ∪ {bit of id} -/
theorem bloomHasID_insert {idx : Nat} (nxt : Nat) (id' id : ID) (h : idx < 2 ^ bloomShift) :
    bloomHasID (bloomInsertID idx nxt id') id = (bloomHasID nxt id || decide (bitOf id' = bitOf id)) := by
  rw [bloomHasID_eq, bloomHasID_eq, testBit_bloomInsertID, testBit_of_lt_shift h (Nat.le_add_right ..),
    decide_eq_true (Nat.le_add_right ..), Nat.add_sub_cancel_left]
  simp only [Bool.false_or, Bool.true_and]

theorem bloomHasID_zero (id : ID) : bloomHasID 0 id = false := by
  simp [bloomHasID_eq]

/-- the early exit of the chain walks is sound -/
theorem bloomHasID_insert_false {idx : Nat} {nxt : Nat} {id' id : ID} (h : idx < 2 ^ bloomShift)
    (hf : bloomHasID (bloomInsertID idx nxt id') id = false) : id' ≠ id ∧ bloomHasID nxt id = false := by
  rw [bloomHasID_insert nxt id' id h] at hf
  simp only [Bool.or_eq_false_iff, decide_eq_false_iff_not] at hf
  exact ⟨fun e => hf.2 (by rw [e]), hf.1⟩

theorem bloomHasID_insert_self {idx : Nat} (nxt : Nat) (id : ID) (h : idx < 2 ^ bloomShift) :
    bloomHasID (bloomInsertID idx nxt id) id = true := by
  rw [bloomHasID_insert nxt id id h]; simp

/-- an inserted word fits in 64 bits when `next` does (`uint` never overflows) -/
theorem bloomInsertID_lt {idx nxt : Nat} (id : ID) (hs : bloomShift < wordBits) (h : idx < 2 ^ bloomShift)
    (hn : nxt < 2 ^ wordBits) : bloomInsertID idx nxt id < 2 ^ wordBits := by
  apply Nat.lt_pow_two_of_testBit
  intro i hi
  have hsi : bloomShift ≤ i := Nat.le_of_lt (Nat.lt_of_lt_of_le hs hi)
  have h2 : nxt.testBit i = false :=
    Nat.testBit_lt_two_pow (Nat.lt_of_lt_of_le hn (Nat.pow_le_pow_right Nat.two_pos hi))
  -- the bit of an id lies below `wordBits - bloomShift`
  have h4 : bitOf id ≠ i - bloomShift :=
    Nat.ne_of_lt (Nat.lt_of_lt_of_le (Nat.mod_lt _ (Nat.sub_pos_of_lt hs)) (Nat.sub_le_sub_right hi _))
  rw [testBit_bloomInsertID, testBit_of_lt_shift h hsi, Nat.add_sub_cancel' hsi, h2, decide_eq_false h4]
  simp only [Bool.and_false, Bool.or_false]

end Restic.Proofs.C56
