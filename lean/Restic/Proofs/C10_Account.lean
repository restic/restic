import Restic.Model.Prune
import Restic.Proofs.Fold
/-!
C09/C10: exact accounting of `packInfoFromIndex`. The first pass, the saturating occurrence counter, in
closed form (`countFold`). Then, with `marks` the ghost record of the entries the third pass switched to
"used", every counter — `usedBlobs` / `unusedBlobs` of a pack, the entries of a blob counted as used, the
blob statistics — is a count over the marked entry list (`Booked`). The second and third pass enter only
through what they do to these observables (`pass2Step_booked`, `pass3Step_spec`); the rest is counting.
-/
namespace Restic.Proofs.C09Select
open Restic.Model.Repo Restic.Model.Prune

def occ (b : BlobH) (l : List PB) : Nat := (l.filter fun pb => pb.e.blob = b).length

@[simp] theorem occ_nil (b : BlobH) : occ b [] = 0 := rfl
theorem occ_cons (b : BlobH) (pb : PB) (l : List PB) :
    occ b (pb :: l) = (if pb.e.blob = b then 1 else 0) + occ b l := by
  unfold occ
  by_cases h : pb.e.blob = b <;> simp [h]; omega

theorem occ_pos_iff {b : BlobH} {l : List PB} : 1 ≤ occ b l ↔ ∃ pb ∈ l, pb.e.blob = b := by
  simp [occ, List.length_pos_iff_exists_mem, Nat.succ_le_iff]

def ub (ip : IP) (p : ID) : Nat := ((ip p).getD {}).usedBlobs

theorem countStep_f (c : CntS) (x : PB) (b : BlobH) :
    (countStep c x).f b = if x.e.blob = b then (c.f b).map fun n => if n < 255 then n + 1 else n else c.f b := by
  unfold countStep
  by_cases hb : x.e.blob = b
  · subst hb; cases h : c.f x.e.blob <;> simp [h, upd]
  · have hb' : ¬ b = x.e.blob := fun h => hb h.symm
    cases h : c.f x.e.blob <;> simp [upd, hb, hb']

/-- a start value `n` is never above 255, and then the result is `min (n + occ b l) 255`; the `max` makes
    the equation hold without that side condition -/
theorem countFold (b : BlobH) (l : List PB) : ∀ c : CntS,
    (l.foldl countStep c).f b = (c.f b).map fun n => max n (min (n + occ b l) 255) := by
  induction l with
  | nil =>
    intro c
    cases h : c.f b <;> simp only [List.foldl_nil, h, occ_nil, Option.map_none, Option.map_some, Option.some.injEq]
    omega
  | cons x l ih =>
    intro c
    rw [List.foldl_cons, ih, countStep_f, occ_cons]
    by_cases hb : x.e.blob = b <;> cases h : c.f b <;> simp only [hb, if_true, if_false, Option.map_none, Option.map_some, Option.some.injEq]
    · split <;> omega
    · omega

theorem countPass_eq (used : List BlobH) (idx : List PB) (b : BlobH) :
    (countPass used idx).f b = if b ∈ used then some (min (occ b idx) 255) else none := by
  rw [countPass, countFold]
  simp only [initCnt]
  split <;> simp

end Restic.Proofs.C09Select

namespace Restic.Proofs.C10Account
open Restic.Model.Repo Restic.Model.Prune Restic.Proofs.C09Select

def un (ip : IP) (p : ID) : Nat := ((ip p).getD {}).unusedBlobs

/-! Classes of an index entry by the first-pass counter `cnt1` of its blob: `isSingle` (1: the only entry of a used
blob), `isDup` (≥ 2), `isFree` (not used). `xm` is an entry with its mark (set on the duplicate the third pass
switched to used). `usedP`, `usedMark`: single or marked; `nsP`: not single; `unmarkedP`: neither. -/

def nsP (cnt1 : Cnt) (p : ID) (x : PB) : Bool := x.pack == p && !(cnt1 x.e.blob == some 1)

def unmarkedP (cnt1 : Cnt) (p : ID) (xm : PB × Bool) : Bool := nsP cnt1 p xm.1 && !xm.2

def markedB (b : BlobH) (xm : PB × Bool) : Bool := xm.1.e.blob == b && xm.2

def isSingle (cnt1 : Cnt) (x : PB) : Bool := cnt1 x.e.blob == some 1
def isDup (cnt1 : Cnt) (x : PB) : Bool := decide ((cnt1 x.e.blob).getD 0 ≥ 2)
def isFree (cnt1 : Cnt) (x : PB) : Bool := !(isSingle cnt1 x) && !(isDup cnt1 x)

def usedMark (cnt1 : Cnt) (b : BlobH) (xm : PB × Bool) : Bool :=
  xm.1.e.blob == b && (cnt1 xm.1.e.blob == some 1 || xm.2)

def usedP (cnt1 : Cnt) (p : ID) (xm : PB × Bool) : Bool := xm.1.pack == p && (isSingle cnt1 xm.1 || xm.2)

theorem usedMark_iff {cnt1 : Cnt} {b : BlobH} {xm : PB × Bool} :
    usedMark cnt1 b xm = true ↔ xm.1.e.blob = b ∧ (isSingle cnt1 xm.1 = true ∨ xm.2 = true) := by
  rw [usedMark, Bool.and_eq_true, beq_iff_eq, Bool.or_eq_true]; rfl

theorem unmarkedP_iff {cnt1 : Cnt} {p : ID} {xm : PB × Bool} :
    unmarkedP cnt1 p xm = true ↔ xm.1.pack = p ∧ isSingle cnt1 xm.1 = false ∧ xm.2 = false := by
  simp only [unmarkedP, nsP, isSingle, Bool.and_eq_true, beq_iff_eq, Bool.not_eq_true', and_assoc]

theorem ub_upd (ip : IP) (q p : ID) (info : PackInfo) :
    ub (upd ip q (some info)) p = if p = q then info.usedBlobs else ub ip p := by
  unfold ub upd; split <;> rfl

theorem un_upd (ip : IP) (q p : ID) (info : PackInfo) :
    un (upd ip q (some info)) p = if p = q then info.unusedBlobs else un ip p := by
  unfold un upd; split <;> rfl

theorem isSome_upd (ip : IP) (q p : ID) (info : PackInfo) (h : (ip p).isSome) : (upd ip q (some info) p).isSome := by
  unfold upd; split
  · rfl
  · exact h

theorem ub_upd_add {ip : IP} {q : ID} {info : PackInfo} {d : Nat} (h : info.usedBlobs = ub ip q + d) (p : ID) :
    ub (upd ip q (some info)) p = ub ip p + if q = p then d else 0 := by
  rw [ub_upd]; by_cases hp : p = q
  · subst hp; simp [h]
  · simp [hp, Ne.symm hp]

theorem un_upd_sub {ip : IP} {q : ID} {info : PackInfo} {d : Nat} (h : info.unusedBlobs = un ip q - d) (p : ID) :
    un (upd ip q (some info)) p = un ip p - if q = p then d else 0 := by
  rw [un_upd]; by_cases hp : p = q
  · subst hp; simp [h]
  · simp [hp, Ne.symm hp]

theorem getD_eq_one (c : Option Nat) : c.getD 0 = 1 ↔ c = some 1 := by
  cases c <;> simp

/-- Kept by the second and the third pass. `W`: the entries with marks (`false`: not switched to used, or not
    yet visited); `st0`: the statistics before the second pass. -/
structure Booked (cnt1 : Cnt) (st0 : Stats) (ip : IP) (st : Stats) (W : List (PB × Bool)) : Prop where
  used : ∀ p, ub ip p = W.countP (usedP cnt1 p)
  unused : ∀ p, un ip p = W.countP (unmarkedP cnt1 p)
  bUsed : st.bUsed = st0.bUsed + W.countP (fun xm => isSingle cnt1 xm.1) + W.countP (·.2)
  bDup : st.bDup = st0.bDup + W.countP (fun xm => isDup cnt1 xm.1 && !xm.2)
  bUnused : st.bUnused = st0.bUnused + W.countP (fun xm => isFree cnt1 xm.1)
  total : st.bUsed + st.bDup + st.bUnused = st0.bUsed + st0.bDup + st0.bUnused + W.length

theorem class_one (cnt : Cnt) (x : PB) :
    (if isSingle cnt x then 1 else 0) + (if isDup cnt x then 1 else 0) + (if isFree cnt x then 1 else 0) = 1 := by
  unfold isFree isSingle isDup
  cases cnt x.e.blob with
  | none => rfl
  | some n => by_cases h1 : n = 1 <;> by_cases h2 : 2 ≤ n <;> simp [h1, h2] <;> omega

theorem pass2Step_booked {cnt : Cnt} {st0 : Stats} {s : S2} {W : List (PB × Bool)} (x : PB)
    (h : Booked cnt st0 s.ip s.st W) :
    Booked cnt st0 (pass2Step cnt s x).ip (pass2Step cnt s x).st (W ++ [(x, false)]) := by
  have hu : (pass2Step cnt s x).st.bUsed = s.st.bUsed + (if isSingle cnt x then 1 else 0) := by
    simp only [pass2Step, apply_ite Stats.bUsed, isSingle, beq_iff_eq, ← getD_eq_one]
    split <;> split <;> omega
  have hd : (pass2Step cnt s x).st.bDup = s.st.bDup + (if isDup cnt x then 1 else 0) := by
    simp only [pass2Step, apply_ite Stats.bDup, ite_self, isDup, decide_eq_true_eq]
    split <;> rfl
  have hn : (pass2Step cnt s x).st.bUnused = s.st.bUnused + (if isFree cnt x then 1 else 0) := by
    simp only [pass2Step, apply_ite Stats.bUnused, isFree, isSingle, isDup, Bool.and_eq_true, Bool.not_eq_true',
      beq_eq_false_iff_ne, decide_eq_false_iff_not, ne_eq, ← getD_eq_one]
    by_cases h2 : (cnt x.e.blob).getD 0 ≥ 2 <;> by_cases h1 : (cnt x.e.blob).getD 0 = 1 <;> simp [h1, h2]
  refine ⟨fun p => ?_, fun p => ?_, ?_, ?_, ?_, ?_⟩ <;>
    simp only [List.countP_append, List.countP_singleton, List.length_append, List.length_singleton,
      Bool.not_false, Bool.and_true, Bool.false_eq_true, if_false]
  · rw [← h.used p]
    clear hu hd hn
    refine (ub_upd ..).trans ?_
    by_cases hp : p = x.pack
    · subst hp
      simp only [apply_ite PackInfo.usedBlobs, ite_self, ub, usedP, isSingle, beq_iff_eq, ← getD_eq_one, if_true,
        beq_self_eq_true, Bool.true_and, Bool.or_false]
      by_cases h1 : (cnt x.e.blob).getD 0 = 1 <;> simp [h1]
    · simp [hp, Ne.symm hp, usedP]
  · rw [← h.unused p]
    clear hu hd hn
    refine (un_upd ..).trans ?_
    by_cases hp : p = x.pack
    · subst hp
      simp only [apply_ite PackInfo.unusedBlobs, ite_self, un, unmarkedP, nsP, Bool.not_eq_true', beq_eq_false_iff_ne,
        ne_eq, ← getD_eq_one, if_true, beq_self_eq_true, Bool.true_and, Bool.not_false, Bool.and_true]
      by_cases h1 : (cnt x.e.blob).getD 0 = 1 <;> simp [h1]
    · simp [hp, Ne.symm hp, unmarkedP, nsP]
  · rw [hu, h.bUsed]; omega
  · rw [hd, h.bDup]; omega
  · rw [hn, h.bUnused]; omega
  · rw [hu, hd, hn]; have := class_one cnt x; have := h.total; omega

theorem pass2Fold_spec {cnt : Cnt} {st0 : Stats} (l : List PB) {s : S2} {W : List (PB × Bool)}
    (h : Booked cnt st0 s.ip s.st W) :
    Booked cnt st0 (l.foldl (pass2Step cnt) s).ip (l.foldl (pass2Step cnt) s).st (W ++ l.map (·, false)) ∧
    (l.foldl (pass2Step cnt) s).hasDup = (s.hasDup || l.any (isDup cnt)) :=
  foldl_seen (P := fun seen (s' : S2) => Booked cnt st0 s'.ip s'.st (W ++ seen.map (·, false)) ∧
      s'.hasDup = (s.hasDup || seen.any (isDup cnt)))
    (fun seen s' x hP => ⟨by simpa using pass2Step_booked x hP.1, by
      rw [List.any_append, ← Bool.or_assoc, ← hP.2, List.any_cons, List.any_nil, Bool.or_false]; rfl⟩)
    l ⟨by simpa using h, by simp⟩

/-- The visit of an entry whose blob has counter `c` marks it (`m`) or not and leaves counter `c'`: `none`
    and `1` are left alone; any other is set to 1 by a marked visit and counted down otherwise, "1 left"
    being stored as 0 so that the last occurrence is taken. -/
def Visit (c : Option Nat) (m : Bool) (c' : Option Nat) : Prop :=
  match c with
  | none => m = false ∧ c' = none
  | some k =>
    if k = 1 then m = false ∧ c' = some 1
    else (m = true ∧ c' = some 1) ∨ (m = false ∧ k ≠ 0 ∧ c' = some (if k - 1 = 1 then 0 else k - 1))

/-- what a visit that sets mark `m` does to the observables `Booked` reads -/
structure Step3 (s s' : S3) (x : PB) (m : Bool) (c' : Option Nat) : Prop where
  marks : s'.marks = m :: s.marks
  cnt : ∀ b, s'.cnt b = if b = x.e.blob then c' else s.cnt b
  ub : ∀ p, ub s'.ip p = ub s.ip p + if x.pack = p then m.toNat else 0
  un : ∀ p, un s'.ip p = un s.ip p - if x.pack = p then m.toNat else 0
  some : ∀ p, (s.ip p).isSome → (s'.ip p).isSome
  bUsed : s'.st.bUsed = s.st.bUsed + m.toNat
  bDup : s'.st.bDup = s.st.bDup - m.toNat
  bUnused : s'.st.bUnused = s.st.bUnused

theorem pass3Step_spec (s : S3) (x : PB) :
    ∃ m c', Visit (s.cnt x.e.blob) m c' ∧ Step3 s (pass3Step s x) x m c' := by
  have skip : ∀ c, Visit c false c → s.cnt x.e.blob = c →
      ∃ m c', Visit c m c' ∧ Step3 s { s with marks := false :: s.marks } x m c' := fun c hv h =>
    ⟨false, c, hv,
      { marks := rfl, cnt := fun b => by split <;> simp [*], ub := by simp, un := by simp, some := fun _ h => h,
        bUsed := rfl, bDup := rfl, bUnused := rfl }⟩
  unfold pass3Step
  cases hc : s.cnt x.e.blob with
  | none => exact skip _ ⟨rfl, rfl⟩ hc
  | some k =>
    by_cases hk : k = 1
    · subst hk; simpa using skip _ (by simp [Visit]) hc
    · simp only [hk, if_false]
      split
      case isTrue =>
        exact ⟨true, _, by simp [Visit, hk],
          { marks := rfl, cnt := fun b => rfl, ub := ub_upd_add (d := 1) rfl, un := un_upd_sub (d := 1) rfl,
            some := fun p => isSome_upd _ _ _ _, bUsed := rfl, bDup := rfl, bUnused := rfl }⟩
      case isFalse hsel =>
        exact ⟨false, _, by simpa [Visit, hk] using fun h => hsel (Or.inr (Or.inr h)),
          { marks := rfl, cnt := fun b => rfl, ub := ub_upd_add (d := 0) rfl, un := un_upd_sub (d := 0) rfl,
            some := fun p => isSome_upd _ _ _ _, bUsed := rfl, bDup := rfl, bUnused := rfl }⟩

/-- Blob `b` when the entries `pre` have been visited and `rest` is to come. Untouched: not used, or used
    with a single entry. Otherwise duplicated, and either one entry has been marked and the counter is 1, or
    none has and the counter can still be met by the entries to come. -/
def BlobSt (cnt1 : Cnt) (s : S3) (pre : List (PB × Bool)) (rest : List PB) (b : BlobH) : Prop :=
  (s.cnt b = cnt1 b ∧ (cnt1 b = none ∨ cnt1 b = some 1) ∧ pre.countP (markedB b) = 0) ∨
  (∃ n, cnt1 b = some n ∧ 2 ≤ n) ∧
    ((s.cnt b = some 1 ∧ pre.countP (markedB b) = 1) ∨
     (∃ c, s.cnt b = some c ∧ c ≠ 1 ∧ c ≤ occ b rest ∧ 1 ≤ occ b rest ∧ pre.countP (markedB b) = 0))

/-- Invariant of the third pass: `pre` the visited entries with their marks (`S3.marks` has the newest
    first), `rest` the entries to come, which count as unmarked. -/
structure Inv3 (cnt1 : Cnt) (st0 : Stats) (s : S3) (pre : List (PB × Bool)) (rest : List PB) : Prop where
  marks : s.marks.reverse = pre.map (·.2)
  book : Booked cnt1 st0 s.ip s.st (pre ++ rest.map (·, false))
  blob : ∀ b, BlobSt cnt1 s pre rest b

/-- The visit of `x` puts `(x, m)` for `(x, false)` in the book: a count over the book moves by what its predicate
    says of the one less the other (`hW`), and `Step3` moves the counters alike, a marked entry being a duplicate. -/
theorem Booked.visit {cnt1 : Cnt} {st0 : Stats} {s s' : S3} {pre : List (PB × Bool)} {x : PB} {rest : List PB}
    {m : Bool} {c' : Option Nat} (hB : Booked cnt1 st0 s.ip s.st (pre ++ (x :: rest).map (·, false)))
    (hs : Step3 s s' x m c') (hdup : m = true → ∃ n, cnt1 x.e.blob = some n ∧ 2 ≤ n) :
    Booked cnt1 st0 s'.ip s'.st (pre ++ [(x, m)] ++ rest.map (·, false)) := by
  have hW : ∀ q : PB × Bool → Bool, (pre ++ [(x, m)] ++ rest.map (·, false)).countP q + (if q (x, false) then 1 else 0) =
      (pre ++ (x :: rest).map (·, false)).countP q + (if q (x, m) then 1 else 0) := fun q => by
    simp only [List.countP_append, List.countP_cons, List.countP_nil, List.map_cons]; omega
  cases m with
  | false =>
    have hW0 : ∀ q : PB × Bool → Bool, (pre ++ [(x, false)] ++ rest.map (·, false)).countP q =
        (pre ++ (x :: rest).map (·, false)).countP q := fun q => by have := hW q; omega
    have hs1 := hs.ub; have hs2 := hs.un; have hs3 := hs.bUsed; have hs4 := hs.bDup
    simp only [Bool.toNat_false, ite_self, Nat.add_zero, Nat.sub_zero] at hs1 hs2 hs3 hs4
    exact {
      used := fun p => by rw [hs1, hW0, hB.used]
      unused := fun p => by rw [hs2, hW0, hB.unused]
      bUsed := by rw [hs3, hW0, hW0, hB.bUsed]
      bDup := by rw [hs4, hW0, hB.bDup]
      bUnused := by rw [hs.bUnused, hW0, hB.bUnused]
      total := by rw [hs3, hs4, hs.bUnused, hB.total]; simp }
  | true =>
    obtain ⟨n, hn, hn2⟩ := hdup rfl
    have h1 : isSingle cnt1 x = false := by simp [isSingle, hn]; omega
    have h2 : isDup cnt1 x = true := by simp [isDup, hn, hn2]
    have h3 : ∀ p, nsP cnt1 p x = (x.pack == p) := fun p => by simp [nsP, hn]; omega
    clear hn2
    have hW1 : ∀ (q : PB × Bool → Bool) (a b : Nat), (if q (x, false) then 1 else 0) = a → (if q (x, true) then 1 else 0) = b →
        (pre ++ [(x, true)] ++ rest.map (·, false)).countP q + a = (pre ++ (x :: rest).map (·, false)).countP q + b :=
      fun q a b ha hb => ha ▸ hb ▸ hW q
    have hD := hW1 (fun xm => isDup cnt1 xm.1 && !xm.2) 1 0 (by simp [h2]) (by simp)
    refine { used := fun p => ?_, unused := fun p => ?_, bUsed := ?_, bDup := ?_, bUnused := ?_, total := ?_ }
    · have := hW1 (usedP cnt1 p) 0 (if x.pack = p then 1 else 0) (by simp [usedP, h1]) (by simp [usedP])
      rw [hs.ub, hB.used]; simp only [Bool.toNat_true]; omega
    · have := hW1 (unmarkedP cnt1 p) (if x.pack = p then 1 else 0) 0 (by simp [unmarkedP, h3]) (by simp [unmarkedP])
      rw [hs.un, hB.unused]; simp only [Bool.toNat_true]; omega
    · have := hW1 (fun xm => isSingle cnt1 xm.1) 0 0 (by simp [h1]) (by simp [h1])
      have := hW1 (·.2) 0 1 rfl rfl
      rw [hs.bUsed, hB.bUsed]; simp only [Bool.toNat_true]; omega
    · rw [hs.bDup, hB.bDup]; simp only [Bool.toNat_true]; omega
    · have := hW1 (fun xm => isFree cnt1 xm.1) (if isFree cnt1 x then 1 else 0) (if isFree cnt1 x then 1 else 0) rfl rfl
      rw [hs.bUnused, hB.bUnused]; omega
    · have := hB.bDup; have := hB.total
      rw [hs.bUsed, hs.bDup, hs.bUnused]; simp only [Bool.toNat_true, List.length_append, List.length_cons, List.length_map, List.length_nil] at *; omega

theorem pass3Step_inv {cnt1 : Cnt} {st0 : Stats} {s : S3} {pre : List (PB × Bool)} {x : PB} {rest : List PB}
    (hI : Inv3 cnt1 st0 s pre (x :: rest)) : ∃ m, Inv3 cnt1 st0 (pass3Step s x) (pre ++ [(x, m)]) rest := by
  obtain ⟨m, c', hv, hs⟩ := pass3Step_spec s x
  have hmk : (pre ++ [(x, m)]).countP (markedB x.e.blob) = pre.countP (markedB x.e.blob) + m.toNat := by
    cases m <;> simp [markedB]
  -- it is enough to find the new state of the visited blob; a marked entry must be a duplicate
  suffices h : BlobSt cnt1 (pass3Step s x) (pre ++ [(x, m)]) rest x.e.blob ∧
      (m = true → ∃ n, cnt1 x.e.blob = some n ∧ 2 ≤ n) by
    refine ⟨m, by simp [hs.marks, hI.marks], hI.book.visit hs h.2, fun b => ?_⟩
    · by_cases hb : b = x.e.blob
      · exact hb ▸ h.1
      · have h0 := hI.blob b
        have e2 : (pre ++ [(x, m)]).countP (markedB b) = pre.countP (markedB b) := by
          rw [List.countP_append, List.countP_singleton]; simp [markedB, Ne.symm hb]
        rw [BlobSt, occ_cons, if_neg (Ne.symm hb), Nat.zero_add] at h0
        rw [BlobSt, (hs.cnt b).trans (if_neg hb), e2]
        exact h0
  have hb := hI.blob x.e.blob
  have hc' := hs.cnt x.e.blob
  rw [BlobSt, occ_cons, if_pos rfl] at hb
  rw [if_pos rfl] at hc'
  rw [BlobSt, hmk, hc']
  rcases hb with ⟨h1, h2, h3⟩ | ⟨hn, ⟨h1, h3⟩ | ⟨c, h1, hc1, hle, hpos, h3⟩⟩
  · -- untouched blob: skipped
    have : m = false ∧ c' = s.cnt x.e.blob := by
      rcases h2 with h2 | h2 <;> (rw [h1, h2] at hv ⊢; simpa [Visit] using hv)
    obtain ⟨rfl, rfl⟩ := this
    exact ⟨Or.inl ⟨h1, h2, h3⟩, fun h => by cases h⟩
  · -- already selected: skipped
    have : m = false ∧ c' = some 1 := by rw [h1] at hv; simpa [Visit] using hv
    obtain ⟨rfl, rfl⟩ := this
    exact ⟨Or.inr ⟨hn, Or.inl ⟨rfl, h3⟩⟩, fun h => by cases h⟩
  · -- waiting: selected now, or counted down
    rw [h1] at hv
    simp only [Visit, hc1, if_false] at hv
    rcases hv with ⟨rfl, rfl⟩ | ⟨rfl, hc0, rfl⟩
    · exact ⟨Or.inr ⟨hn, Or.inl ⟨rfl, by simp [h3]⟩⟩, fun _ => hn⟩
    · exact ⟨Or.inr ⟨hn, Or.inr ⟨_, rfl, by split <;> omega, by split <;> omega, by omega, h3⟩⟩, fun h => by cases h⟩

theorem pass3Fold_inv {cnt1 : Cnt} {st0 : Stats} : ∀ (rest : List PB) (s : S3) (pre : List (PB × Bool)),
    Inv3 cnt1 st0 s pre rest →
    ∃ pre', pre'.map (·.1) = pre.map (·.1) ++ rest ∧ Inv3 cnt1 st0 (rest.foldl pass3Step s) pre' []
  | [], _, pre, h => ⟨pre, by simp, h⟩
  | x :: rest, s, pre, h => by
    obtain ⟨m, hm⟩ := pass3Step_inv h
    obtain ⟨pre', hp, h'⟩ := pass3Fold_inv rest _ _ hm
    exact ⟨pre', by simp [hp], h'⟩

theorem un_ipOf (hs : HdrS) (p : ID) : un (ipOf hs) p = 0 := by
  unfold un ipOf; cases hs.f p <;> rfl

theorem ub_ipOf (hs : HdrS) (p : ID) : ub (ipOf hs) p = 0 := by
  unfold ub ipOf; cases hs.f p <;> rfl

theorem pass23_inv (c : CntS) (idx : List PB) (st : Stats)
    (hc : ∀ b n, c.f b = some n → 1 ≤ n ∧ n ≤ occ b idx) :
    ∃ pre, pre.map (·.1) = idx ∧ Inv3 c.f st (pass23 c idx st) pre [] := by
  unfold pass23
  obtain ⟨hb, hd⟩ := pass2Fold_spec (cnt := c.f) (st0 := st) idx
    (s := { ip := ipOf (hdrSizes idx), st := st, hasDup := false }) (W := [])
    { used := by simp [ub_ipOf], unused := by simp [un_ipOf], bUsed := rfl, bDup := rfl, bUnused := rfl, total := rfl }
  simp only [Bool.false_or, List.nil_append] at hb hd ⊢
  generalize idx.foldl (pass2Step c.f) _ = s2 at *
  by_cases hnd : s2.hasDup = true
  · rw [if_pos hnd]
    have init : Inv3 c.f st { cnt := c.f, ip := s2.ip, st := s2.st, marks := [] } [] idx := by
      refine ⟨rfl, hb, fun b => ?_⟩
      cases h : c.f b with
      | none => exact Or.inl ⟨rfl, Or.inl h, rfl⟩
      | some n =>
        obtain ⟨h1, h2⟩ := hc b n h
        by_cases hn1 : n = 1
        · exact Or.inl ⟨rfl, Or.inr (hn1 ▸ h), rfl⟩
        · exact Or.inr ⟨⟨n, h, by omega⟩, Or.inr ⟨n, h, hn1, h2, by omega, rfl⟩⟩
    obtain ⟨pre, hp, hI⟩ := pass3Fold_inv idx _ [] init
    exact ⟨pre, by simpa using hp, hI⟩
  · -- no duplicate at all: the second pass is final and nothing is marked
    rw [if_neg hnd]
    rw [hd, Bool.not_eq_true, List.any_eq_false] at hnd
    refine ⟨idx.map (·, false), by simp [Function.comp_def],
      { marks := by simp [Function.comp_def, List.map_const'], book := by simpa using hb,
        blob := fun b => Or.inl ⟨rfl, ?_, by simp [markedB]⟩ }⟩
    cases h : c.f b with
    | none => exact Or.inl rfl
    | some n =>
      obtain ⟨h1, h2⟩ := hc b n h
      obtain ⟨x, hx, hxb⟩ := occ_pos_iff.mp (Nat.le_trans h1 h2)
      have := hnd x hx
      simp only [isDup, hxb, h, Option.getD_some, decide_eq_true_eq] at this
      exact Or.inr (by congr; omega)

theorem Inv3.zip {cnt1 : Cnt} {st0 : Stats} {s : S3} {pre : List (PB × Bool)} {idx : List PB}
    (h : Inv3 cnt1 st0 s pre []) (hp : pre.map (·.1) = idx) : idx.zip s.marks.reverse = pre :=
  (List.zip_of_prod hp h.marks.symm).symm

theorem Inv3.booked {cnt1 : Cnt} {st0 : Stats} {s : S3} {pre : List (PB × Bool)} (h : Inv3 cnt1 st0 s pre []) :
    Booked cnt1 st0 s.ip s.st pre := by
  simpa using h.book

theorem Inv3.cnt_final {cnt1 : Cnt} {st0 : Stats} {s : S3} {pre : List (PB × Bool)} (h : Inv3 cnt1 st0 s pre [])
    {b : BlobH} {n : Nat} (hb : cnt1 b = some n) : s.cnt b = some 1 := by
  -- the three states of `BlobSt`; the last, a blob still waiting, needs an entry to come (`h1`)
  rcases h.blob b with ⟨h1, h2 | h2, -⟩ | ⟨-, ⟨h1, -⟩ | ⟨c, -, -, -, h1, -⟩⟩
  · rw [hb] at h2; cases h2
  · rw [h1, h2]
  · exact h1
  · cases h1

theorem Inv3.marked_final {cnt1 : Cnt} {st0 : Stats} {s : S3} {pre : List (PB × Bool)} (h : Inv3 cnt1 st0 s pre [])
    (b : BlobH) : pre.countP (markedB b) = match cnt1 b with | none => 0 | some n => if n = 1 then 0 else 1 := by
  rcases h.blob b with ⟨-, h2 | h2, h3⟩ | ⟨⟨n, hn, hn2⟩, ⟨-, h3⟩ | ⟨c, -, -, -, h1, -⟩⟩
  · rw [h2, h3]
  · rw [h2, h3]; rfl
  · rw [hn, h3]; exact (if_neg (by omega)).symm
  · cases h1

theorem count_filter_map {α β : Type} [DecidableEq β] (l : List α) (q : α → Bool) (f : α → β) (b : β) :
    ((l.filter q).map f).count b = l.countP fun x => f x == b && q x := by
  rw [List.count_eq_countP, List.countP_map, List.countP_filter]; rfl

theorem countP_fst {pre : List (PB × Bool)} {idx : List PB} (hp : pre.map (·.1) = idx) (q : PB → Bool) :
    pre.countP (fun xm => q xm.1) = idx.countP q := by
  rw [← hp, List.countP_map]; rfl

theorem countP_zip_fst (l : List PB) (ms : List Bool) (h : ms.length = l.length) (q : PB → Bool) :
    (l.zip ms).countP (fun xm => q xm.1) = l.countP q :=
  countP_fst (List.map_fst_zip (Nat.le_of_eq h.symm)) q

theorem pass23_some (c : CntS) (idx : List PB) (st : Stats) (p : ID) (h : (ipOf (hdrSizes idx) p).isSome) :
    ((pass23 c idx st).ip p).isSome := by
  have h2 : ∀ (l : List PB) (s : S2), (s.ip p).isSome → ((l.foldl (pass2Step c.f) s).ip p).isSome := fun l s hs =>
    List.foldlRecOn l _ (motive := fun s : S2 => (s.ip p).isSome) hs fun _ hs _ _ => isSome_upd _ _ _ _ hs
  have h3 : ∀ (l : List PB) (s : S3), (s.ip p).isSome → ((l.foldl pass3Step s).ip p).isSome := fun l s hs =>
    List.foldlRecOn l _ (motive := fun s : S3 => (s.ip p).isSome) hs fun s hs x _ =>
      by obtain ⟨_, _, _, hx⟩ := pass3Step_spec s x; exact hx.some p hs
  unfold pass23
  simp only
  split
  · exact h3 _ _ (h2 _ _ h)
  · exact h2 _ _ h

/-- The sanity check after the third pass cannot fire: `packInfoFromIndex` fails only when a used blob has
    no index entry. -/
theorem packInfo_cases (used : List BlobH) (idx : List PB) (st : Stats) :
    let s := pass23 (countPass used idx) idx st
    (packInfoFromIndex used idx st = .error .indexIncomplete ∧ ∃ b ∈ used, occ b idx = 0) ∨
    ((∀ b ∈ used, 1 ≤ occ b idx) ∧ packInfoFromIndex used idx st = .ok ⟨s.cnt, s.ip, s.st, s.marks.reverse⟩ ∧
      ∃ pre, pre.map (·.1) = idx ∧ Inv3 (countPass used idx).f st s pre []) := by
  have hcnt : ∀ b ∈ used, (countPass used idx).f b = some (min (occ b idx) 255) := fun b hb => by
    rw [countPass_eq, if_pos hb]
  unfold packInfoFromIndex
  by_cases hm : (used.any fun b => (countPass used idx).f b == some 0) = true
  · obtain ⟨b, hb, h0⟩ := List.any_eq_true.mp hm
    rw [hcnt b hb, beq_iff_eq, Option.some.injEq] at h0
    exact Or.inl ⟨if_pos hm, b, hb, by omega⟩
  · have hocc : ∀ b ∈ used, 1 ≤ occ b idx := fun b hb => by
      have := List.any_eq_false.mp (Bool.not_eq_true _ ▸ hm) b hb
      rw [hcnt b hb, beq_iff_eq, Option.some.injEq] at this
      omega
    obtain ⟨z, hz, hI⟩ := pass23_inv (countPass used idx) idx st fun b n hb => by
      rw [countPass_eq] at hb
      split at hb
      · have := hocc b ‹_›; cases hb; omega
      · cases hb
    have hp : ¬ (used.any fun b => (pass23 (countPass used idx) idx st).cnt b != some 1) = true := by
      rw [List.any_eq_true]; rintro ⟨b, hb, h1⟩
      simp [hI.cnt_final (hcnt b hb)] at h1
    exact Or.inr ⟨hocc, (if_neg hm).trans (if_neg hp), z, hz, hI⟩

theorem packInfo_ok {used : List BlobH} {idx : List PB} {st : Stats} {pi : PackInfoResult}
    (h : packInfoFromIndex used idx st = .ok pi) :
    let s := pass23 (countPass used idx) idx st
    (∀ b ∈ used, 1 ≤ occ b idx) ∧ pi = ⟨s.cnt, s.ip, s.st, s.marks.reverse⟩ ∧
      ∃ pre, pre.map (·.1) = idx ∧ Inv3 (countPass used idx).f st s pre [] := by
  rcases packInfo_cases used idx st with ⟨h1, -⟩ | ⟨hocc, h1, hz⟩
  · rw [h1] at h; cases h
  · rw [h1] at h; cases h; exact ⟨hocc, rfl, hz⟩

theorem packInfo_used {used : List BlobH} {idx : List PB} {st : Stats} {pi : PackInfoResult}
    (h : packInfoFromIndex used idx st = .ok pi) (p : ID) :
    ub pi.ip p = (idx.zip pi.marks).countP (usedP (countPass used idx).f p) := by
  obtain ⟨-, rfl, z, hz, hI⟩ := packInfo_ok h
  rw [hI.zip hz]; exact hI.booked.used p

theorem packInfo_one {used : List BlobH} {idx : List PB} {st : Stats} {pi : PackInfoResult}
    (h : packInfoFromIndex used idx st = .ok pi) (b : BlobH) :
    (idx.zip pi.marks).countP (usedMark (countPass used idx).f b) = if b ∈ used then 1 else 0 := by
  obtain ⟨hocc, rfl, z, hz, hI⟩ := packInfo_ok h
  -- the entries of `b` counted as used: all of them when `b` is single, the marked one otherwise
  have hum : z.countP (usedMark (countPass used idx).f b) =
      if (countPass used idx).f b = some 1 then occ b idx else z.countP (markedB b) := by
    by_cases h1 : (countPass used idx).f b = some 1
    · rw [if_pos h1, occ, ← List.countP_eq_length_filter, ← countP_fst hz]
      exact List.countP_congr fun xm _ => by by_cases hb : xm.1.e.blob = b <;> simp [usedMark, hb, h1]
    · rw [if_neg h1]
      exact List.countP_congr fun xm _ => by by_cases hb : xm.1.e.blob = b <;> simp [usedMark, markedB, hb, h1]
  rw [hI.zip hz, hum, hI.marked_final, countPass_eq]
  split
  · have := hocc b ‹_›
    by_cases h1 : min (occ b idx) 255 = 1 <;> simp [h1] <;> omega
  · rfl

theorem hdrFold_some (l : List PB) (sz : HdrS) (p : ID) (h : (sz.f p).isSome ∨ p ∈ l.map (·.pack)) :
    ((l.foldl hdrStep sz).f p).isSome :=
  foldl_seen (P := fun seen (a : HdrS) => ((sz.f p).isSome ∨ p ∈ seen.map (·.pack)) → (a.f p).isSome)
    (fun seen a x hP h => by
      by_cases hp : p = x.pack
      · simp [hdrStep, upd, hp]
      · have := hP (h.imp_right fun h => by simpa [hp] using h)
        simp [hdrStep, upd, hp, this])
    l (fun h => h.resolve_right (by simp)) h

theorem packInfo_dom {used : List BlobH} {idx : List PB} {st : Stats} {pi : PackInfoResult}
    (h : packInfoFromIndex used idx st = .ok pi) : ∀ x ∈ idx, (pi.ip x.pack).isSome := fun x hx => by
  obtain ⟨-, rfl, -⟩ := packInfo_ok h
  refine pass23_some _ _ _ _ ?_
  rw [ipOf, Option.isSome_map]
  exact hdrFold_some idx _ _ (Or.inr (List.mem_map_of_mem hx))

theorem packInfo_spec {used : List BlobH} {idx : List PB} {st : Stats} {pi : PackInfoResult}
    (h : packInfoFromIndex used idx st = .ok pi) :
    (∀ b ∈ used, ∃ pb ∈ idx, pb.e.blob = b ∧ 1 ≤ ub pi.ip pb.pack) ∧
    (∀ pb ∈ idx, (pi.ip pb.pack).isSome) := by
  refine ⟨fun b hb => ?_, packInfo_dom h⟩
  have h1 : 0 < (idx.zip pi.marks).countP (usedMark (countPass used idx).f b) := by
    rw [packInfo_one h, if_pos hb]; exact Nat.one_pos
  obtain ⟨xm, hxm, hu⟩ := List.countP_pos_iff.mp h1
  obtain ⟨hxb, hu⟩ := usedMark_iff.mp hu
  refine ⟨xm.1, (List.of_mem_zip hxm).1, hxb, ?_⟩
  rw [packInfo_used h]
  exact List.countP_pos_iff.mpr ⟨xm, hxm, by rw [usedP, beq_self_eq_true, Bool.true_and, Bool.or_eq_true]; exact hu⟩

theorem packInfo_no_panic (used : List BlobH) (idx : List PB) (st : Stats) :
    packInfoFromIndex used idx st ≠ .error .panicSelection := by
  rcases packInfo_cases used idx st with ⟨h, -⟩ | ⟨-, h, -⟩ <;> rw [h] <;> simp

theorem packInfo_total {used : List BlobH} {idx : List PB} {st : Stats} {pi : PackInfoResult}
    (h : packInfoFromIndex used idx st = .ok pi) :
    pi.st.bUsed + pi.st.bDup + pi.st.bUnused = st.bUsed + st.bDup + st.bUnused + idx.length := by
  obtain ⟨-, rfl, z, hz, hI⟩ := packInfo_ok h
  simpa [← hz] using hI.booked.total

structure Account (used : List BlobH) (idx : List PB) (st : Stats) (pi : PackInfoResult) : Prop where
  len : pi.marks.length = idx.length
  unused : ∀ p, un pi.ip p = (idx.zip pi.marks).countP (unmarkedP (countPass used idx).f p)
  one : ∀ b ∈ used, (idx.zip pi.marks).countP (usedMark (countPass used idx).f b) = 1
  zero : ∀ b, b ∉ used → (idx.zip pi.marks).countP (usedMark (countPass used idx).f b) = 0
  marked : ∀ b, (idx.zip pi.marks).countP (markedB b) =
    match (countPass used idx).f b with | none => 0 | some n => if n = 1 then 0 else 1
  bUsed : pi.st.bUsed = st.bUsed + idx.countP (isSingle (countPass used idx).f) + (idx.zip pi.marks).countP (fun xm => xm.2)
  bDup : pi.st.bDup = (idx.zip pi.marks).countP (fun xm => isDup (countPass used idx).f xm.1 && !xm.2)
  bUnused : pi.st.bUnused = st.bUnused + idx.countP (isFree (countPass used idx).f)

theorem packInfo_account {used : List BlobH} {idx : List PB} {st : Stats} {pi : PackInfoResult}
    (h : packInfoFromIndex used idx st = .ok pi) (hst : st.bDup = 0) : Account used idx st pi := by
  have hone := packInfo_one h
  obtain ⟨-, rfl, z, hz, hI⟩ := packInfo_ok h
  generalize pass23 (countPass used idx) idx st = s at hI hone ⊢
  have hB := hI.booked
  refine {
    len := by simp [← hz, hI.marks]
    one := fun b hb => (hone b).trans (if_pos hb)
    zero := fun b hb => (hone b).trans (if_neg hb)
    unused := fun p => ?_, marked := fun b => ?_, bUsed := ?_, bDup := ?_, bUnused := ?_ } <;> simp only [hI.zip hz]
  · exact hB.unused p
  · exact hI.marked_final b
  · simpa [countP_fst hz] using hB.bUsed
  · simpa [hst] using hB.bDup
  · simpa [countP_fst hz] using hB.bUnused

end Restic.Proofs.C10Account
