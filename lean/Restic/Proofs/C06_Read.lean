import Restic.Proofs.C06_Bytes
import Restic.Proofs.Basics
/-!
C06 helper lemmas: `readRecords` / `readHeader` (eager read, second read) compute exactly the
`hlen` bytes in front of the length field, for every claimed size, and never slice out of range.
-/
namespace Restic.Proofs.C06
open Restic.Model.Pack Restic.Gen

theorem readAt_tail (file : Bytes) (bs : Nat) (h : bs ≤ file.length) :
    readAt file (file.length - bs) bs = some (file.drop (file.length - bs)) := by
  unfold readAt
  rw [if_pos (by omega), List.take_of_length_le]
  rw [List.length_drop]; omega

/-- the simple reading of a pack trailer: the `hlen` bytes in front of the 4-byte length field,
with the guards of `readHeader`/`readRecords` -/
def headerOf (file : Bytes) : Res Bytes :=
  let n := file.length
  if n < pack_minFileSize then .err .fileTooShort else
  let hlen := unle32 (file.drop (n - pack_headerLengthSize))
  if hlen = 0 then .err .hlenZero
  else if hlen < crypto_Extension then .err .hlenTooShort
  else if hlen + pack_headerLengthSize > n then .err .hlenLargerThanFile
  else if hlen + pack_headerLengthSize > pack_MaxHeaderSize then .err .hlenLargerThanMax
  else .ok ((file.drop (n - pack_headerLengthSize - hlen)).take hlen)

/-- the guards of `headerOf` in source order, one field each: what reaches the guard and what it returns -/
structure Ladder (file : Bytes) (n hlen : Nat) : Prop where
  fileTooShort : n < pack_minFileSize → headerOf file = .err .fileTooShort
  hlenZero : pack_minFileSize ≤ n → hlen = 0 → headerOf file = .err .hlenZero
  hlenTooShort : pack_minFileSize ≤ n → 0 < hlen → hlen < crypto_Extension → headerOf file = .err .hlenTooShort
  hlenLargerThanFile : pack_minFileSize ≤ n → crypto_Extension ≤ hlen → n < hlen + pack_headerLengthSize →
    headerOf file = .err .hlenLargerThanFile
  fits : pack_minFileSize ≤ n → crypto_Extension ≤ hlen → hlen + pack_headerLengthSize ≤ n →
    headerOf file = if hlen + pack_headerLengthSize > pack_MaxHeaderSize then .err .hlenLargerThanMax
      else .ok ((file.drop (n - pack_headerLengthSize - hlen)).take hlen)

theorem headerOf_ladder (file : Bytes) :
    Ladder file file.length (unle32 (file.drop (file.length - pack_headerLengthSize))) := by
  have ne0 {h : Nat} (he : crypto_Extension ≤ h) : h ≠ 0 := Nat.ne_of_gt (Nat.lt_of_lt_of_le (by decide) he)
  exact {
    fileTooShort := fun h => if_pos h
    hlenZero := fun hn h0 => (if_neg (Nat.not_lt.2 hn)).trans (if_pos h0)
    hlenTooShort := fun hn h0 h1 => (if_neg (Nat.not_lt.2 hn)).trans <| (if_neg (Nat.ne_of_gt h0)).trans (if_pos h1)
    hlenLargerThanFile := fun hn he h2 => (if_neg (Nat.not_lt.2 hn)).trans <| (if_neg (ne0 he)).trans <|
      (if_neg (Nat.not_lt.2 he)).trans (if_pos h2)
    fits := fun hn he h2 => (if_neg (Nat.not_lt.2 hn)).trans <| (if_neg (ne0 he)).trans <|
      (if_neg (Nat.not_lt.2 he)).trans (if_neg (Nat.not_lt.2 h2)) }

/-- what the five guards leave: a guard's error, or the window that is returned, with `file` cut around it -/
def HeaderRead (file : Bytes) (r : Res Bytes) : Prop :=
  (r = .err .fileTooShort ∨ r = .err .hlenZero ∨ r = .err .hlenTooShort ∨
    r = .err .hlenLargerThanFile ∨ r = .err .hlenLargerThanMax) ∨
  ∃ buf pre, r = .ok buf ∧ file = pre ++ buf ++ le32 buf.length ∧ crypto_Extension ≤ buf.length ∧
    buf.length + pack_headerLengthSize ≤ pack_MaxHeaderSize

theorem headerOf_split (file : Bytes) : HeaderRead file (headerOf file) := by
  -- one step per guard, in source order; `headerOf` is matched up to unfolding
  refine iteInduction (motive := HeaderRead file) (fun _ => .inl (.inl rfl)) fun _ => ?_
  refine iteInduction (motive := HeaderRead file) (fun _ => .inl (.inr (.inl rfl))) fun _ => ?_
  refine iteInduction (motive := HeaderRead file) (fun _ => .inl (.inr (.inr (.inl rfl)))) fun c2 => ?_
  refine iteInduction (motive := HeaderRead file) (fun _ => .inl (.inr (.inr (.inr (.inl rfl))))) fun c3 => ?_
  refine iteInduction (motive := HeaderRead file) (fun _ => .inl (.inr (.inr (.inr (.inr rfl))))) fun c4 => ?_
  generalize hh : unle32 (file.drop (file.length - pack_headerLengthSize)) = hlen at c2 c3 c4 ⊢
  have hl : hlen ≤ file.length - pack_headerLengthSize := Nat.le_sub_of_add_le (Nat.not_lt.1 c3)
  have h4 : (file.drop (file.length - pack_headerLengthSize)).length = 4 := by
    rw [List.length_drop, Nat.sub_sub_self (by omega), facts_layout.hls_eq]
  have hbl : ((file.drop (file.length - pack_headerLengthSize - hlen)).take hlen).length = hlen := by
    rw [List.length_take, List.length_drop, Nat.min_eq_left (by omega)]
  have hle : le32 hlen = file.drop (file.length - pack_headerLengthSize) := hh ▸ le32_unle32 _ h4
  refine .inr ⟨_, file.take (file.length - pack_headerLengthSize - hlen), rfl, ?_, hbl.symm ▸ Nat.not_lt.1 c2,
    hbl.symm ▸ Nat.not_lt.1 c4⟩
  rw [hbl, hle, List.append_assoc]
  -- `file` cut in three by `take_append_drop` twice: before the window, the window, the last four bytes
  conv => lhs; rw [← List.take_append_drop (file.length - pack_headerLengthSize - hlen) file,
    ← List.take_append_drop hlen (file.drop _), List.drop_drop, Nat.sub_add_cancel hl]

theorem _root_.Restic.Props.C06.headerOf_cases (file : Bytes) :
    (headerOf file = .err .fileTooShort ∨ headerOf file = .err .hlenZero ∨ headerOf file = .err .hlenTooShort ∨
      headerOf file = .err .hlenLargerThanFile ∨ headerOf file = .err .hlenLargerThanMax) ∨
    (∃ buf, headerOf file = .ok buf ∧ crypto_Extension ≤ buf.length) :=
  (headerOf_split file).imp id fun ⟨buf, _, h, _, hext, _⟩ => ⟨buf, h, hext⟩

theorem headerOf_ok {file buf : Bytes} (h : headerOf file = .ok buf) :
    ∃ pre, file = pre ++ buf ++ le32 buf.length ∧ crypto_Extension ≤ buf.length ∧
      buf.length + pack_headerLengthSize ≤ pack_MaxHeaderSize := by
  rcases headerOf_split file with (h' | h' | h' | h' | h') | ⟨_, pre, h', hs⟩ <;> cases h.symm.trans h'
  exact ⟨pre, hs⟩

theorem headerOf_ne_headerTooShort (file : Bytes) : headerOf file ≠ .err .headerTooShort := by
  rcases Props.C06.headerOf_cases file with (h | h | h | h | h) | ⟨_, h, _⟩ <;> rw [h] <;> nofun

theorem headerOf_ne_panic (file : Bytes) : headerOf file ≠ .panic := by
  rcases Props.C06.headerOf_cases file with (h | h | h | h | h) | ⟨_, h, _⟩ <;> rw [h] <;> nofun

theorem headerOf_trailer (pre buf : Bytes) (h32 : buf.length < 4294967296)
    (hmin : pack_minFileSize ≤ pre.length + buf.length + pack_headerLengthSize)
    (hext : crypto_Extension ≤ buf.length) :
    headerOf (pre ++ buf ++ le32 buf.length) =
      if buf.length + pack_headerLengthSize > pack_MaxHeaderSize then .err .hlenLargerThanMax else .ok buf := by
  generalize hf : pre ++ buf ++ le32 buf.length = file
  have hl : file.length = pre.length + buf.length + pack_headerLengthSize := by
    simp only [← hf, List.length_append, le32_length, facts_layout.hls_eq]
  have hlen : unle32 (file.drop (file.length - pack_headerLengthSize)) = buf.length := by
    rw [hl, Nat.add_sub_cancel, ← hf, List.drop_left' (List.length_append ..), unle32_le32_of_lt _ h32]
  have hwin : (file.drop (file.length - pack_headerLengthSize - buf.length)).take buf.length = buf := by
    rw [hl, Nat.add_sub_cancel, Nat.add_sub_cancel, ← hf, List.append_assoc, List.drop_left, List.take_left]
  have L := headerOf_ladder file
  rw [hlen] at L
  rw [L.fits (hl ▸ hmin) hext (hl ▸ Nat.le_add_left ..), hwin]

/-- `bs` is the clamped buffer size; the inner `else` is the untruncated buffer, possibly shorter
than the header: then `readHeader` reads a second time -/
theorem readRecords_eq (file : Bytes) (bufsize : Nat) (hb : pack_headerLengthSize ≤ bufsize)
    (hn : pack_headerLengthSize ≤ file.length) :
    readRecords file file.length bufsize =
      (let n := file.length
       let bs := if bufsize > n then n else bufsize
       let hlen := unle32 (file.drop (n - pack_headerLengthSize))
       if hlen = 0 then .err .hlenZero
       else if hlen < crypto_Extension then .err .hlenTooShort
       else if hlen + pack_headerLengthSize > n then .err .hlenLargerThanFile
       else if hlen + pack_headerLengthSize > pack_MaxHeaderSize then .err .hlenLargerThanMax
       else .ok (if hlen + pack_headerLengthSize < bs
                  then (file.drop (n - pack_headerLengthSize - hlen)).take hlen
                  else (file.drop (n - bs)).take (bs - pack_headerLengthSize),
                 hlen + pack_headerLengthSize)) := by
  have hmax := facts_layout.max_lt
  unfold readRecords
  simp only
  generalize hbs : (if bufsize > file.length then file.length else bufsize) = bs
  have hbsn : bs ≤ file.length := by rw [← hbs]; split <;> omega
  have hbs4 : pack_headerLengthSize ≤ bs := by rw [← hbs]; split <;> omega
  clear hbs
  simp only [readAt_tail file bs hbsn, List.length_drop, Nat.sub_sub_self hbsn, if_neg (Nat.not_lt.2 hbs4),
    List.drop_drop, Nat.sub_add_sub_cancel hbsn hbs4, List.length_take, Nat.min_eq_left (Nat.sub_le ..)]
  generalize unle32 (file.drop (file.length - pack_headerLengthSize)) = hlen
  -- the guards are the same on both sides
  refine ite_congr rfl (fun _ => rfl) fun _ => ite_congr rfl (fun _ => rfl) fun _ =>
    ite_congr rfl (fun _ => rfl) fun _ => ite_congr rfl (fun _ => rfl) fun c4 => ?_
  rw [Nat.mod_eq_of_lt (Nat.lt_of_le_of_lt (Nat.not_lt.1 c4) hmax)]
  by_cases c5 : hlen + pack_headerLengthSize < bs
  · have hle : hlen ≤ bs - pack_headerLengthSize := Nat.le_sub_of_add_le (Nat.le_of_lt c5)
    rw [if_pos c5, if_pos hle, if_pos c5, List.drop_take, List.drop_drop, Nat.sub_sub_self hle, Nat.sub_sub, Nat.sub_sub,
      Nat.sub_add_sub_cancel hbsn (Nat.add_comm .. ▸ Nat.le_of_lt c5)]
  · rw [if_neg c5, if_neg c5]

/-- `readHeader` (eager read plus optional second read) equals the simple reading -/
theorem readHeader_eq (file : Bytes) : readHeader file file.length = headerOf file := by
  unfold readHeader headerOf
  by_cases hshort : file.length < pack_minFileSize
  · simp only [if_pos hshort]
  have hn4 : pack_headerLengthSize ≤ file.length := by have := facts_layout.min_eq; omega
  have hE : pack_headerLengthSize ≤ pack_eagerEntries * pack_entrySize + pack_headerSize := by
    rw [facts_layout.headerSize_eq]; omega
  generalize pack_eagerEntries * pack_entrySize + pack_headerSize = E at hE ⊢
  simp only [if_neg hshort, readRecords_eq file E hE hn4]
  generalize hh : unle32 (file.drop (file.length - pack_headerLengthSize)) = hlen
  by_cases c1 : hlen = 0
  · simp only [if_pos c1]
  by_cases c2 : hlen < crypto_Extension
  · simp only [if_neg c1, if_pos c2]
  by_cases c3 : hlen + pack_headerLengthSize > file.length
  · simp only [if_neg c1, if_neg c2, if_pos c3]
  by_cases c4 : hlen + pack_headerLengthSize > pack_MaxHeaderSize
  · simp only [if_neg c1, if_neg c2, if_neg c3, if_pos c4]
  simp only [if_neg c1, if_neg c2, if_neg c3, if_neg c4]
  by_cases hle : hlen + pack_headerLengthSize ≤ E
  · -- the eager read sufficed: its buffer was truncated to the header, or was exactly as long
    rw [if_pos hle]
    generalize hbs : (if E > file.length then file.length else E) = bs
    by_cases c5 : hlen + pack_headerLengthSize < bs
    · rw [if_pos c5]
    · have hbs3 : bs = E ∨ bs = file.length := by rw [← hbs]; split <;> simp only [true_or, or_true]
      have hbe : bs = hlen + pack_headerLengthSize := by omega
      rw [if_neg c5, hbe, Nat.add_sub_cancel, Nat.sub_sub, Nat.add_comm]
  · -- second read, with a buffer of exactly the header's total length
    rw [if_neg hle, readRecords_eq file _ (Nat.le_add_left ..) hn4]
    simp only [hh, if_neg c1, if_neg c2, if_neg c3, if_neg c4]
    rw [if_neg (Nat.lt_irrefl _), Nat.add_sub_cancel, Nat.sub_sub, Nat.add_comm]

theorem readRecords_size (file : Bytes) (size bufsize : Nat) :
    readRecords file size bufsize =
      if size ≤ file.length then readRecords (file.take size) size bufsize else .err .readAt := by
  unfold readRecords
  simp only
  generalize hbs : (if bufsize > size then size else bufsize) = bs
  have hle : bs ≤ size := by rw [← hbs]; split <;> omega
  unfold readAt
  rw [Nat.sub_add_cancel hle]
  by_cases h : size ≤ file.length
  · rw [if_pos h, if_pos h, if_pos (by rw [List.length_take_of_le h]; exact Nat.le_refl _), List.drop_take,
      Nat.sub_sub_self hle, List.take_take, Nat.min_self]
  · rw [if_neg h, if_neg h]

theorem readHeader_size (file : Bytes) (size : Nat) :
    readHeader file size =
      if size < pack_minFileSize then .err .fileTooShort
      else if size ≤ file.length then headerOf (file.take size) else .err .readAt := by
  by_cases hshort : size < pack_minFileSize
  · rw [readHeader, if_pos hshort, if_pos hshort]
  rw [if_neg hshort]
  by_cases h : size ≤ file.length
  · have := readHeader_eq (file.take size)
    rw [List.length_take_of_le h] at this
    rw [if_pos h, ← this]
    unfold readHeader
    simp only [readRecords_size file, if_pos h]
  · unfold readHeader
    simp only [if_neg hshort, readRecords_size file, if_neg h]

theorem readRecords_no_panic (file : Bytes) (size bufsize : Nat)
    (hb : pack_headerLengthSize ≤ bufsize) (hs : pack_headerLengthSize ≤ size) :
    readRecords file size bufsize ≠ .panic := by
  rw [readRecords_size]
  refine ite_ne (fun h => ?_) fun _ => nofun
  have := readRecords_eq (file.take size) bufsize hb (by rw [List.length_take_of_le h]; exact hs)
  rw [List.length_take_of_le h] at this
  rw [this]
  exact ite_ne (fun _ => nofun) fun _ => ite_ne (fun _ => nofun) fun _ => ite_ne (fun _ => nofun) fun _ =>
    ite_ne (fun _ => nofun) fun _ => nofun

theorem readHeader_no_panic (file : Bytes) (size : Nat) : readHeader file size ≠ .panic := by
  rw [readHeader_size]
  exact ite_ne (fun _ => nofun) fun _ => ite_ne (fun _ => headerOf_ne_panic _) fun _ => nofun

end Restic.Proofs.C06
