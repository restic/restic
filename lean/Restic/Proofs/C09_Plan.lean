import Restic.Proofs.C10_Account
/-!
What `decidePackAction`, the `keepBlobs` loop and `planPrune` as a whole guarantee, for C09 and C10.
-/
namespace Restic.Proofs.C09Plan
open Restic.Model.Repo Restic.Model.Prune Restic.Proofs.C09Select Restic.Proofs.C10Account

theorem listStep_ok {o : Opts} {t : Nat} {s s' : D1} {id : ID} {size : Nat}
    (h : listStep o t s id size = .ok s') :
    (s.ip id = none ∧
      s' = { s with removeFirst := s.removeFirst ++ [id], st := { s.st with sUnref := s.st.sUnref + size } }) ∨
    ∃ p, s.ip id = some p ∧ s' =
      { ip := upd s.ip id none, removeFirst := s.removeFirst
        removePacks := if packAction o t p size = .remove then s.removePacks ++ [id] else s.removePacks
        cands := if packAction o t p size = .cand then s.cands ++ [⟨id, p, mustCompressOf o p⟩] else s.cands
        small := if packAction o t p size = .small then s.small ++ [⟨id, p, mustCompressOf o p⟩] else s.small
        st := listStats s.st p (packAction o t p size) } := by
  unfold listStep at h
  cases hip : s.ip id with
  | none => simp only [hip] at h; cases h; exact Or.inl ⟨rfl, rfl⟩
  | some p =>
    simp only [hip] at h
    by_cases hsz : p.unusedSize + p.usedSize ≠ size ∧ p.usedBlobs ≠ 0
    · rw [if_pos hsz] at h; cases h
    · rw [if_neg hsz] at h; cases h; exact Or.inr ⟨p, rfl, rfl⟩

theorem packAction_class (o : Opts) (t : Nat) (p : PackInfo) (size : Nat) :
    (packAction o t p size = .remove ↔ p.usedBlobs = 0) ∧
    (o.repackCacheableOnly = false → packAction o t p size ≠ .remove → packAction o t p size ≠ .cand →
      p.unusedBlobs = 0) := by
  unfold packAction
  by_cases h0 : p.usedBlobs = 0
  · exact ⟨by simp [h0], fun _ h => absurd (if_pos h0) h⟩
  rw [if_neg h0]
  by_cases h1 : o.repackCacheableOnly = true ∧ p.tpe = .data
  · rw [if_pos h1]; exact ⟨by simp [h0], fun hc => by simp [hc] at h1⟩
  rw [if_neg h1]
  by_cases h2 : p.unusedBlobs = 0 ∧ p.tpe ≠ .invalid ∧ mustCompressOf o p = false
  · rw [if_pos h2]; exact ⟨by split <;> simp [h0], fun _ _ _ => h2.1⟩
  · rw [if_neg h2]; exact ⟨by simp [h0], fun _ _ h => absurd rfl h⟩

structure SameB (a b : Stats) : Prop where
  bUsed : a.bUsed = b.bUsed
  bDup : a.bDup = b.bDup
  bUnused : a.bUnused = b.bUnused

theorem SameB.trans {a b c : Stats} (h1 : SameB a b) (h2 : SameB b c) : SameB a c :=
  ⟨h1.bUsed.trans h2.bUsed, h1.bDup.trans h2.bDup, h1.bUnused.trans h2.bUnused⟩

theorem listStats_sameB (st : Stats) (p : PackInfo) (a : Action) : SameB (listStats st p a) st := by
  have h : (listStats st p a).bUsed = st.bUsed ∧ (listStats st p a).bDup = st.bDup ∧
      (listStats st p a).bUnused = st.bUnused := by
    cases a <;>
      simp only [listStats, apply_ite Stats.bUsed, apply_ite Stats.bDup, apply_ite Stats.bUnused, ite_self, and_self]
  exact ⟨h.1, h.2.1, h.2.2⟩

/-- the listing loop after the pack ids `seen`, started with `indexPack = ip0` -/
structure Listed (o : Opts) (ip0 : IP) (st0 : Stats) (seen : List ID) (s : D1) : Prop where
  ip : ∀ q, s.ip q = if q ∈ seen then none else ip0 q
  /-- second disjunct: a pack listed twice has left `indexPack` by then and is queued as unindexed, in Go too -/
  first : ∀ q ∈ s.removeFirst, ip0 q = none ∨ ¬ seen.Nodup
  remove : ∀ q ∈ s.removePacks, q ∈ seen ∧ ub ip0 q = 0
  /-- a listed, indexed pack is removed, a repack candidate, or — unless `--repack-cacheable-only` protects
      it — free of unused blobs -/
  cls : ∀ q ∈ seen, ∀ info, ip0 q = some info →
    q ∈ s.removePacks ∨ (∃ c ∈ s.cands, c.id = q) ∨ (o.repackCacheableOnly = false → info.unusedBlobs = 0)
  stats : SameB s.st st0

theorem Listed.step {o : Opts} {t : Nat} {ip0 : IP} {st0 : Stats} {seen : List ID} {s s' : D1} {id : ID} {size : Nat}
    (hI : Listed o ip0 st0 seen s) (h : listStep o t s id size = .ok s') : Listed o ip0 st0 (seen ++ [id]) s' := by
  have hmem : ∀ q, q ∈ seen ++ [id] ↔ q ∈ seen ∨ q = id := fun q => by rw [List.mem_append, List.mem_singleton]
  have hid := hI.ip id
  have hdup : ¬ seen.Nodup → ¬ (seen ++ [id]).Nodup := fun hn hc => hn (List.nodup_append.mp hc).1
  rcases listStep_ok h with ⟨hip, rfl⟩ | ⟨p, hip, rfl⟩
  · -- not indexed, or listed before: deleted first
    rw [hip] at hid
    refine { ip := fun q => ?_, first := fun q hq => ?_,
             remove := fun q hq => ⟨(hmem q).mpr (.inl (hI.remove q hq).1), (hI.remove q hq).2⟩,
             cls := fun q hq info hi => ?_, stats := ⟨hI.stats.bUsed, hI.stats.bDup, hI.stats.bUnused⟩ }
    · by_cases e : q = id
      · rw [e, if_pos ((hmem id).mpr (.inr rfl))]; exact hip
      · rw [hI.ip q]; simp only [hmem, e, or_false]
    · rcases List.mem_append.mp hq with hq | hq
      · exact (hI.first q hq).imp_right hdup
      · obtain rfl := List.mem_singleton.mp hq
        by_cases e : q ∈ seen
        · exact .inr fun hc => (List.nodup_append.mp hc).2.2 q e q (List.mem_singleton_self q) rfl
        · exact .inl (by rw [if_neg e] at hid; exact hid.symm)
    · rcases (hmem q).mp hq with hq | rfl
      · exact hI.cls q hq info hi
      · by_cases e : q ∈ seen
        · exact hI.cls q e info hi
        · rw [if_neg e, hi] at hid; cases hid
  · -- indexed and listed for the first time: classified by `packAction`
    have hns : id ∉ seen := fun e => by rw [if_pos e, hip] at hid; cases hid
    rw [if_neg hns, hip] at hid
    obtain ⟨hrm, hnw⟩ := packAction_class o t p size
    have grow : ∀ {α : Type} (c : Prop) [Decidable c] (l m : List α) (x : α), x ∈ l → x ∈ if c then l ++ m else l :=
      fun c _ l m x hx => by split; exact List.mem_append_left _ hx; exact hx
    refine { ip := fun q => ?_, first := fun q hq => (hI.first q hq).imp_right hdup, remove := fun q hq => ?_,
             cls := fun q hq info hi => ?_, stats := (listStats_sameB _ _ _).trans hI.stats }
    · show upd s.ip id none q = _
      by_cases e : q = id
      · rw [e, if_pos ((hmem id).mpr (.inr rfl))]; exact if_pos rfl
      · rw [upd, if_neg e, hI.ip q]; simp only [hmem, e, or_false]
    · by_cases ha : packAction o t p size = .remove
      · rw [if_pos ha] at hq
        rcases List.mem_append.mp hq with hq | hq
        · exact ⟨(hmem q).mpr (.inl (hI.remove q hq).1), (hI.remove q hq).2⟩
        · obtain rfl := List.mem_singleton.mp hq
          exact ⟨(hmem q).mpr (.inr rfl), by rw [ub, ← hid]; exact hrm.mp ha⟩
      · rw [if_neg ha] at hq
        exact ⟨(hmem q).mpr (.inl (hI.remove q hq).1), (hI.remove q hq).2⟩
    · rcases (hmem q).mp hq with hq | rfl
      · rcases hI.cls q hq info hi with h1 | ⟨c, h1, h2⟩ | h1
        · exact .inl (grow _ _ _ _ h1)
        · exact .inr (.inl ⟨c, grow _ _ _ _ h1, h2⟩)
        · exact .inr (.inr h1)
      · obtain rfl : info = p := Option.some.inj (hi.symm.trans hid.symm)
        by_cases ha : packAction o t info size = .remove
        · exact .inl (by simp [ha])
        · by_cases hb : packAction o t info size = .cand
          · exact .inr (.inl ⟨⟨q, info, mustCompressOf o info⟩, by simp [hb], rfl⟩)
          · exact .inr (.inr fun hc => hnw hc ha hb)

theorem listLoop_listed {o : Opts} {t : Nat} {ip0 : IP} {st0 : Stats} : ∀ (packs : List (ID × Nat)) (seen : List ID) (s s' : D1),
    Listed o ip0 st0 seen s → listLoop o t s packs = .ok s' → Listed o ip0 st0 (seen ++ packs.map (·.1)) s'
  | [], seen, s, s', hI, h => by
    simp only [listLoop, Except.ok.injEq] at h; subst h; simpa using hI
  | (id, size) :: rest, seen, s, s', hI, h => by
    simp only [listLoop] at h
    cases hs1 : listStep o t s id size with
    | error e => rw [hs1] at h; cases h
    | ok s1 => rw [hs1] at h; simpa using listLoop_listed rest _ s1 s' (hI.step hs1) h

/-- a missing pack that `ignoreStep` drops: indexed, without used blobs -/
def unneeded (ip : IP) (k : ID) : Bool := (ip k).any (·.usedBlobs = 0)

structure SameLists (a b : D1) : Prop where
  removeFirst : a.removeFirst = b.removeFirst
  removePacks : a.removePacks = b.removePacks
  cands : a.cands = b.cands
  small : a.small = b.small
  stats : SameB a.st b.st

theorem SameLists.trans {a b c : D1} (h1 : SameLists a b) (h2 : SameLists b c) : SameLists a c where
  removeFirst := h1.removeFirst.trans h2.removeFirst
  removePacks := h1.removePacks.trans h2.removePacks
  cands := h1.cands.trans h2.cands
  small := h1.small.trans h2.small
  stats := h1.stats.trans h2.stats

theorem ignoreStep_cases (s : D1 × List ID) (k : ID) :
    (unneeded s.1.ip k = false ∧ ignoreStep s k = s) ∨
    (unneeded s.1.ip k = true ∧ (ignoreStep s k).1.ip = upd s.1.ip k none ∧ (ignoreStep s k).2 = s.2 ++ [k] ∧
      SameLists (ignoreStep s k).1 s.1) := by
  unfold ignoreStep unneeded
  cases hc : s.1.ip k with
  | none => exact .inl ⟨rfl, rfl⟩
  | some p =>
    by_cases hu : p.usedBlobs = 0
    · exact .inr ⟨by simp [hu], by simp only [if_pos hu], by simp only [if_pos hu], by
        simp only [if_pos hu]
        exact { removeFirst := rfl, removePacks := rfl, cands := rfl, small := rfl, stats := ⟨rfl, rfl, rfl⟩ }⟩
    · exact .inl ⟨by simp [hu], if_neg hu⟩

theorem ignoreFold_eq : ∀ (keys : List ID) (s : D1 × List ID),
    (∀ q, (keys.foldl ignoreStep s).1.ip q = if q ∈ keys ∧ unneeded s.1.ip q = true then none else s.1.ip q) ∧
    (∀ q, q ∈ (keys.foldl ignoreStep s).2 ↔ q ∈ s.2 ∨ q ∈ keys ∧ unneeded s.1.ip q = true) ∧
    SameLists (keys.foldl ignoreStep s).1 s.1
  | [], s => ⟨by simp, by simp,
      { removeFirst := rfl, removePacks := rfl, cands := rfl, small := rfl, stats := ⟨rfl, rfl, rfl⟩ }⟩
  | k :: keys, s => by
    rw [List.foldl_cons]
    obtain ⟨hd, hm, hl⟩ := ignoreFold_eq keys (ignoreStep s k)
    rcases ignoreStep_cases s k with ⟨hn, he⟩ | ⟨hu, hip, h2, hl1⟩
    · rw [he] at hd hm hl ⊢
      refine ⟨fun q => ?_, fun q => ?_, hl⟩
      · rw [hd]; by_cases e : q = k
        · subst e; simp [hn]
        · simp [e]
      · rw [hm]; by_cases e : q = k
        · subst e; simp [hn]
        · simp [e]
    · -- once `k` has left `indexPack` it is no longer unneeded; the other ids are as before
      have hk : ∀ q, unneeded (ignoreStep s k).1.ip q = (decide (q ≠ k) && unneeded s.1.ip q) := fun q => by
        rw [hip]; unfold unneeded upd
        by_cases e : q = k
        · simp [e]
        · simp [e]
      refine ⟨fun q => ?_, fun q => ?_, hl.trans hl1⟩
      · rw [hd, hk, hip, upd]; by_cases e : q = k
        · subst e; simp [hu]
        · simp [e]
      · rw [hm, hk, h2, List.mem_append, List.mem_singleton, List.mem_cons]; by_cases e : q = k
        · subst e; simp [hu]
        · simp [e]

theorem selFold_mem (choice : ID → Bool) (q : ID) : ∀ (l : List Cand) (s : Stats × List ID),
    q ∈ (l.foldl (selStep choice) s).2 ↔ q ∈ s.2 ∨ ∃ c ∈ l, c.id = q ∧ choice q = true
  | [], s => by simp
  | c :: l, s => by
    rw [List.foldl_cons, selFold_mem choice q l, selStep]
    by_cases hc : choice c.id = true
    · by_cases e : c.id = q
      · subst e; simp [hc]
      · simp [hc, e, Ne.symm e]
    · by_cases e : c.id = q
      · subst e; simp [hc]
      · simp [hc, e]

theorem selFold_sameB (choice : ID → Bool) (l : List Cand) (s : Stats × List ID) :
    SameB (l.foldl (selStep choice) s).1 s.1 :=
  List.foldlRecOn l _ (motive := fun a : Stats × List ID => SameB a.1 s.1) ⟨rfl, rfl, rfl⟩ fun a ha c _ => SameB.trans (by
    unfold selStep
    split
    · unfold repackStats; simp only; split <;> exact ⟨rfl, rfl, rfl⟩
    · exact ⟨rfl, rfl, rfl⟩) ha

/-- the stages of `decidePackAction … = .ok pl`: `d` after the listing loop, `d2` with the unneeded missing packs
    dropped, `cands` and `st1` at the start of the selection loop (small packs are candidates from ten on) -/
structure Decided (o : Opts) (choice : ID → Bool) (keys : List ID) (ip : IP) (packs : List (ID × Nat)) (st : Stats)
    (pl : Plan) (d d2 : D1) (cands : List Cand) (st1 : Stats) : Prop where
  listed : listLoop o (targetPackSize o keys ip) { ip := ip, st := st } packs = .ok d
  ignored : keys.foldl ignoreStep (d, []) = (d2, pl.ignore)
  noneMissing : ∀ k ∈ keys, d2.ip k = none
  removeFirst : pl.removeFirst = d2.removeFirst
  remove : pl.remove = d2.removePacks
  repack : pl.repack = (cands.foldl (selStep choice) (st1, [])).2
  fromCands : cands = d2.cands ∨ cands = d2.cands ++ d2.small
  fromStats : SameB st1 d2.st
  stats : SameB pl.stats (cands.foldl (selStep choice) (st1, [])).1

theorem decide_ok {o : Opts} {choice : ID → Bool} {keys : List ID} {ip : IP} {packs : List (ID × Nat)}
    {st : Stats} {pl : Plan} (h : decidePackAction o choice keys ip packs st = .ok pl) :
    ∃ d d2 cands st1, Decided o choice keys ip packs st pl d d2 cands st1 := by
  unfold decidePackAction at h
  cases hd : listLoop o (targetPackSize o keys ip) { ip := ip, st := st } packs with
  | error e => simp only [hd] at h; cases h
  | ok d =>
    cases hr : keys.foldl ignoreStep (d, []) with | mk d2 ign =>
    simp only [hd, hr] at h
    by_cases hmiss : keys.any (fun k => (d2.ip k).isSome) = true
    · rw [if_pos hmiss] at h; cases h
    rw [if_neg hmiss] at h
    have hnone : ∀ k ∈ keys, d2.ip k = none := by simpa using hmiss
    by_cases hs : d2.small.length < 10
    · rw [if_pos hs] at h
      obtain rfl := Except.ok.inj h
      exact ⟨d, d2, _, _,
        { listed := hd, ignored := hr, noneMissing := hnone, removeFirst := rfl, remove := rfl, repack := rfl,
          fromCands := .inl rfl, fromStats := ⟨rfl, rfl, rfl⟩
          stats := by
            show SameB (if o.repoVersion < 2 then _ else _) _
            split <;> exact ⟨rfl, rfl, rfl⟩ }⟩
    · rw [if_neg hs] at h
      obtain rfl := Except.ok.inj h
      exact ⟨d, d2, _, _,
        { listed := hd, ignored := hr, noneMissing := hnone, removeFirst := rfl, remove := rfl, repack := rfl,
          fromCands := .inr rfl, fromStats := ⟨rfl, rfl, rfl⟩
          stats := by
            show SameB (if o.repoVersion < 2 then _ else _) _
            split <;> exact ⟨rfl, rfl, rfl⟩ }⟩

structure DecideSpec (o : Opts) (choice : ID → Bool) (keys : List ID) (ip : IP) (packs : List (ID × Nat)) (st : Stats)
    (pl : Plan) : Prop where
  remove : ∀ q ∈ pl.remove, ub ip q = 0 ∧ q ∈ packs.map (·.1)
  ignore : ∀ q ∈ pl.ignore, ub ip q = 0 ∧ q ∉ packs.map (·.1)
  covered : ∀ q ∈ keys, (ip q).isSome → q ∈ packs.map (·.1) ∨ q ∈ pl.ignore
  first : (packs.map (·.1)).Nodup → ∀ q ∈ pl.removeFirst, ip q = none
  /-- at `choice = fun _ => true` this is C10's no-waste statement -/
  cls : ∀ q ∈ packs.map (·.1), ∀ info, ip q = some info →
    q ∈ pl.remove ∨ (choice q = true → q ∈ pl.repack) ∨ (o.repackCacheableOnly = false → info.unusedBlobs = 0)
  stats : SameB pl.stats st

theorem decide_spec {o : Opts} {choice : ID → Bool} {keys : List ID} {ip : IP} {packs : List (ID × Nat)}
    {st : Stats} {pl : Plan} (h : decidePackAction o choice keys ip packs st = .ok pl) :
    DecideSpec o choice keys ip packs st pl := by
  obtain ⟨d, d2, cands, st1, D⟩ := decide_ok h
  have h0 : Listed o ip st [] { ip := ip, st := st } :=
    { ip := fun _ => rfl, first := nofun, remove := nofun, cls := nofun, stats := ⟨rfl, rfl, rfl⟩ }
  have hL : Listed o ip st (packs.map (·.1)) d := by simpa using listLoop_listed packs [] _ d h0 D.listed
  obtain ⟨gip, gmem, gl⟩ := ignoreFold_eq keys (d, [])
  rw [D.ignored] at gip gmem gl
  -- an ignored pack is indexed in `d`, hence not listed, with its entry of `ip`
  have hign : ∀ q ∈ pl.ignore, q ∈ keys ∧ q ∉ packs.map (·.1) ∧ ∃ p, ip q = some p ∧ p.usedBlobs = 0 := fun q hq => by
    obtain ⟨hk, hu⟩ := ((gmem q).mp hq).resolve_left nofun
    rw [unneeded, hL.ip q] at hu
    by_cases e : q ∈ packs.map (·.1)
    · rw [if_pos e] at hu; cases hu
    · rw [if_neg e] at hu
      cases hi : ip q with
      | none => rw [hi] at hu; cases hu
      | some p => exact ⟨hk, e, p, rfl, by simpa [hi] using hu⟩
  refine {
    remove := fun q hq => (hL.remove q (gl.removePacks ▸ D.remove ▸ hq)).symm
    ignore := fun q hq => ?_
    covered := fun q hq hsome => ?_
    first := fun hN q hq => (hL.first q (gl.removeFirst ▸ D.removeFirst ▸ hq)).resolve_right (· hN)
    cls := fun q hq info hi => ?_
    stats := D.stats.trans ((selFold_sameB choice cands (st1, [])).trans (D.fromStats.trans (gl.stats.trans hL.stats))) }
  · obtain ⟨-, e, p, hp, hu⟩ := hign q hq
    exact ⟨by rw [ub, hp]; exact hu, e⟩
  · -- `q` has left `indexPack`: through the listing, or as an unneeded missing pack
    by_cases e : q ∈ packs.map (·.1)
    · exact .inl e
    · have := D.noneMissing q hq
      rw [gip q] at this
      by_cases hu : q ∈ keys ∧ unneeded d.ip q = true
      · exact .inr ((gmem q).mpr (.inr hu))
      · rw [if_neg hu, hL.ip q, if_neg e] at this; rw [this] at hsome; cases hsome
  · rw [D.remove, gl.removePacks]
    rcases hL.cls q hq info hi with h1 | ⟨c, h1, h2⟩ | h1
    · exact .inl h1
    · refine .inr (.inl fun hc => ?_)
      rw [D.repack, selFold_mem]
      refine .inr ⟨c, ?_, h2, hc⟩
      rcases D.fromCands with e | e <;> rw [e]
      · exact gl.cands ▸ h1
      · exact List.mem_append_left _ (gl.cands ▸ h1)
    · exact .inr (.inr h1)

theorem mem_packKeys {idx : List PB} {pb : PB} (h : pb ∈ idx) : pb.pack ∈ packKeys idx :=
  List.mem_eraseDups.mpr (List.mem_map_of_mem h)

theorem planPruneG_ok {skip : Bool} {o : Opts} {choice : ID → Bool} {used : List BlobH} {idx : List PB}
    {packs : List (ID × Nat)} {pl : Plan} (h : planPruneG skip o choice used idx packs = .ok pl) :
    ∃ pi pl0, packInfoFromIndex used idx {} = .ok pi ∧
      decidePackAction o choice (packKeys idx) pi.ip packs pi.st = .ok pl0 ∧
      pl = { pl0 with keep := if pl0.repack ≠ [] then some (idx.foldl (keepStep skip pl0) used) else none,
                      stats := totals pl0.stats } := by
  unfold planPruneG at h
  by_cases h1 : o.connections < 2
  · rw [if_pos h1] at h; cases h
  by_cases h2 : o.repoVersion < 2 ∧ o.repackUncompressed = true
  · rw [if_neg h1, if_pos h2] at h; cases h
  by_cases h3 : o.smallPackBytes > o.packSize
  · rw [if_neg h1, if_neg h2, if_pos h3] at h; cases h
  rw [if_neg h1, if_neg h2, if_neg h3] at h
  cases hpi : packInfoFromIndex used idx {} with
  | error e => rw [hpi] at h; cases h
  | ok pi =>
    rw [hpi] at h
    cases hpl : decidePackAction o choice (packKeys idx) pi.ip packs pi.st with
    | error e => simp only [hpl] at h; cases h
    | ok pl0 => simp only [hpl] at h; cases h; exact ⟨pi, pl0, rfl, hpl, rfl⟩

theorem keepFold_mem (skip : Bool) (pl : Plan) (b : BlobH) : ∀ (l : List PB) (k : List BlobH),
    b ∈ l.foldl (keepStep skip pl) k ↔
      b ∈ k ∧ ∀ pb ∈ l, pb.e.blob = b → (pb.pack ∈ pl.remove ∨ pb.pack ∈ pl.repack ∨ (skip = true ∧ pb.pack ∈ pl.ignore)) := by
  intro l
  induction l with
  | nil => intro k; simp
  | cons pb l ih =>
    intro k
    simp only [List.foldl_cons, ih, List.mem_cons, forall_eq_or_imp]
    unfold keepStep
    by_cases hc : pb.pack ∈ pl.remove ∨ pb.pack ∈ pl.repack ∨ (skip = true ∧ pb.pack ∈ pl.ignore)
    · rw [if_pos hc]
      constructor
      · rintro ⟨h1, h2⟩; exact ⟨h1, fun _ => hc, h2⟩
      · rintro ⟨h1, _, h2⟩; exact ⟨h1, h2⟩
    · rw [if_neg hc]
      simp only [List.mem_filter, decide_eq_true_eq, ne_eq]
      constructor
      · rintro ⟨⟨h1, h3⟩, h2⟩; exact ⟨h1, fun hb => absurd hb.symm h3, h2⟩
      · rintro ⟨h1, h3, h2⟩
        exact ⟨⟨h1, fun hb => hc (h3 hb.symm)⟩, h2⟩

theorem keptB_eq_true {pl : Plan} {p : ID} : keptB pl p = true ↔ p ∉ pl.remove ∧ p ∉ pl.repack ∧ p ∉ pl.ignore := by
  simp [keptB, and_assoc]

theorem keptB_eq_false {pl : Plan} {p : ID} : keptB pl p = false ↔ p ∈ pl.remove ∨ p ∈ pl.repack ∨ p ∈ pl.ignore := by
  rw [← Bool.not_eq_true, keptB_eq_true, Classical.not_and_iff_not_or_not, Classical.not_and_iff_not_or_not,
    Classical.not_not, Classical.not_not, Classical.not_not]

structure Planned (used : List BlobH) (idx : List PB) (packs : List (ID × Nat)) (pl : Plan) : Prop where
  /-- the entry `packInfoFromIndex` counted as used: its pack is neither removed nor missing -/
  sel : ∀ b ∈ used, ∃ pb ∈ idx, pb.e.blob = b ∧ pb.pack ∉ pl.remove ∧ pb.pack ∉ pl.ignore
  listed : ∀ pb ∈ idx, pb.pack ∈ packs.map (·.1) ∨ pb.pack ∈ pl.ignore
  absent : ∀ q ∈ pl.ignore, q ∉ packs.map (·.1)
  first : (packs.map (·.1)).Nodup → ∀ q ∈ pl.removeFirst, ∀ pb ∈ idx, pb.pack ≠ q
  /-- `keepBlobs`: the used blobs with no entry in a pack that stays -/
  keep : ∀ b, b ∈ pl.keep.getD [] ↔ b ∈ used ∧ ∀ pb ∈ idx, pb.e.blob = b → keptB pl pb.pack = false
  keepNodup : used.Nodup → (pl.keep.getD []).Nodup

theorem keepFold_nodup (skip : Bool) (pl : Plan) (l : List PB) (k : List BlobH) (h : k.Nodup) :
    (l.foldl (keepStep skip pl) k).Nodup :=
  List.foldlRecOn l _ h fun k hk pb _ => by
    unfold keepStep
    split
    · exact hk
    · exact hk.filter _

theorem planPrune_planned {o : Opts} {choice : ID → Bool} {used : List BlobH} {idx : List PB}
    {packs : List (ID × Nat)} {pl : Plan} (h : planPrune o choice used idx packs = .ok pl) :
    Planned used idx packs pl := by
  obtain ⟨pi, pl0, hpi, hpl0, rfl⟩ := planPruneG_ok h
  obtain ⟨hsel, hdom⟩ := packInfo_spec hpi
  have D := decide_spec hpl0
  have sel : ∀ b ∈ used, ∃ pb ∈ idx, pb.e.blob = b ∧ pb.pack ∉ pl0.remove ∧ pb.pack ∉ pl0.ignore := fun b hb => by
    obtain ⟨pb, hpb, hpbb, hu⟩ := hsel b hb
    exact ⟨pb, hpb, hpbb, fun hc => by have := (D.remove _ hc).1; omega, fun hc => by have := (D.ignore _ hc).1; omega⟩
  refine {
    sel
    listed := fun pb hpb => D.covered _ (mem_packKeys hpb) (hdom pb hpb)
    absent := fun q hq => (D.ignore q hq).2
    first := fun hN q hq pb hpb e => ?_
    keep := fun b => ?_
    keepNodup := fun hnd => ?_ }
  · have := hdom pb hpb; rw [e, D.first hN q hq] at this; cases this
  · show b ∈ (if pl0.repack ≠ [] then some (idx.foldl (keepStep true pl0) used) else none).getD [] ↔
      b ∈ used ∧ ∀ pb ∈ idx, pb.e.blob = b → keptB pl0 pb.pack = false
    by_cases hr : pl0.repack = []
    · -- nothing is repacked: the selected entry of a used blob stays
      rw [if_neg fun h => h hr]
      refine ⟨nofun, fun ⟨hb, hall⟩ => ?_⟩
      obtain ⟨pb, hpb, hpbb, h1, h3⟩ := sel b hb
      rcases keptB_eq_false.mp (hall pb hpb hpbb) with h | h | h
      · exact absurd h h1
      · rw [hr] at h; cases h
      · exact absurd h h3
    · rw [if_pos hr, Option.getD_some, keepFold_mem]
      simp only [keptB_eq_false, eq_self, true_and]
  · show ((if pl0.repack ≠ [] then some (idx.foldl (keepStep true pl0) used) else none).getD []).Nodup
    split
    · exact keepFold_nodup true pl0 idx used hnd
    · exact List.nodup_nil

theorem hasCopyOutside_iff {idx : List PB} {packs : List (ID × Nat)} {avoid : List ID} {b : BlobH} :
    hasCopyOutside idx packs avoid b = true ↔ ∃ pb ∈ idx, pb.e.blob = b ∧ pb.pack ∉ avoid ∧ pb.pack ∈ packs.map (·.1) := by
  simp only [hasCopyOutside, List.any_eq_true, Bool.and_eq_true, decide_eq_true_eq, Bool.not_eq_true', List.contains_eq_mem,
    decide_eq_false_iff_not, List.mem_map, and_assoc]

theorem hasCopyIn_iff {idx : List PB} {packs : List (ID × Nat)} {within : List ID} {b : BlobH} :
    hasCopyIn idx packs within b = true ↔ ∃ pb ∈ idx, pb.e.blob = b ∧ pb.pack ∈ within ∧ pb.pack ∈ packs.map (·.1) := by
  simp only [hasCopyIn, List.any_eq_true, Bool.and_eq_true, decide_eq_true_eq, List.contains_eq_mem, List.mem_map, and_assoc]

theorem planOK_iff {used : List BlobH} {idx : List PB} {packs : List (ID × Nat)} {pl : Plan} :
    planOK used idx packs pl = true ↔
      (∀ p ∈ pl.removeFirst, ∀ pb ∈ idx, pb.pack ≠ p) ∧ (∀ p ∈ pl.ignore, p ∉ packs.map (·.1)) ∧
      ∀ b ∈ used, if b ∈ pl.keep.getD [] then hasCopyIn idx packs pl.repack b = true
        else hasCopyOutside idx packs (pl.remove ++ pl.repack) b = true := by
  unfold planOK
  rw [Bool.and_eq_true, Bool.and_eq_true, and_assoc]
  refine and_congr ?_ (and_congr ?_ ?_)
  · simp only [List.all_eq_true, Bool.not_eq_true', List.any_eq_false, decide_eq_true_eq, ne_eq]
  · simp only [List.all_eq_true, Bool.not_eq_true', ← Bool.not_eq_true, List.any_eq_true, decide_eq_true_eq, List.mem_map]
  · rw [List.all_eq_true]
    refine forall_congr' fun b => forall_congr' fun _ => ?_
    cases pl.keep with
    | none => simp
    | some k => by_cases hb : b ∈ k <;> simp [hb]

end Restic.Proofs.C09Plan
