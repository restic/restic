import Restic.Proofs.C10_Account
import Restic.Proofs.C09_Plan
/-! What only the full prune (C10) needs of `C10_Account` and `C09_Plan`. -/
namespace Restic.Proofs.C10Plan
open Restic.Model.Repo Restic.Model.Prune Restic.Proofs.C09Plan

/-- `fun _ => true`: what `--max-unused 0` without repack limit forces; `hc`: `--repack-cacheable-only`
    protects data packs that have unused blobs -/
theorem decide_full_no_waste {o : Opts} {keys : List ID} {ip : IP} {packs : List (ID × Nat)} {st : Stats} {pl : Plan}
    (hc : o.repackCacheableOnly = false)
    (h : decidePackAction o (fun _ => true) keys ip packs st = .ok pl) :
    ∀ id ∈ packs.map (·.1), ∀ info, ip id = some info →
      id ∈ pl.remove ∨ id ∈ pl.repack ∨ info.unusedBlobs = 0 := fun id hid info hi =>
  ((decide_spec h).cls id hid info hi).imp_right (.imp (· rfl) (· hc))

end Restic.Proofs.C10Plan

namespace Restic.Proofs.C10Exact
open Restic.Model.Repo Restic.Model.Prune
open Restic.Proofs.C09Select Restic.Proofs.C09Plan Restic.Proofs.C10Plan Restic.Proofs.C10Account

/-- In a full prune every entry of a pack that stays is the single or the selected entry of its blob -/
theorem kept_count_le {o : Opts} {used : List BlobH} {idx : List PB} {packs : List (ID × Nat)} {pl : Plan}
    (hc : o.repackCacheableOnly = false) (h : planPrune o (fun _ => true) used idx packs = .ok pl) (b : BlobH) :
    (idx.countP fun x => x.e.blob == b && keptB pl x.pack) ≤ if b ∈ used then 1 else 0 := by
  have P := planPrune_planned h
  obtain ⟨pi, pl0, hpi, hpl0, rfl⟩ := planPruneG_ok h
  have nw := decide_full_no_waste (pl := pl0) hc hpl0
  have acc := packInfo_account hpi rfl
  rw [← packInfo_one hpi b, ← countP_zip_fst idx pi.marks acc.len]
  refine List.countP_mono_left fun xm hxm hp => ?_
  rw [Bool.and_eq_true, beq_iff_eq] at hp
  have hx := (List.of_mem_zip hxm).1
  obtain ⟨k1, k2, k3⟩ := keptB_eq_true.mp hp.2
  obtain ⟨info, hi⟩ := Option.isSome_iff_exists.mp (packInfo_dom hpi xm.1 hx)
  have h0 : un pi.ip xm.1.pack = 0 := by
    rw [un, hi]
    exact ((nw _ ((P.listed _ hx).resolve_right k3) info hi).resolve_left k1).resolve_left k2
  rw [acc.unused, List.countP_eq_zero] at h0
  -- not counted as unused in its pack: single or marked
  have := fun hu => h0 xm hxm (unmarkedP_iff.mpr hu)
  refine usedMark_iff.mpr ⟨hp.1, ?_⟩
  by_cases hs : isSingle (countPass used idx).f xm.1 = true
  · exact Or.inl hs
  · exact Or.inr (Bool.of_not_eq_false fun hm => this ⟨rfl, Bool.eq_false_iff.mpr hs, hm⟩)

theorem full_prune_exact {o : Opts} {used : List BlobH} {idx : List PB} {packs : List (ID × Nat)} {pl : Plan}
    (hnd : used.Nodup) (hc : o.repackCacheableOnly = false)
    (h : planPrune o (fun _ => true) used idx packs = .ok pl) :
    (∀ b ∈ afterBlobs pl idx, b ∈ used) ∧ (∀ b ∈ used, (afterBlobs pl idx).count b = 1) ∧
    (∀ x ∈ idx, keptB pl x.pack = true → x.pack ∈ packs.map (·.1)) := by
  have P := planPrune_planned h
  have hab : ∀ b, (afterBlobs pl idx).count b =
      (idx.countP fun x => x.e.blob == b && keptB pl x.pack) + (pl.keep.getD []).count b := fun b => by
    rw [afterBlobs, List.count_append, count_filter_map]
  refine ⟨fun b hb => ?_, fun b hb => ?_, fun x hx hk => (P.listed x hx).resolve_right (keptB_eq_true.mp hk).2.2⟩
  · -- an entry that stays belongs to a used blob, and only used blobs are repacked
    have h1 := kept_count_le hc h b
    have h2 := hab b ▸ List.count_pos_iff.mpr hb
    refine Classical.byContradiction fun hbu => ?_
    rw [if_neg hbu] at h1
    exact hbu ((P.keep b).mp (List.count_pos_iff.mp (by omega))).1
  · -- `b` is repacked (once) iff it has no entry in a pack that stays; otherwise it has exactly one there
    have hle := kept_count_le hc h b
    rw [hab b, if_pos hb, (P.keepNodup hnd).count] at *
    by_cases hk : b ∈ pl.keep.getD []
    · have : (idx.countP fun x => x.e.blob == b && keptB pl x.pack) = 0 := List.countP_eq_zero.mpr fun x hx hp => by
        rw [Bool.and_eq_true, beq_iff_eq] at hp
        exact Bool.false_ne_true (((P.keep b).mp hk).2 x hx hp.1 ▸ hp.2)
      rw [this, if_pos hk]
    · have : ∃ x ∈ idx, x.e.blob = b ∧ keptB pl x.pack = true := Classical.byContradiction fun hn =>
        hk ((P.keep b).mpr ⟨hb, fun x hx hxb => Bool.eq_false_iff.mpr fun hc => hn ⟨x, hx, hxb, hc⟩⟩)
      obtain ⟨x, hx, hxb, hxk⟩ := this
      have : 1 ≤ idx.countP fun x => x.e.blob == b && keptB pl x.pack :=
        List.countP_pos_iff.mpr ⟨x, hx, by simp [hxk, hxb]⟩
      rw [if_neg hk]; omega

end Restic.Proofs.C10Exact

namespace Restic.Proofs.C10Stats
open Restic.Model.Repo Restic.Model.Prune Restic.Proofs.C09Select Restic.Proofs.C10Account

theorem countP_or {α : Type} (l : List α) (p q : α → Bool) (h : ∀ x ∈ l, p x = true → q x = false) :
    l.countP (fun x => p x || q x) = l.countP p + l.countP q := by
  induction l with
  | nil => rfl
  | cons x l ih =>
    have hx := h x List.mem_cons_self
    simp only [List.countP_cons, ih fun y hy => h y (List.mem_cons_of_mem _ hy)]
    cases hp : p x <;> cases hq : q x <;> simp [hp, hq] at hx ⊢ <;> omega

theorem blob_stats {used : List BlobH} {idx : List PB} {pi : PackInfoResult}
    (hnd : used.Nodup) (h : packInfoFromIndex used idx {} = .ok pi) :
    pi.st.bUsed = used.length ∧
    pi.st.bUnused = idx.countP (fun x => !(used.contains x.e.blob)) ∧
    pi.st.bUsed + pi.st.bDup + pi.st.bUnused = idx.length := by
  have acc := packInfo_account h rfl
  obtain ⟨hocc, -⟩ := packInfo_ok h
  refine ⟨?_, ?_, by simpa using packInfo_total h⟩
  · -- the entries counted as used, mapped to their blobs, are a permutation of `used`
    have hperm : (((idx.zip pi.marks).filter fun xm => isSingle (countPass used idx).f xm.1 || xm.2).map
        (·.1.e.blob)).Perm used := by
      rw [List.perm_iff_count]; intro b
      rw [count_filter_map, hnd.count]
      exact packInfo_one h b
    -- a single entry is never marked
    have hsm : ∀ xm ∈ idx.zip pi.marks, isSingle (countPass used idx).f xm.1 = true → xm.2 = false := by
      intro xm hxm hs
      have hm := acc.marked xm.1.e.blob
      rw [beq_iff_eq.mp hs] at hm
      simpa [markedB] using List.countP_eq_zero.mp hm xm hxm
    rw [← hperm.length_eq, List.length_map, ← List.countP_eq_length_filter, countP_or _ _ _ hsm,
      countP_zip_fst idx pi.marks acc.len, acc.bUsed, show ({} : Stats).bUsed = 0 from rfl, Nat.zero_add]
  · rw [acc.bUnused, show ({} : Stats).bUnused = 0 from rfl, Nat.zero_add]
    refine List.countP_congr fun x _ => ?_
    rw [isFree, isSingle, isDup, countPass_eq]
    by_cases hb : x.e.blob ∈ used
    · have := hocc _ hb
      by_cases h1 : min (occ x.e.blob idx) 255 = 1 <;> simp [hb, h1] <;> omega
    · simp [hb]

end Restic.Proofs.C10Stats
