import Restic.Model.IndexMap
/-!
# C56: the hashed array tree refines an array

`HATWF` is the representation invariant. Under it `Ref pos` succeeds for `pos < size` and returns
`peek pos`; `set` changes exactly one position; `preallocate`/`grow` (block size doubling with
pairwise block merging) keep every stored entry at its position; `Alloc` returns position `size`.
-/
namespace Restic.Proofs.C56
open Restic.Model.IndexMap

structure HATWF (h : HAT) : Prop where
  bs : h.blockSize = 2 ^ h.maskShift
  /-- so that the block list has even length and `growStep` merges it in pairs -/
  shift : 1 ≤ h.maskShift
  mask : h.mask = h.blockSize - 1
  len : h.blockList.length = h.blockSize
  blen : ∀ (i : Nat) (b : Block), h.blockList[i]? = some (some b) → b.length = h.blockSize
  /-- the blocks covering positions below `size` are allocated: what makes `Ref` succeed there -/
  blocks : ∀ i, i * h.blockSize < h.size → ∃ b, h.blockList[i]? = some (some b)

theorem HATWF.bs_pos {h : HAT} (wf : HATWF h) : 0 < h.blockSize := by
  rw [wf.bs]; exact Nat.two_pow_pos _

theorem HATWF.index_eq {h : HAT} (wf : HATWF h) (pos : Nat) :
    h.index pos = (pos / h.blockSize, pos % h.blockSize) := by
  simp only [HAT.index, wf.mask, wf.bs, Nat.shiftRight_eq_div_pow, Nat.and_two_pow_sub_one_eq_mod]

theorem newHAT_wf : HATWF newHAT := by
  refine ⟨by decide, by decide, by decide, by decide, ?_, ?_⟩
  · intro i b h
    simp only [newHAT, Nat.shiftLeft_eq, List.getElem?_replicate] at h
    split at h <;> simp at h
  · intro i h
    simp [newHAT] at h

/-- block `i` of a block list, `[]` for `nil`/missing blocks -/
def blk (l : List (Option Block)) (i : Nat) : Block :=
  match l[i]? with
  | some (some b) => b
  | _ => []

theorem blk_of_some {l : List (Option Block)} {i : Nat} {b : Block} (h : l[i]? = some (some b)) : blk l i = b := by
  unfold blk; rw [h]

theorem HATWF.peek_blk {h : HAT} (wf : HATWF h) (q : Nat) :
    h.peek q = (blk h.blockList (q / h.blockSize))[q % h.blockSize]? := by
  unfold HAT.peek blk
  rw [wf.index_eq]
  dsimp only
  cases h.blockList[q / h.blockSize]? with
  | none => rfl
  | some o => cases o <;> rfl

theorem HATWF.peek_of_block {h : HAT} (wf : HATWF h) {q : Nat} {b : Block}
    (hb : h.blockList[q / h.blockSize]? = some (some b)) : h.peek q = b[q % h.blockSize]? := by
  rw [wf.peek_blk, blk_of_some hb]

theorem HATWF.peek_some {h : HAT} (wf : HATWF h) {pos : Nat} (hp : pos < h.size) :
    ∃ e, h.peek pos = some e := by
  obtain ⟨b, hb⟩ := wf.blocks _ (Nat.lt_of_le_of_lt (Nat.div_mul_le_self pos h.blockSize) hp)
  have : pos % h.blockSize < b.length := by rw [wf.blen _ _ hb]; exact Nat.mod_lt _ wf.bs_pos
  exact ⟨b[pos % h.blockSize], by rw [wf.peek_of_block hb, List.getElem?_eq_getElem this]⟩

theorem ref_of_peek {hat : HAT} {p : Nat} {e : Entry} (hs : p < hat.size) (he : hat.peek p = some e) :
    hat.ref p = .ok e := by
  unfold HAT.ref
  rw [if_neg (by omega), he]

theorem HATWF.ref_eq {h : HAT} (wf : HATWF h) {pos : Nat} (hp : pos < h.size) :
    ∃ e, h.ref pos = .ok e ∧ h.peek pos = some e := by
  obtain ⟨e, he⟩ := wf.peek_some hp
  exact ⟨e, ref_of_peek hp he, he⟩

theorem ref_ok_peek {h : HAT} {pos : Nat} {e : Entry} (hr : h.ref pos = .ok e) :
    h.peek pos = some e ∧ pos < h.size := by
  unfold HAT.ref at hr
  by_cases hp : pos ≥ h.size
  · rw [if_pos hp] at hr; cases hr
  · rw [if_neg hp] at hr
    cases he : h.peek pos with
    | none => rw [he] at hr; cases hr
    | some e' => rw [he] at hr; cases hr; exact ⟨rfl, Nat.lt_of_not_le hp⟩

theorem HATWF.setBlock {h : HAT} (wf : HATWF h) {i : Nat} (hi : i < h.blockList.length) {b : Block}
    (hb : b.length = h.blockSize) : HATWF { h with blockList := h.blockList.set i (some b) } := by
  refine ⟨wf.bs, wf.shift, wf.mask, List.length_set.trans wf.len, fun j b' hj => ?_, fun j hj => ?_⟩
  · by_cases hij : i = j
    · cases hij
      cases (List.getElem?_set_self hi).symm.trans hj
      exact hb
    · exact wf.blen _ _ ((List.getElem?_set_ne hij).symm.trans hj)
  · by_cases hij : i = j
    · exact ⟨b, hij ▸ List.getElem?_set_self hi⟩
    · exact (List.getElem?_set_ne hij).symm ▸ wf.blocks j hj

theorem HATWF.peek_setBlock {h : HAT} (wf : HATWF h) {i : Nat} (hi : i < h.blockList.length) (b : Block) (q : Nat) :
    HAT.peek { h with blockList := h.blockList.set i (some b) } q =
      if i = q / h.blockSize then b[q % h.blockSize]? else h.peek q := by
  have hidx : HAT.index { h with blockList := h.blockList.set i (some b) } q = h.index q := rfl
  unfold HAT.peek
  rw [hidx, wf.index_eq]
  dsimp only
  rw [List.getElem?_set]
  by_cases hij : i = q / h.blockSize
  · rw [if_pos hij, if_pos hi, if_pos hij]
  · rw [if_neg hij, if_neg hij]

theorem hat_set_size (h : HAT) (p : Nat) (e : Entry) : (h.set p e).size = h.size := by
  unfold HAT.set; split <;> rfl

theorem hat_set_blockSize (h : HAT) (p : Nat) (e : Entry) : (h.set p e).blockSize = h.blockSize := by
  unfold HAT.set; split <;> rfl

theorem HATWF.set {h : HAT} (wf : HATWF h) (p : Nat) (e : Entry) : HATWF (h.set p e) := by
  unfold HAT.set
  split
  · rename_i b hb
    exact wf.setBlock (List.getElem?_eq_some_iff.mp hb).1 (by rw [List.length_set]; exact wf.blen _ _ hb)
  · exact wf

theorem div_mod_inj {B p q : Nat} (h1 : p / B = q / B) (h2 : p % B = q % B) : p = q := by
  rw [← Nat.div_add_mod p B, ← Nat.div_add_mod q B, h1, h2]

theorem HATWF.peek_set {h : HAT} (wf : HATWF h) (p q : Nat) (e : Entry) :
    (h.set p e).peek q = if q = p then (h.peek p).map (fun _ => e) else h.peek q := by
  unfold HAT.set
  rw [wf.index_eq]
  split
  · rename_i b hb
    dsimp only at hb
    rw [wf.peek_setBlock (List.getElem?_eq_some_iff.mp hb).1, wf.peek_of_block hb]
    by_cases hqp : q = p
    · subst hqp
      rw [if_pos rfl, if_pos rfl, List.getElem?_set_self']
      rfl
    · rw [if_neg hqp]
      by_cases hd : p / h.blockSize = q / h.blockSize
      · rw [if_pos hd, List.getElem?_set_ne (fun hm => hqp (div_mod_inj hd hm).symm), wf.peek_of_block (hd ▸ hb)]
      · rw [if_neg hd]
  · rename_i hn
    by_cases hqp : q = p
    · -- no block at `p`: nothing is stored there
      subst hqp
      have : h.peek q = none := by
        unfold HAT.peek
        rw [wf.index_eq]
        split
        · rename_i b hb; exact absurd hb (hn b)
        · rfl
      rw [if_pos rfl, this]
      rfl
    · rw [if_neg hqp]

theorem blk_length_le {h : HAT} (wf : HATWF h) (i : Nat) : (blk h.blockList i).length ≤ h.blockSize := by
  unfold blk
  split
  · rename_i b hb; exact Nat.le_of_eq (wf.blen i b hb)
  · exact Nat.zero_le _

theorem blk_length {h : HAT} (wf : HATWF h) (i : Nat) (hi : i * h.blockSize < h.size) :
    (blk h.blockList i).length = h.blockSize := by
  obtain ⟨b, hb⟩ := wf.blocks i hi
  rw [blk_of_some hb, wf.blen i b hb]

theorem padBlock_length (n : Nat) (b : Block) (h : b.length ≤ n) : (padBlock n b).length = n := by
  unfold padBlock
  rw [List.length_append, List.length_replicate, Nat.add_sub_cancel' h]

theorem padBlock_get (n : Nat) (b : Block) (i : Nat) (h : i < b.length) : (padBlock n b)[i]? = b[i]? :=
  List.getElem?_append_left h

theorem mergeBlocks_length_le (bs : Nat) (l : List (Option Block)) : (mergeBlocks bs l).length ≤ l.length / 2 := by
  -- the cases are the equations of `mergeBlocks`: `none :: none :: _`, `a :: b :: rest`, fewer than two blocks
  fun_induction mergeBlocks bs l with
  | case1 => exact Nat.zero_le _
  | case2 a b rest _ ih =>
    show _ + 1 ≤ (rest.length + 2) / 2
    rw [Nat.add_div_right _ Nat.two_pos]
    exact Nat.succ_le_succ ih
  | case3 => exact Nat.zero_le _

theorem mergeBlocks_getElem? (bs : Nat) (l : List (Option Block)) : ∀ (j : Nat) (x : Option Block),
    (mergeBlocks bs l)[j]? = some x → x = some (padBlock bs (blk l (2 * j) ++ blk l (2 * j + 1))) := by
  fun_induction mergeBlocks bs l with
  | case1 => intro j x h; cases h
  | case2 a b rest _ ih =>
    intro j x h
    cases j with
    | zero => cases h; cases a <;> cases b <;> rfl
    | succ j => exact ih j x h
  | case3 => intro j x h; cases h

/-- merging does not stop before a pair whose first block is allocated -/
theorem lt_mergeBlocks_length (bs : Nat) (l : List (Option Block)) : ∀ j : Nat, l.length % 2 = 0 →
    (∀ j', j' ≤ j → ∃ b, l[2 * j']? = some (some b)) → j < (mergeBlocks bs l).length := by
  fun_induction mergeBlocks bs l with
  | case1 => intro j _ h; obtain ⟨b, hb⟩ := h 0 (Nat.zero_le _); cases hb
  | case2 a b rest _ ih =>
    intro j hl h
    cases j with
    | zero => exact Nat.zero_lt_succ _
    | succ j =>
      exact Nat.succ_lt_succ (ih j ((Nat.add_mod_right _ 2).symm.trans hl) fun j' hj' => h (j' + 1) (Nat.succ_le_succ hj'))
  | case3 l _ h2 =>
    -- the catch-all equation; `h2` says that `l` is not of the form `a :: b :: rest`
    intro j hl h
    obtain ⟨b, hb⟩ := h 0 (Nat.zero_le _)
    cases l with
    | nil => cases hb
    | cons a l =>
      cases l with
      | nil => cases hl
      | cons b rest => exact (h2 _ _ _ rfl).elim

theorem hat_growStep_size (h : HAT) : h.growStep.size = h.size := rfl

theorem hat_growStep_blockSize (h : HAT) : h.growStep.blockSize = h.blockSize * 2 := rfl

theorem HATWF.growStep_blocks {h : HAT} (wf : HATWF h) (j : Nat) (hj : j * (h.blockSize * 2) < h.size) :
    h.growStep.blockList[j]? =
      some (some (padBlock (h.blockSize * 2) (blk h.blockList (2 * j) ++ blk h.blockList (2 * j + 1)))) := by
  have heven : h.blockList.length % 2 = 0 := by
    obtain ⟨k, hk⟩ := Nat.exists_eq_add_of_le' wf.shift
    rw [wf.len, wf.bs, hk, Nat.pow_succ]
    exact Nat.mul_mod_left _ _
  have hlt := lt_mergeBlocks_length (h.blockSize * 2) h.blockList j heven fun j' hj' =>
    wf.blocks _ <| calc 2 * j' * h.blockSize = j' * (h.blockSize * 2) := by rw [Nat.mul_comm 2 j', Nat.mul_assoc, Nat.mul_comm 2]
      _ ≤ j * (h.blockSize * 2) := Nat.mul_le_mul_right _ hj'
      _ < h.size := hj
  have hg : h.growStep.blockList[j]? = _ := (List.getElem?_append_left hlt).trans (List.getElem?_eq_getElem hlt)
  rw [hg, mergeBlocks_getElem? _ _ j _ (List.getElem?_eq_getElem hlt)]

theorem HATWF.growStep {h : HAT} (wf : HATWF h) : HATWF h.growStep := by
  have hml : (mergeBlocks (h.blockSize * 2) h.blockList).length ≤ h.blockSize * 2 :=
    Nat.le_trans (mergeBlocks_length_le _ _) (Nat.le_trans (Nat.div_le_self _ _) (wf.len ▸ Nat.le_mul_of_pos_right _ Nat.two_pos))
  refine ⟨?_, Nat.le_succ_of_le wf.shift, ?_, ?_, fun i b hi => ?_, fun j hj => ⟨_, wf.growStep_blocks j hj⟩⟩
  · show h.blockSize * 2 = 2 ^ (h.maskShift + 1)
    rw [wf.bs, Nat.pow_succ]
  · show h.mask * 2 + 1 = h.blockSize * 2 - 1
    obtain ⟨k, hk⟩ := Nat.exists_eq_succ_of_ne_zero (Nat.ne_of_gt wf.bs_pos)
    rw [wf.mask, hk, Nat.succ_mul]
    rfl
  · show (_ ++ List.replicate _ none).length = h.blockSize * 2
    rw [List.length_append, List.length_replicate, Nat.add_sub_cancel' hml]
  · -- an allocated block of the new list is a merged one
    change (_ ++ List.replicate _ none)[i]? = _ at hi
    by_cases h1 : i < (mergeBlocks (h.blockSize * 2) h.blockList).length
    · rw [List.getElem?_append_left h1] at hi
      cases mergeBlocks_getElem? _ _ i _ hi
      refine padBlock_length _ _ ?_
      rw [List.length_append]
      exact Nat.mul_two _ ▸ Nat.add_le_add (blk_length_le wf _) (blk_length_le wf _)
    · rw [List.getElem?_append_right (Nat.le_of_not_lt h1)] at hi
      cases (List.mem_replicate.mp (List.mem_of_getElem? hi)).2

theorem HATWF.peek_growStep {h : HAT} (wf : HATWF h) {q : Nat} (hq : q < h.size) :
    h.growStep.peek q = h.peek q := by
  have hj : q / (h.blockSize * 2) * (h.blockSize * 2) < h.size :=
    Nat.lt_of_le_of_lt (Nat.div_mul_le_self _ _) hq
  have hiq : q / h.blockSize * h.blockSize < h.size := Nat.lt_of_le_of_lt (Nat.div_mul_le_self _ _) hq
  rw [wf.growStep.peek_blk, hat_growStep_blockSize, blk_of_some (wf.growStep_blocks _ hj), wf.peek_blk,
    ← Nat.div_div_eq_div_mul, Nat.mod_mul]
  -- `q` lies in block `i` at offset `r`; the merged block `i / 2` holds it at offset `r + B * (i % 2)`
  have hrB : q % h.blockSize < h.blockSize := Nat.mod_lt _ wf.bs_pos
  have hlen := blk_length wf _ hiq
  generalize q / h.blockSize = i at *
  generalize q % h.blockSize = r at *
  have hi := Nat.div_add_mod i 2
  rcases Nat.mod_two_eq_zero_or_one i with h0 | h1
  · rw [h0] at hi ⊢
    rw [show 2 * (i / 2) = i from hi, padBlock_get _ _ _ (by rw [List.length_append, hlen]; exact Nat.lt_add_right _ hrB)]
    exact List.getElem?_append_left (hlen ▸ hrB)
  · rw [h1] at hi ⊢
    have hlen' := blk_length wf (2 * (i / 2)) (Nat.lt_of_le_of_lt (Nat.mul_le_mul_right _ (Nat.mul_div_le i 2)) hiq)
    rw [hi, Nat.mul_one, padBlock_get _ _ _ (by rw [List.length_append, hlen, hlen']; exact Nat.add_lt_add_right hrB _),
      List.getElem?_append_right (hlen' ▸ Nat.le_add_left _ _), hlen', Nat.add_sub_cancel]

theorem preallocLoop_spec (n fuel idx : Nat) (h : HAT) : HATWF h → idx = n / h.blockSize → idx < fuel →
    HATWF (HAT.preallocLoop fuel idx h) ∧ (HAT.preallocLoop fuel idx h).size = h.size ∧
      (∀ q, q < h.size → (HAT.preallocLoop fuel idx h).peek q = h.peek q) ∧
      n / (HAT.preallocLoop fuel idx h).blockSize < (HAT.preallocLoop fuel idx h).blockList.length := by
  fun_induction HAT.preallocLoop fuel idx h with
  | case1 => intro _ _ hf; cases hf
  | case2 fuel idx h hge ih =>
    intro wf hidx hf
    -- the list is too short for block `idx`: double the block size, which halves the block number
    have hpos : 0 < idx := Nat.lt_of_lt_of_le wf.bs_pos (wf.len ▸ hge)
    obtain ⟨w, s, p, c⟩ := ih wf.growStep (by rw [hat_growStep_blockSize, hidx, Nat.div_div_eq_div_mul])
      (Nat.lt_of_lt_of_le (Nat.div_lt_self hpos (Nat.lt_succ_self 1)) (Nat.le_of_lt_succ hf))
    exact ⟨w, s, fun q hq => (p q hq).trans (wf.peek_growStep hq), c⟩
  | case3 fuel idx h hlt =>
    intro wf hidx _
    exact ⟨wf, rfl, fun _ _ => rfl, hidx ▸ Nat.lt_of_not_le hlt⟩

theorem HATWF.preallocate {h : HAT} (wf : HATWF h) (n : Nat) :
    HATWF (h.preallocate n) ∧ (h.preallocate n).size = h.size ∧
      (∀ q, q < h.size → (h.preallocate n).peek q = h.peek q) ∧
      (n - 1) / (h.preallocate n).blockSize < (h.preallocate n).blockList.length := by
  unfold HAT.preallocate
  rw [wf.index_eq]
  exact preallocLoop_spec (n - 1) _ _ h wf rfl (Nat.lt_succ_self _)

theorem HATWF.grow {h : HAT} (wf : HATWF h) :
    ∃ g, h.grow = .ok g ∧ HATWF g ∧ g.size = h.size ∧ (∀ q, q < h.size → g.peek q = h.peek q) ∧
      ∃ b, g.blockList[g.size / g.blockSize]? = some (some b) := by
  obtain ⟨wf1, s1, p1, c1⟩ := wf.preallocate (h.size + 1)
  unfold HAT.grow
  generalize h.preallocate (h.size + 1) = g at *
  have c1 : g.size / g.blockSize < g.blockList.length := s1 ▸ c1
  simp only [wf1.index_eq]
  by_cases hsub : g.size % g.blockSize = 0
  · rw [hsub, if_pos (beq_self_eq_true 0), if_pos c1]
    refine ⟨_, rfl, wf1.setBlock c1 (List.length_replicate ..), s1, fun q hq => ?_, _, List.getElem?_set_self c1⟩
    -- the fresh block lies behind every stored position
    have hlt : q / g.blockSize < g.size / g.blockSize :=
      Nat.div_lt_of_lt_mul (by rw [Nat.mul_div_cancel' (Nat.dvd_of_mod_eq_zero hsub), s1]; exact hq)
    rw [wf1.peek_setBlock c1, if_neg (Nat.ne_of_gt hlt), p1 q hq]
  · rw [if_neg (mt beq_iff_eq.mp hsub)]
    exact ⟨g, rfl, wf1, s1, p1, wf1.blocks _ (Nat.lt_of_lt_of_eq
      (Nat.lt_add_of_pos_right (Nat.pos_of_ne_zero hsub)) (Nat.div_add_mod' ..))⟩

theorem HATWF.bump {g : HAT} (wf : HATWF g) (hblk : ∃ b, g.blockList[g.size / g.blockSize]? = some (some b)) :
    HATWF { g with size := g.size + 1 } := by
  refine ⟨wf.bs, wf.shift, wf.mask, wf.len, wf.blen, fun i hi => ?_⟩
  rcases Nat.lt_or_ge (i * g.blockSize) g.size with h1 | h1
  · exact wf.blocks i h1
  · rw [← Nat.le_antisymm (Nat.le_of_lt_succ hi) h1, Nat.mul_div_cancel _ wf.bs_pos] at hblk
    exact hblk

theorem HATWF.alloc {h : HAT} (wf : HATWF h) :
    ∃ h', h.alloc = .ok (h', h.size) ∧ HATWF h' ∧ h'.size = h.size + 1 ∧
      (∀ q, q < h.size → h'.peek q = h.peek q) := by
  obtain ⟨g, hg, wfg, sg, pg, hblk⟩ := wf.grow
  have wfb := wfg.bump hblk
  obtain ⟨e, he⟩ := wfb.peek_some (pos := g.size) (Nat.lt_succ_self _)
  have he : g.peek h.size = some e := sg ▸ he
  refine ⟨{ g with size := g.size + 1 }, ?_, wfb, congrArg (· + 1) sg, pg⟩
  unfold HAT.alloc
  simp only [hg, Res.bind, sg, he]

end Restic.Proofs.C56
