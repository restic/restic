import Restic.Proofs.C28_Match
/-!
# C28 helper lemmas: consequences of the meaning of a pattern
-/
namespace Restic.Proofs.C28
open Restic.Model.Filter

/-- oracle law G1: `*` is well-formed and accepts every component but the root marker "/" of an
    absolute path (`filepath.Match("*", "/")` is false) -/
def G1 (glob : Glob) : Prop := ∀ c, glob ['*'] c = some (decide ('/' ∉ c))

/-- no part of the pattern is malformed for the glob oracle (what `ValidatePatterns` establishes,
    given `G3`: `noErr_of_valid`) -/
def NoErr (glob : Glob) (parts : List Part) : Prop := ∀ p ∈ parts, ∀ c, partMatch glob p c ≠ none

theorem noErr_take {glob : Glob} {ps : List Part} (h : NoErr glob ps) (l : Nat) : NoErr glob (ps.take l) :=
  fun p hp => h p (List.mem_of_mem_take hp)

theorem not_badOn {glob : Glob} (hg : G1 glob) {parts : List Part} (hne : NoErr glob parts)
    (strs : List Str) : ¬ BadOn glob parts strs := by
  rintro ⟨p, hp | rfl, c, _, hm⟩
  · exact hne p hp c hm
  · rw [partMatch, starPart, if_neg nofun, hg c] at hm
    cases hm

theorem matchGo_true_of_spec {glob : Glob} (hg : G1 glob) {parts : List Part} (hne : NoErr glob parts)
    {strs : List Str} (h : MatchSpec glob parts strs) : matchGo glob parts strs = .ok true :=
  (matchGo_outcome glob parts strs).eq_ok (not_badOn hg hne strs) (iff_of_true rfl h)

theorem spec_of_matchGo_true {glob : Glob} {parts : List Part} {strs : List Str}
    (h : matchGo glob parts strs = .ok true) : MatchSpec glob parts strs :=
  (h ▸ matchGo_outcome glob parts strs).ok_iff.mp rfl

theorem matchFlatSpec_append {glob : Glob} {qs : List Part} {s : List Str} (ext : List Str)
    (hs : s ≠ []) (h : MatchFlatSpec glob qs s) : MatchFlatSpec glob qs (s ++ ext) := by
  cases qs with
  | nil => exact absurd h hs
  | cons q0 qt =>
    obtain ⟨off, hw, h1, h2⟩ := h
    have hlen : off + (q0 :: qt).length ≤ (s ++ ext).length :=
      Nat.le_trans hw.1 (List.length_append ▸ Nat.le_add_right _ _)
    refine ⟨off, hw.mono (List.prefix_refl _) hlen
      fun i hi => List.getElem?_append_left (Nat.lt_of_lt_of_le hi hw.1), h1, fun hq hhead => h2 hq ?_⟩
    cases s with
    | nil => exact absurd rfl hs
    | cons a t => exact hhead

theorem matchSpec_upward {glob : Glob} {ps : List Part} {s : List Str} (ext : List Str)
    (hs : s ≠ []) (h : MatchSpec glob ps s) : MatchSpec glob ps (s ++ ext) := by
  obtain ⟨qs, he, hm⟩ := h
  exact ⟨qs, he, matchFlatSpec_append ext hs hm⟩

/-- an absolute pattern that matches a path matches every prefix `s'` of the path when cut to the
    length of `s'`, unless that cuts behind a recursive wildcard -/
theorem matchSpec_take {glob : Glob} {p0 : Part} {pt : List Part} {strs s' : List Str}
    (habs : p0.pat = slash) (h : MatchSpec glob (p0 :: pt) strs) (hs : s' <+: strs)
    (hno : NoDW ((p0 :: pt).take s'.length)) : MatchSpec glob ((p0 :: pt).take s'.length) s' := by
  refine ⟨_, (expand_noDW hno).mpr rfl, ?_⟩
  cases s' with
  | nil => rfl
  | cons c t =>
    obtain ⟨qs, he, hm⟩ := h
    rw [← List.take_append_drop (c :: t).length (p0 :: pt)] at he
    obtain ⟨qs', rfl, _⟩ := (expand_noDW_append hno).mp he
    obtain ⟨off, hw, h1, _⟩ := hm
    obtain rfl := h1 habs
    obtain ⟨u, rfl⟩ := hs
    refine ⟨0, hw.mono (List.prefix_append _ _) ?_ fun i hi => (List.getElem?_append_left ?_).symm,
      fun _ => rfl, fun hne => absurd habs hne⟩
    · rw [Nat.zero_add]; exact List.length_take_le _ _
    · exact Nat.lt_of_lt_of_le (Nat.zero_add _ ▸ hi) (List.length_take_le _ _)

theorem sliceTo_min {α} (l : List α) (k : Nat) : sliceTo l (min k l.length) = some (l.take k) := by
  rw [sliceTo, if_pos (Nat.min_le_right _ _), ← List.take_eq_take_min]

/-- `childMatch` answers yes outright, or the pattern is absolute and `childMatch` is `match` of a prefix of the
    pattern without `**` on a prefix of the path of the same length or longer (so it never panics) -/
theorem childMatch_shape (glob : Glob) (p0 : Part) (pt : List Part) (strs : List Str) :
    childMatch glob (p0 :: pt) strs = .ok true ∨
    p0.pat = slash ∧ ∃ s', s' <+: strs ∧ NoDW ((p0 :: pt).take s'.length) ∧
      childMatch glob (p0 :: pt) strs = matchGo glob ((p0 :: pt).take s'.length) s' := by
  unfold childMatch
  simp only [List.getElem?_cons_zero]
  by_cases habs : p0.pat = slash
  · rw [if_neg (not_not_intro habs)]
    refine .inr ⟨habs, ?_⟩
    cases hdw : hasDW (p0 :: pt) with
    | none =>
      refine ⟨strs.take strs.length, List.take_prefix _ _, noDW_take (hasDW_none hdw) _, ?_⟩
      simp only [List.take_length, sliceTo_min]
    | some pos =>
      obtain ⟨pre, d, tail, hparts, rfl, hpre, hd⟩ := hasDW_some hdw
      -- the path is cut at the recursive wildcard, or is shorter anyway
      have hcut : (if strs.length ≥ pre.length then sliceTo strs pre.length else some strs) =
          some (strs.take pre.length) := by
        by_cases hge : strs.length ≥ pre.length
        · rw [if_pos hge, sliceTo, if_pos hge]
        · rw [if_neg hge, List.take_of_length_le (by omega)]
      refine ⟨strs.take pre.length, List.take_prefix _ _, ?_, ?_⟩
      · rw [hparts, List.take_append_of_le_length (List.length_take_le _ _)]
        exact noDW_take hpre _
      · simp only [hcut, sliceTo_min]
  · exact .inl (if_pos habs)

theorem windowB_iff (glob : Glob) (qs : List Part) (cs : List Str) :
    windowB glob qs cs = true ↔
      (qs.length ≤ cs.length ∧
        ∀ (i : Nat) (p : Part) (c : Str), qs[i]? = some p → cs[i]? = some c → PartOK glob p c) := by
  induction qs generalizing cs with
  | nil => exact iff_of_true rfl ⟨Nat.zero_le _, fun _ _ _ h => nomatch h⟩
  | cons q qs ih =>
    cases cs with
    | nil => exact iff_of_false nofun fun h => Nat.not_succ_le_zero _ h.1
    | cons c cs =>
      rw [windowB, Bool.and_eq_true, decide_eq_true_eq, ih]
      constructor
      · rintro ⟨h1, h2, h3⟩
        refine ⟨Nat.succ_le_succ h2, fun i p c' hp hc => ?_⟩
        cases i with
        | zero => cases hp; cases hc; exact h1
        | succ i => exact h3 i p c' hp hc
      · rintro ⟨h1, h2⟩
        exact ⟨h2 0 q c rfl rfl, Nat.le_of_succ_le_succ h1, fun i p c' hp hc => h2 (i + 1) p c' hp hc⟩

theorem windowAt_iff_windowB (glob : Glob) (qs : List Part) (strs : List Str) (off : Nat)
    (hoff : off ≤ strs.length) :
    WindowAt glob qs strs off ↔ windowB glob qs (strs.drop off) = true := by
  rw [windowB_iff, WindowAt, List.length_drop, Nat.le_sub_iff_add_le' hoff]
  simp only [List.getElem?_drop]

theorem flatMatchB_iff (glob : Glob) (qs : List Part) (strs : List Str) :
    flatMatchB glob qs strs = true ↔ MatchFlatSpec glob qs strs := by
  cases qs with
  | nil => exact List.isEmpty_iff
  | cons q0 qt =>
    simp only [flatMatchB, MatchFlatSpec, List.any_eq_true, List.mem_range, Bool.and_eq_true]
    refine exists_congr fun off => ?_
    -- the side condition on the offset, as computed and as stated
    have hc : (if q0.pat = slash then decide (off = 0)
          else if strs.head? = some slash then decide (1 ≤ off) else true) = true ↔
        (q0.pat = slash → off = 0) ∧ (q0.pat ≠ slash → strs.head? = some slash → 1 ≤ off) := by
      by_cases habs : q0.pat = slash
      · rw [if_pos habs, decide_eq_true_eq]
        exact ⟨fun h => ⟨fun _ => h, fun h' => absurd habs h'⟩, fun h => h.1 habs⟩
      · rw [if_neg habs]
        by_cases hh : strs.head? = some slash
        · rw [if_pos hh, decide_eq_true_eq]
          exact ⟨fun h => ⟨fun h' => absurd h' habs, fun _ _ => h⟩, fun h => h.2 habs hh⟩
        · rw [if_neg hh]
          exact iff_of_true rfl ⟨fun h' => absurd h' habs, fun _ h' => absurd h' hh⟩
    rw [hc]
    constructor
    · rintro ⟨hlt, hw, h⟩
      exact ⟨(windowAt_iff_windowB glob _ strs off (Nat.le_of_lt_succ hlt)).mpr hw, h⟩
    · rintro ⟨hw, h⟩
      have hoff : off ≤ strs.length := Nat.le_trans (Nat.le_add_right _ _) hw.1
      exact ⟨Nat.lt_succ_of_le hoff, (windowAt_iff_windowB glob _ strs off hoff).mp hw, h⟩

theorem mem_expansions (ps : List Part) (budget : Nat) (qs : List Part) :
    qs ∈ expansions ps budget ↔ (Expand ps qs ∧ qs.length ≤ budget) := by
  induction ps generalizing budget qs with
  | nil =>
    rw [expansions, List.mem_singleton]
    constructor
    · rintro rfl; exact ⟨Expand.nil, Nat.zero_le _⟩
    · rintro ⟨h, _⟩; cases h; rfl
  | cons p ps ih =>
    rw [expansions]
    by_cases hp : p.pat = []
    · simp only [if_pos hp, List.mem_flatMap, List.mem_range, List.mem_map, ih]
      constructor
      · rintro ⟨k, hk, q, ⟨he, hl⟩, rfl⟩
        refine ⟨Expand.dw k hp he, ?_⟩
        rw [List.length_append, List.length_replicate]
        exact Nat.add_le_of_le_sub' (Nat.le_of_lt_succ hk) hl
      · rintro ⟨he, hl⟩
        cases he with
        | keep hk _ => exact absurd hp hk
        | dw k _ he' =>
          rw [List.length_append, List.length_replicate] at hl
          exact ⟨k, Nat.lt_succ_of_le (Nat.le_trans (Nat.le_add_right _ _) hl), _,
            ⟨he', Nat.le_sub_of_add_le' hl⟩, rfl⟩
    · rw [if_neg hp]
      by_cases hb : budget = 0
      · rw [if_pos hb]
        refine iff_of_false List.not_mem_nil fun ⟨he, hl⟩ => ?_
        cases he with
        | keep _ _ => exact Nat.not_succ_le_zero _ (hb ▸ hl)
        | dw k hk _ => exact absurd hk hp
      · obtain ⟨b, rfl⟩ := Nat.exists_eq_succ_of_ne_zero hb
        simp only [if_neg hb, List.mem_map, ih]
        constructor
        · rintro ⟨q, ⟨he, hl⟩, rfl⟩
          exact ⟨Expand.keep hp he, Nat.succ_le_succ hl⟩
        · rintro ⟨he, hl⟩
          cases he with
          | keep _ he' => exact ⟨_, ⟨he', Nat.le_of_succ_le_succ hl⟩, rfl⟩
          | dw k hk _ => exact absurd hk hp

theorem specMatch_iff (glob : Glob) (ps : List Part) (strs : List Str) :
    specMatch glob ps strs = true ↔ MatchSpec glob ps strs := by
  simp only [specMatch, List.any_eq_true, MatchSpec]
  constructor
  · rintro ⟨qs, hq, hm⟩
    exact ⟨qs, ((mem_expansions ps _ qs).mp hq).1, (flatMatchB_iff glob qs strs).mp hm⟩
  · rintro ⟨qs, he, hm⟩
    exact ⟨qs, (mem_expansions ps _ qs).mpr ⟨he, matchFlatSpec_len hm⟩,
      (flatMatchB_iff glob qs strs).mpr hm⟩

end Restic.Proofs.C28
