import Restic.Proofs.RepoTrace
/-!
The transcribed writer (`Restic.Model.RepoTrace.backupRun`: uploader pool under an arbitrary schedule,
`flush`, snapshot; backend failures at arbitrary instructions) only produces traces of the language
`accept_backup`, and a run in which anything failed writes no snapshot.

`WInv` is kept by five elementary state changes; every instruction of `stepJob` and `flushIndex` is one of
them or two in a row.
-/
namespace Restic.Proofs.Writer
open Restic.Model.RepoTrace Restic.Proofs.RepoTrace

def idxWhole (r : Repo) : Ev → Bool
  | .saveIndex _ es => es.all fun x => r.packs.contains x
  | _ => true

/-- What the writer emits; stronger than `acceptAdds`, which lets an index file list part of a pack's
    header (`C15_Compose.exact12_of_acceptWhole` needs the strength). -/
def acceptWhole : Repo → List Ev → Bool
  | _, [] => true
  | r, e :: tr => addGuard r e && idxWhole r e && acceptWhole (apply r e) tr

theorem acceptWhole_guarded : Restic.Proofs.Trace.Guarded apply (fun r e => addGuard r e && idxWhole r e) acceptWhole :=
  ⟨fun _ => rfl, fun _ _ _ => rfl⟩

theorem acceptWhole_snoc (r : Repo) (l : List Ev) (e : Ev) :
    acceptWhole r (l ++ [e]) = (acceptWhole r l && (addGuard (applyAll r l) e && idxWhole (applyAll r l) e)) :=
  (acceptWhole_guarded.append r l [e]).trans (congrArg _ (Bool.and_true _))

theorem acceptWhole_adds {r : Repo} {l : List Ev} (h : acceptWhole r l = true) : acceptAdds r l = true :=
  acceptWhole_guarded.mono acceptAdds_guarded (fun _ _ hg => (Bool.and_eq_true_iff.mp hg).1) h

theorem savePack_mem {r : Repo} {l : List Ev} {p : Nat} {bs : List Blob} (h : acceptAdds r l = true)
    (hm : Ev.savePack p bs ∈ l) : (p, bs) ∈ (applyAll r l).packs := by
  induction l generalizing r with
  | nil => cases hm
  | cons e l ih =>
    rw [acceptAdds_guarded.cons_iff] at h
    rcases List.mem_cons.mp hm with rfl | hm
    · exact (acceptAdds_safe h.2).1.packs _ List.mem_cons_self
    · exact ih h.2 hm

theorem saveIndex_mem {r : Repo} {l : List Ev} {i : Nat} {es : List IndexEntry} (h : acceptAdds r l = true)
    (hm : Ev.saveIndex i es ∈ l) :
    (i, es) ∈ (applyAll r l).indexes ∧ ∀ e ∈ es, entryOK (applyAll r l) e = true := by
  induction l generalizing r with
  | nil => cases hm
  | cons e l ih =>
    rw [acceptAdds_guarded.cons_iff] at h
    rcases List.mem_cons.mp hm with rfl | hm
    · have hsub := ((addGuard_sub h.1).trans (acceptAdds_safe h.2).1)
      exact ⟨(acceptAdds_safe h.2).1.indexes _ List.mem_cons_self,
        fun en hen => entryOK_mono hsub.toSubPI (List.all_eq_true.mp h.1 en hen)⟩
    · exact ih h.2 hm

def Listed (pending : List IndexEntry) (out : List Ev) (job : PackJob) : Prop :=
  (job.pid, job.blobs) ∈ pending ∨ ∃ i es, Ev.saveIndex i es ∈ out ∧ (job.pid, job.blobs) ∈ es

theorem Listed.mono {pending pending' : List IndexEntry} {out out' : List Ev} {job : PackJob}
    (hp : ∀ x ∈ pending, x ∈ pending') (ho : ∀ x ∈ out, x ∈ out') :
    Listed pending out job → Listed pending' out' job
  | .inl h => .inl (hp _ h)
  | .inr ⟨i, es, h1, h2⟩ => .inr ⟨i, es, ho _ h1, h2⟩

theorem Listed.flush {pending pending' : List IndexEntry} {out : List Ev} {job : PackJob} (i : Nat) :
    Listed pending out job → Listed pending' (.saveIndex i pending.reverse :: out) job
  | .inl h => .inr ⟨i, _, List.mem_cons_self, List.mem_reverse.mpr h⟩
  | .inr ⟨i', es, h1, h2⟩ => .inr ⟨i', es, List.mem_cons_of_mem _ h1, h2⟩

theorem setPc_pc_self (w : WState) (j v : Nat) : (setPc w j v).pc j = v := if_pos rfl
theorem setPc_pc_ne (w : WState) {j k : Nat} (v : Nat) (h : k ≠ j) : (setPc w j v).pc k = w.pc k := if_neg h

structure WInv (r0 : Repo) (jobs : List PackJob) (w : WState) : Prop where
  jobs : w.jobs = jobs
  acc : acceptWhole r0 w.out.reverse = true
  nosnap : ∀ e ∈ w.out, isSaveSnap e = false
  pend : ∀ e ∈ w.pending, Ev.savePack e.1 e.2 ∈ w.out
  /-- pc 1: uploaded, not yet stored in the index -/
  up : ∀ k job, w.jobs[k]? = some job → w.pc k = 1 → Ev.savePack job.pid job.blobs ∈ w.out
  /-- from pc 2 on: stored — while nothing has failed: a failed upload sends its job from pc 0 to pc 3 unlisted
      (and then no snapshot is saved) -/
  idx : w.failed = false → ∀ k job, w.jobs[k]? = some job → 2 ≤ w.pc k → Listed w.pending w.out job

namespace WInv
variable {r0 : Repo} {jobs : List PackJob} {w : WState}

theorem init (r0 : Repo) (jobs : List PackJob) :
    WInv r0 jobs { jobs := jobs, pc := fun _ => 0, pending := [], out := [], failed := false } :=
  { jobs := rfl
    acc := rfl
    nosnap := fun _ he => nomatch he
    pend := fun _ he => nomatch he
    up := fun _ _ _ hp => nomatch hp
    idx := fun _ _ _ _ hp => absurd hp (Nat.not_succ_le_zero 1) }

theorem setFailed (h : WInv r0 jobs w) : WInv r0 jobs { w with failed := true } :=
  { h with idx := fun hf => nomatch hf }

theorem setPc3 (h : WInv r0 jobs w) {j : Nat} (hj : w.failed = false → 2 ≤ w.pc j) : WInv r0 jobs (setPc w j 3) :=
  { h with
    up := fun k job hk hp => by
      by_cases hkj : k = j
      · rw [hkj, setPc_pc_self] at hp; cases hp
      · exact h.up k job hk (setPc_pc_ne w 3 hkj ▸ hp)
    idx := fun hf k job hk hp => by
      by_cases hkj : k = j
      · exact h.idx hf k job hk (hkj ▸ hj hf)
      · exact h.idx hf k job hk (setPc_pc_ne w 3 hkj ▸ hp) }

theorem upload (h : WInv r0 jobs w) {j : Nat} {job : PackJob} (hj : w.jobs[j]? = some job) :
    WInv r0 jobs (setPc { w with out := .savePack job.pid job.blobs :: w.out } j 1) :=
  { jobs := h.jobs
    acc := by
      show acceptWhole r0 (_ :: w.out).reverse = true
      rw [List.reverse_cons, acceptWhole_snoc, h.acc]; rfl
    nosnap := fun e he => (List.mem_cons.mp he).elim (fun e' => e' ▸ rfl) (h.nosnap e)
    pend := fun e he => List.mem_cons_of_mem _ (h.pend e he)
    up := fun k jb hk hp => by
      by_cases hkj : k = j
      · cases hj.symm.trans (hkj ▸ hk); exact List.mem_cons_self
      · exact List.mem_cons_of_mem _ (h.up k jb hk (setPc_pc_ne _ 1 hkj ▸ hp))
    idx := fun hf k jb hk hp => by
      by_cases hkj : k = j
      · rw [hkj, setPc_pc_self] at hp; exact absurd hp (by decide)
      · exact (h.idx hf k jb hk (setPc_pc_ne _ 1 hkj ▸ hp)).mono (fun _ hx => hx) fun _ hx => List.mem_cons_of_mem _ hx }

theorem store (h : WInv r0 jobs w) {j : Nat} {job : PackJob} (hj : w.jobs[j]? = some job) (hpc : w.pc j = 1) :
    WInv r0 jobs (setPc { w with pending := (job.pid, job.blobs) :: w.pending } j 2) :=
  { jobs := h.jobs, acc := h.acc, nosnap := h.nosnap
    pend := fun e he => (List.mem_cons.mp he).elim (fun e' => by rw [e']; exact h.up j job hj hpc) (h.pend e)
    up := fun k jb hk hp => by
      by_cases hkj : k = j
      · rw [hkj, setPc_pc_self] at hp; cases hp
      · exact h.up k jb hk (setPc_pc_ne _ 2 hkj ▸ hp)
    idx := fun hf k jb hk hp => by
      by_cases hkj : k = j
      · cases hj.symm.trans (hkj ▸ hk); exact Or.inl List.mem_cons_self
      · exact (h.idx hf k jb hk (setPc_pc_ne _ 2 hkj ▸ hp)).mono (fun _ hx => List.mem_cons_of_mem _ hx) fun _ hx => hx }

/-- `saveFullIndex`, `idx.Flush`: the entries saved are packs saved before, whole -/
theorem saveIndex (h : WInv r0 jobs w) (i : Nat) :
    WInv r0 jobs { w with out := .saveIndex i w.pending.reverse :: w.out, pending := [] } := by
  have hacc := acceptWhole_adds h.acc
  have hmem : ∀ x ∈ w.pending.reverse, x ∈ (applyAll r0 w.out.reverse).packs := fun x hx =>
    savePack_mem hacc (List.mem_reverse.mpr (h.pend x (List.mem_reverse.mp hx)))
  exact
  { jobs := h.jobs
    acc := by
      show acceptWhole r0 (_ :: w.out).reverse = true
      rw [List.reverse_cons, acceptWhole_snoc, h.acc, Bool.true_and, Bool.and_eq_true]
      refine ⟨List.all_eq_true.mpr fun x hx => entryOK_iff.mpr fun b hb => ?_,
        List.all_eq_true.mpr fun x hx => List.contains_iff_mem.mpr (hmem x hx)⟩
      exact packHas_iff.mpr ⟨x, hmem x hx, rfl, hb⟩
    nosnap := fun e he => (List.mem_cons.mp he).elim (fun e' => e' ▸ rfl) (h.nosnap e)
    pend := fun _ he => nomatch he
    up := fun k jb hk hp => List.mem_cons_of_mem _ (h.up k jb hk hp)
    idx := fun hf k jb hk hp => (h.idx hf k jb hk hp).flush i }

end WInv

theorem stepJob_inv {r0 : Repo} {jobs : List PackJob} {w : WState} (h : WInv r0 jobs w) (j : Nat) (f : Bool) :
    WInv r0 jobs (stepJob w j f) := by
  unfold stepJob
  cases hj : w.jobs[j]? with
  | none => exact h
  | some job =>
    simp only []
    by_cases h0 : w.pc j = 0
    · rw [if_pos h0]
      cases f
      · exact h.upload hj
      · exact h.setFailed.setPc3 fun hf => nomatch hf
    by_cases h1 : w.pc j = 1
    · rw [if_neg h0, if_pos h1]; exact h.store hj h1
    by_cases h2 : w.pc j = 2
    · rw [if_neg h0, if_neg h1, if_pos h2]
      by_cases hfull : (job.full && !w.pending.isEmpty) = true
      · rw [if_pos hfull]
        cases f
        · exact (h.saveIndex job.iid).setPc3 fun _ => Nat.le_of_eq h2.symm
        · exact h.setFailed.setPc3 fun hf => nomatch hf
      · rw [if_neg hfull]; exact h.setPc3 fun _ => Nat.le_of_eq h2.symm
    · rw [if_neg h0, if_neg h1, if_neg h2]; exact h

theorem runJobs_inv {r0 : Repo} {jobs : List PackJob} {w : WState} (h : WInv r0 jobs w) (s : List (Nat × Bool)) :
    WInv r0 jobs (runJobs w s) := by
  induction s generalizing w with
  | nil => exact h
  | cons x s ih => exact ih (stepJob_inv h x.1 x.2)

theorem flushIndex_inv {r0 : Repo} {jobs : List PackJob} {w : WState} (h : WInv r0 jobs w) (fid : Nat) (f : Bool) :
    WInv r0 jobs (flushIndex w fid f) ∧ (flushIndex w fid f).pc = w.pc ∧
    ((flushIndex w fid f).failed = false → (flushIndex w fid f).pending = []) := by
  unfold flushIndex
  by_cases he : w.pending.isEmpty = true
  · rw [if_pos he]; exact ⟨h, rfl, fun _ => List.isEmpty_iff.mp he⟩
  · rw [if_neg he]
    cases f
    · exact ⟨h.saveIndex fid, rfl, fun _ => rfl⟩
    · exact ⟨h.setFailed, rfl, fun hf => nomatch hf⟩

/-- the archiver only references blobs it handed to a packer of this run or found in the index it loaded
    (C16 / C44 are about that logic) -/
def PlanOK (r0 : Repo) (jobs : List PackJob) (sn : Snap) : Prop :=
  ∀ h ∈ sn.needs, indexed r0 h = true ∨ ∃ job ∈ jobs, ∃ b ∈ job.blobs, b.h = h

/-- the state of the uploader pool when `wg.Wait` returns -/
def poolEnd (jobs : List PackJob) (sched : List (Nat × Bool)) : WState :=
  runJobs { jobs := jobs, pc := fun _ => 0, pending := [], out := [], failed := false } sched

theorem backupRun_cases {P : List Ev → Prop} (r0 : Repo) (jobs : List PackJob) (sched : List (Nat × Bool))
    (fid : Nat) (flushFails : Bool) (sid : Nat) (sn : Snap) (snapFails : Bool)
    (hpool : WInv r0 jobs (poolEnd jobs sched) → P (poolEnd jobs sched).out.reverse)
    (hnosnap : WInv r0 jobs (flushIndex (poolEnd jobs sched) fid flushFails) →
      P (flushIndex (poolEnd jobs sched) fid flushFails).out.reverse)
    (hsnap : WInv r0 jobs (poolEnd jobs sched) → (poolEnd jobs sched).failed = false →
      allDone (poolEnd jobs sched) = true → (flushIndex (poolEnd jobs sched) fid flushFails).failed = false →
      snapFails = false → P (Ev.saveSnap sid sn :: (flushIndex (poolEnd jobs sched) fid flushFails).out).reverse) :
    P (backupRun jobs sched fid flushFails sid sn snapFails) := by
  have h0 : WInv r0 jobs (poolEnd jobs sched) := runJobs_inv (WInv.init r0 jobs) sched
  have h1 := (flushIndex_inv h0 fid flushFails).1
  show P (if ((poolEnd jobs sched).failed || !allDone (poolEnd jobs sched)) = true then _ else
    if (flushIndex (poolEnd jobs sched) fid flushFails).failed = true then _ else if snapFails = true then _ else _)
  by_cases hc : ((poolEnd jobs sched).failed || !allDone (poolEnd jobs sched)) = true
  · rw [if_pos hc]; exact hpool h0
  rw [if_neg hc]
  by_cases hf : (flushIndex (poolEnd jobs sched) fid flushFails).failed = true
  · rw [if_pos hf]; exact hnosnap h1
  rw [if_neg hf]
  cases snapFails
  · simp only [Bool.or_eq_true, Bool.not_eq_true', not_or, Bool.not_eq_true, Bool.not_eq_false] at hc hf
    exact hsnap h0 hc.1 hc.2 hf rfl
  · exact hnosnap h1

theorem WInv.accepted {r0 : Repo} {jobs : List PackJob} {w : WState} (h : WInv r0 jobs w) :
    accept_backup r0 w.out.reverse = true :=
  accept_backup_iff.mpr ⟨acceptWhole_adds h.acc, snapOnlyLast_iff.mpr fun e he =>
    h.nosnap e (List.mem_reverse.mp (List.dropLast_subset _ he))⟩

theorem backupRun_accepted (r0 : Repo) (jobs : List PackJob) (sched : List (Nat × Bool)) (fid : Nat)
    (flushFails : Bool) (sid : Nat) (sn : Snap) (snapFails : Bool) (hplan : PlanOK r0 jobs sn) :
    accept_backup r0 (backupRun jobs sched fid flushFails sid sn snapFails) = true := by
  refine backupRun_cases (P := fun tr => accept_backup r0 tr = true) r0 jobs sched fid flushFails sid sn snapFails
    WInv.accepted WInv.accepted fun h0 _ hdone hnf _ => ?_
  -- the snapshot is saved: every job is done and the flush left nothing pending
  obtain ⟨hinv, hpc, hpend⟩ := flushIndex_inv h0 fid flushFails
  have hacc := acceptWhole_adds hinv.acc
  rw [List.reverse_cons, accept_backup_iff, acceptAdds_guarded.append, hacc, Bool.true_and]
  refine ⟨Bool.and_eq_true_iff.mpr ⟨restorable_iff.mpr fun h hh => ?_, rfl⟩, snapOnlyLast_iff.mpr fun e he => ?_⟩
  · rcases hplan h hh with hr0 | ⟨job, hjob, b, hb, hbh⟩
    · exact indexed_mono (acceptAdds_safe hacc).1.toSubPI hr0
    · -- the job is done, so its pack is in a saved index file of this run
      obtain ⟨k, hk⟩ := List.mem_iff_getElem?.mp hjob
      have hlt : k < (poolEnd jobs sched).jobs.length := by
        rw [h0.jobs]; exact (List.getElem?_eq_some_iff.mp hk).1
      have hk3 : (flushIndex (poolEnd jobs sched) fid flushFails).pc k = 3 :=
        hpc ▸ beq_iff_eq.mp (List.all_eq_true.mp hdone k (List.mem_range.mpr hlt))
      rcases hinv.idx hnf k job (hinv.jobs.symm ▸ hk) (hk3 ▸ by decide) with h1 | ⟨i, es, h1, h2⟩
      · rw [hpend hnf] at h1; cases h1
      · obtain ⟨hix, hok⟩ := saveIndex_mem hacc (List.mem_reverse.mpr h1)
        exact indexed_iff.mpr ⟨(i, es), hix, _, h2, b, hb, hbh, entryOK_iff.mp (hok _ h2) b hb⟩
  · rw [List.dropLast_concat] at he
    exact hinv.nosnap e (List.mem_reverse.mp he)

/-- whichever fails — an upload, the flush with entries pending, the snapshot save — no snapshot is written -/
theorem failed_run_no_snapshot (jobs : List PackJob) (sched : List (Nat × Bool)) (fid : Nat)
    (flushFails : Bool) (sid : Nat) (sn : Snap) (snapFails : Bool)
    (hfail : (runJobs { jobs := jobs, pc := fun _ => 0, pending := [], out := [], failed := false } sched).failed = true
      ∨ flushFails = true ∧ (runJobs { jobs := jobs, pc := fun _ => 0, pending := [], out := [], failed := false } sched).pending ≠ []
      ∨ snapFails = true) :
    ∀ e ∈ backupRun jobs sched fid flushFails sid sn snapFails, isSaveSnap e = false := by
  -- any start repository will do: only `WInv.nosnap` is read
  refine backupRun_cases (P := fun tr => ∀ e ∈ tr, isSaveSnap e = false) Repo.empty jobs sched fid flushFails
    sid sn snapFails (fun h e he => h.nosnap e (List.mem_reverse.mp he)) (fun h e he => h.nosnap e (List.mem_reverse.mp he))
    fun _ hnf0 _ hnf hsf => ?_
  -- the snapshot was saved, so none of the three failures happened
  rcases hfail with h1 | ⟨h1, h2⟩ | h1
  · exact absurd (hnf0.symm.trans h1) Bool.false_ne_true
  · have h2 : (poolEnd jobs sched).pending ≠ [] := h2
    rw [flushIndex, if_neg (mt List.isEmpty_iff.mp h2), if_pos h1] at hnf; cases hnf
  · exact absurd (hsf.symm.trans h1) Bool.false_ne_true

end Restic.Proofs.Writer
