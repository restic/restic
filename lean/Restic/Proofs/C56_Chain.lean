import Restic.Proofs.C56_Bits
import Restic.Proofs.C56_HAT
/-!
# C56: bucket chains and the bloom early exit

`Chain hat w l` says that the pointer word `w` leads to the chain of positions `l` (newest
first): the low bits of `w` are the head position, the entry there carries the pointer to the rest,
and `w` is *literally* the word `bloomInsertID` builds, so its bloom bits cover the ids of the whole
chain. Positions strictly decrease along a chain (a `next` pointer always points to an older entry),
which is what makes the Go loops terminate.
-/
namespace Restic.Proofs.C56
open Restic.Model.IndexMap

inductive Chain (hat : HAT) : Nat → List Nat → Prop where
  | nil : Chain hat 0 []
  | cons {p : Nat} {e : Entry} {l : List Nat} :
      0 < p → p < hat.size → p < 2 ^ bloomShift → hat.peek p = some e →
      (∀ q, q ∈ l → q < p) → Chain hat e.next l →
      Chain hat (bloomInsertID p e.next e.v.id) (p :: l)

def idAt (hat : HAT) (p : Nat) : Option ID := (hat.peek p).map (·.v.id)

theorem Chain.mem_bounds {hat : HAT} {w : Nat} {l : List Nat} (c : Chain hat w l) :
    ∀ p, p ∈ l → 0 < p ∧ p < hat.size := by
  induction c with
  | nil => intro p hp; cases hp
  | cons h0 hs _ _ _ _ ih =>
    intro q hq
    rcases List.mem_cons.mp hq with rfl | hq
    · exact ⟨h0, hs⟩
    · exact ih q hq

theorem Chain.length_le {hat : HAT} {w : Nat} {l : List Nat} (c : Chain hat w l) :
    ∀ b, (∀ q, q ∈ l → q < b) → l.length ≤ b := by
  induction c with
  | nil => exact fun b _ => Nat.zero_le b
  | cons _ _ _ _ hlt _ ih => exact fun b hb => Nat.lt_of_le_of_lt (ih _ hlt) (hb _ List.mem_cons_self)

theorem Chain.length_le_size {hat : HAT} {w : Nat} {l : List Nat} (c : Chain hat w l) :
    l.length ≤ hat.size :=
  c.length_le hat.size fun q hq => (c.mem_bounds q hq).2

theorem Chain.pairwise {hat : HAT} {w : Nat} {l : List Nat} (c : Chain hat w l) : l.Pairwise (· > ·) := by
  induction c with
  | nil => exact .nil
  | cons _ _ _ _ hlt _ ih => exact .cons hlt ih

theorem Chain.nodup {hat : HAT} {w : Nat} {l : List Nat} (c : Chain hat w l) : l.Nodup :=
  c.pairwise.imp Nat.ne_of_gt

theorem Chain.congr {hat hat' : HAT} {w : Nat} {l : List Nat} (c : Chain hat w l)
    (hsz : hat.size ≤ hat'.size) (hpk : ∀ p, p ∈ l → hat'.peek p = hat.peek p) : Chain hat' w l := by
  induction c with
  | nil => exact Chain.nil
  | cons h0 hs hk he hlt _ ih =>
    refine Chain.cons h0 (Nat.lt_of_lt_of_le hs hsz) hk ?_ hlt (ih fun p hp => hpk p (List.mem_cons_of_mem _ hp))
    rw [hpk _ (List.mem_cons_self ..)]; exact he

/-- soundness of the early exit: the bloom bits of a pointer word cover the ids of the whole chain behind it -/
theorem Chain.bloom_excludes {hat : HAT} {w : Nat} {l : List Nat} (c : Chain hat w l) (id : ID)
    (hb : bloomHasID w id = false) : ∀ p, p ∈ l → idAt hat p ≠ some id := by
  induction c with
  | nil => intro p hp; cases hp
  | cons _ _ hk he _ _ ih =>
    obtain ⟨hne, hnext⟩ := bloomHasID_insert_false hk hb
    intro q hq
    rcases List.mem_cons.mp hq with rfl | hq
    · simp only [idAt, he, Option.map_some]
      intro h; exact hne (Option.some.inj h)
    · exact ih hnext q hq

/-- running minimum of `firstIndex` over the matching positions (`-1` = none yet) -/
def firstOf (acc : Int) : List Nat → Int
  | [] => acc
  | p :: ps => if (p : Int) < acc ∨ acc = -1 then firstOf p ps else firstOf acc ps

def matching (hat : HAT) (id : ID) (l : List Nat) : List Nat := l.filter fun p => idAt hat p = some id

theorem matching_cons {hat : HAT} {p : Nat} {e : Entry} (he : hat.peek p = some e) (id : ID) (l : List Nat) :
    matching hat id (p :: l) = if e.v.id = id then p :: matching hat id l else matching hat id l := by
  have hidp : idAt hat p = some e.v.id := by rw [idAt, he]; rfl
  by_cases hid : e.v.id = id
  · rw [if_pos hid]; exact List.filter_cons_of_pos (decide_eq_true (hidp.trans (congrArg some hid)))
  · rw [if_neg hid]
    exact List.filter_cons_of_neg fun h => hid (Option.some.inj (hidp.symm.trans (of_decide_eq_true h)))

theorem Chain.matching_nil {hat : HAT} {w : Nat} {l : List Nat} (c : Chain hat w l) {id : ID}
    (hb : bloomHasID w id = false) : matching hat id l = [] :=
  List.filter_eq_nil_iff.mpr fun q hq h => c.bloom_excludes id hb q hq (of_decide_eq_true h)

/-- what the three lookup loops return from pointer word `w` when the positions holding the id are `ps` -/
structure Walk (hat : HAT) (id : ID) (fuel w : Nat) (ps : List Nat) : Prop where
  values : walkValues hat id fuel w = .ok (ps.filterMap hat.peek)
  get : walkGet hat id fuel w = .ok (ps.filterMap hat.peek).head?
  first : ∀ acc, walkFirst hat id fuel w acc = .ok (firstOf acc ps)

theorem Walk.miss {hat : HAT} {id : ID} {fuel w : Nat} (hb : bloomHasID w id = false) : Walk hat id fuel w [] where
  values := by unfold walkValues; rw [hb]; rfl
  get := by unfold walkGet; rw [hb]; rfl
  first _ := by unfold walkFirst; rw [hb]; rfl

section turn
variable {hat : HAT} {id : ID} {p : Nat} {e : Entry} {fuel : Nat} (hs : p < hat.size) (hk : p < 2 ^ bloomShift)
  (he : hat.peek p = some e) (hb : bloomHasID (bloomInsertID p e.next e.v.id) id = true)
include hs hk he hb

/-! One turn of each loop at the head `p` of a chain, after a bloom hit. -/

theorem walkValues_cons : walkValues hat id (fuel + 1) (bloomInsertID p e.next e.v.id) =
    (walkValues hat id fuel e.next).bind fun rest => .ok (if e.v.id = id then e :: rest else rest) := by
  rw [walkValues, hb, bloomCleanID_insert _ _ hk, ref_of_peek hs he]; rfl

theorem walkGet_cons : walkGet hat id (fuel + 1) (bloomInsertID p e.next e.v.id) =
    if e.v.id = id then .ok (some e) else walkGet hat id fuel e.next := by
  rw [walkGet, hb, bloomCleanID_insert _ _ hk, ref_of_peek hs he]; rfl

theorem walkFirst_cons (acc : Int) : walkFirst hat id (fuel + 1) (bloomInsertID p e.next e.v.id) acc =
    if e.v.id ≠ id then walkFirst hat id fuel e.next acc
    else if (p : Int) < acc ∨ acc = -1 then walkFirst hat id fuel e.next p else walkFirst hat id fuel e.next acc := by
  rw [walkFirst, hb, bloomCleanID_insert _ _ hk, ref_of_peek hs he]; rfl

end turn

theorem Chain.walk {hat : HAT} {w : Nat} {l : List Nat} (c : Chain hat w l) (id : ID) :
    ∀ fuel, l.length ≤ fuel → Walk hat id fuel w (matching hat id l) := by
  induction c with
  | nil => exact fun fuel _ => .miss (bloomHasID_zero id)
  | @cons p e l h0 hs hk he hlt c' ih =>
    intro fuel hf
    cases hb : bloomHasID (bloomInsertID p e.next e.v.id) id
    · -- early exit: nothing in the chain has this id
      rw [(Chain.cons h0 hs hk he hlt c').matching_nil hb]; exact .miss hb
    · cases fuel with
      | zero => cases hf
      | succ fuel =>
        have ih := ih fuel (Nat.le_of_succ_le_succ hf)
        rw [matching_cons he]
        by_cases hid : e.v.id = id
        · rw [if_pos hid]
          exact {
            values := by
              rw [walkValues_cons hs hk he hb, ih.values, List.filterMap_cons_some he]
              exact congrArg Res.ok (if_pos hid)
            get := by rw [walkGet_cons hs hk he hb, if_pos hid, List.filterMap_cons_some he]; rfl
            -- `.ok` goes inside `firstOf`'s `if`
            first := fun acc => by
              rw [walkFirst_cons hs hk he hb, if_neg (fun h => h hid), ih.first, ih.first, firstOf]
              exact (apply_ite Res.ok ..).symm }
        · rw [if_neg hid]
          exact {
            values := by rw [walkValues_cons hs hk he hb, ih.values]; exact congrArg Res.ok (if_neg hid)
            get := by rw [walkGet_cons hs hk he hb, if_neg hid, ih.get]
            first := fun acc => by rw [walkFirst_cons hs hk he hb, if_pos hid, ih.first] }

theorem walkValues_chain {hat : HAT} {w : Nat} {l : List Nat} (c : Chain hat w l) (id : ID) (fuel : Nat)
    (hf : l.length ≤ fuel) : walkValues hat id fuel w = .ok ((matching hat id l).filterMap hat.peek) :=
  (c.walk id fuel hf).values

theorem firstOf_natCast (ps : List Nat) (a : Nat) : firstOf (a : Int) ps = ((ps.foldl min a : Nat) : Int) := by
  induction ps generalizing a with
  | nil => rfl
  | cons p ps ih =>
    rw [firstOf, List.foldl_cons, Nat.min_def]
    by_cases h : a ≤ p
    · rw [if_pos h, if_neg fun hc => hc.elim (fun hlt => Nat.not_lt.mpr h (Int.ofNat_lt.mp hlt)) (fun e => nomatch e), ih]
    · rw [if_neg h, if_pos (.inl (Int.ofNat_lt.mpr (Nat.lt_of_not_le h))), ih]

theorem firstOf_spec (ps : List Nat) :
    (ps = [] ∧ firstOf (-1) ps = -1) ∨
    (∃ p, p ∈ ps ∧ firstOf (-1) ps = (p : Int) ∧ ∀ q, q ∈ ps → p ≤ q) := by
  cases ps with
  | nil => exact .inl ⟨rfl, rfl⟩
  | cons p ps =>
    -- the first position replaces `-1`, the result is `(p :: ps).min?`
    obtain ⟨hm, hle⟩ := List.min?_eq_some_iff.mp (List.min?_cons' (x := p) (xs := ps))
    exact .inr ⟨_, hm, (if_pos (.inr rfl)).trans (firstOf_natCast ps p), hle⟩

end Restic.Proofs.C56
