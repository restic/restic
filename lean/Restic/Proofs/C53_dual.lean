import Restic.Model.Diff
/-!
For C53: `find` on strictly sorted levels, and `dual` (DualTreeIterator) on strictly sorted inputs:
each tree's nodes come out once, in order, each with its partner in the other tree (`dual_left`,
`dual_right`); `mem_dual` follows from the two.
-/

namespace Restic.Proofs.C53
open Restic.Model.SnapTree Restic.Model.Diff

abbrev nm (t : Tree) : Name := t.meta.name

/-- names strictly increasing on this level only (`sortedL` says it of every level) -/
def LevelSorted : List Tree → Prop
  | [] => True
  | t :: ts => (∀ u ∈ ts, nm t < nm u) ∧ LevelSorted ts

theorem levelSorted_of_sortedL : ∀ ts, sortedL ts = true → LevelSorted ts
  | [], _ => trivial
  | t :: ts, h => by
    simp only [sortedL, Bool.and_eq_true, List.all_eq_true, decide_eq_true_eq] at h
    exact ⟨h.1.2, levelSorted_of_sortedL ts h.2⟩

theorem sortedT_of_mem {t : Tree} {ts : List Tree} (h : sortedL ts = true) (ht : t ∈ ts) : sortedT t = true := by
  induction ts with
  | nil => cases ht
  | cons x xs ih =>
    simp only [sortedL, Bool.and_eq_true] at h
    rcases List.mem_cons.mp ht with rfl | h'
    · exact h.1.1
    · exact ih h.2 h'

theorem shapeT_of_mem {t : Tree} {ts : List Tree} (h : shapeL ts = true) (ht : t ∈ ts) : shapeT t = true := by
  induction ts with
  | nil => cases ht
  | cons x xs ih =>
    simp only [shapeL, Bool.and_eq_true] at h
    rcases List.mem_cons.mp ht with rfl | h'
    · exact h.1
    · exact ih h.2 h'

theorem sortedL_kids {m : Meta} {kids ts : List Tree} (h : sortedL ts = true) (hm : Tree.mk m kids ∈ ts) :
    sortedL kids = true := by
  simpa [sortedT] using sortedT_of_mem h hm

theorem shapeL_kids {m : Meta} {kids ts : List Tree} (h : shapeL ts = true) (hm : Tree.mk m kids ∈ ts) :
    shapeL kids = true ∧ (m.type = .dir ∨ kids = []) := by
  have := shapeT_of_mem h hm
  simp only [shapeT, Bool.and_eq_true, Bool.or_eq_true, beq_iff_eq, List.isEmpty_iff] at this
  exact ⟨this.2, this.1⟩

theorem find_cons (t : Tree) (ts : List Tree) (n : Name) :
    find (t :: ts) n = if nm t = n then some t else find ts n := by
  simp only [find, List.find?_cons, nm]
  by_cases h : t.meta.name = n
  · simp [h]
  · have : (t.meta.name == n) = false := by simpa using h
    simp [this, h]

theorem find_some {ts : List Tree} {n : Name} {t : Tree} (h : find ts n = some t) : t ∈ ts ∧ nm t = n := by
  unfold find at h
  exact ⟨List.mem_of_find?_eq_some h, by simpa using List.find?_some h⟩

theorem find_lt {ts : List Tree} {n c : Name} (hc : ∀ u ∈ ts, c < nm u) (h : (find ts n).isSome) : c < n := by
  obtain ⟨t, ht⟩ := Option.isSome_iff_exists.mp h
  obtain ⟨hm, hn⟩ := find_some ht
  exact hn ▸ hc t hm

theorem ne_of_find {ts : List Tree} {n c : Name} (hc : ∀ u ∈ ts, c < nm u) (hs : (find ts n).isSome) : c ≠ n :=
  fun e => List.lt_irrefl n (e ▸ (find_lt hc hs : c < n))

theorem find_none_of_lt {ts : List Tree} {n : Name} (hc : ∀ u ∈ ts, n < nm u) : find ts n = none := by
  cases h : find ts n with
  | none => rfl
  | some t => exact absurd (find_lt hc (by simp [h])) (List.lt_irrefl n)

theorem find_cons_lt {y : Tree} {ys : List Tree} {n : Name} (h : nm y < n) : find (y :: ys) n = find ys n := by
  rw [find_cons, if_neg (fun e : nm y = n => List.lt_irrefl n (e ▸ h))]

theorem find_self {ts : List Tree} (hs : LevelSorted ts) {t : Tree} (ht : t ∈ ts) : find ts (nm t) = some t := by
  induction ts with
  | nil => cases ht
  | cons x xs ih =>
    rw [find_cons]
    rcases List.mem_cons.mp ht with rfl | h'
    · simp
    · have : nm x ≠ nm t := fun e => List.lt_irrefl (nm t) (e ▸ hs.1 t h')
      simp only [this, if_false]
      exact ih hs.2 h'

theorem dual_nil_left (ys : List Tree) : dual [] ys = ys.map (fun y => (none, some y)) := by
  cases ys <;> rfl

theorem dual_cons (x : Tree) (xs ys : List Tree) : dual (x :: xs) ys = dualAux x (dual xs) ys := rfl

theorem dual_nil_right (xs : List Tree) : dual xs [] = xs.map (fun x => (some x, none)) := by
  induction xs with
  | nil => rfl
  | cons x xs ih => rw [dual_cons, dualAux, ih, List.map_cons]

/-- no sortedness needed: the three branches of `dualAux` are symmetric -/
theorem dual_swap (l1 : List Tree) : ∀ l2, dual l2 l1 = (dual l1 l2).map Prod.swap := by
  induction l1 with
  | nil => intro l2; rw [dual_nil_right, dual_nil_left, List.map_map]; rfl
  | cons x xs ih =>
    intro l2
    induction l2 with
    | nil => rw [dual_nil_right, dual_nil_left, List.map_map]; rfl
    | cons y ys ihy =>
      simp only [dual_cons, dualAux] at ihy ⊢
      by_cases hxy : nm x < nm y
      · have hyx : ¬ nm y < nm x := fun h => List.lt_irrefl _ (List.lt_trans hxy h)
        rw [if_neg hyx, if_pos hxy, if_pos hxy, List.map_cons, ← ih (y :: ys)]; rfl
      · by_cases hyx : nm y < nm x
        · rw [if_pos hyx, if_neg hxy, if_pos hyx, List.map_cons, ← ihy]; rfl
        · rw [if_neg hyx, if_neg hxy, if_neg hxy, if_neg hyx, List.map_cons, ← ih ys]; rfl

def leftOf (ab : Option Tree × Option Tree) : Option (Tree × Option Tree) := ab.1.map (fun x => (x, ab.2))
def rightOf (ab : Option Tree × Option Tree) : Option (Option Tree × Tree) := ab.2.map (fun y => (ab.1, y))

theorem leftOf_some (x : Tree) (b : Option Tree) : leftOf (some x, b) = some (x, b) := rfl
theorem leftOf_none (b : Option Tree) : leftOf (none, b) = none := rfl
theorem rightOf_some (a : Option Tree) (y : Tree) : rightOf (a, some y) = some (a, y) := rfl
theorem rightOf_none (a : Option Tree) : rightOf (a, none) = none := rfl

theorem dual_left (l1 : List Tree) : ∀ (l2 : List Tree), LevelSorted l1 → LevelSorted l2 →
    (dual l1 l2).filterMap leftOf = l1.map (fun x => (x, find l2 (nm x))) := by
  induction l1 with
  | nil => intro l2 _ _; rw [dual_nil_left, List.filterMap_map]; exact List.filterMap_eq_nil_iff.mpr fun _ _ => rfl
  | cons x xs ih =>
    intro l2 h1 h2
    induction l2 with
    | nil => rw [dual_cons, dualAux, List.filterMap_cons_some (leftOf_some x none), ih [] h1.2 trivial]; rfl
    | cons y ys ihy =>
      rw [dual_cons, dualAux]
      by_cases hlt : nm x < nm y
      · -- `x` alone: every name of tree 2 is larger
        have hall : ∀ u ∈ y :: ys, nm x < nm u :=
          List.forall_mem_cons.mpr ⟨hlt, fun u hu => List.lt_trans hlt (h2.1 u hu)⟩
        rw [if_pos hlt, List.filterMap_cons_some (leftOf_some x none), ih _ h1.2 h2, List.map_cons,
          find_none_of_lt hall]
      · rw [if_neg hlt]
        by_cases hgt : nm y < nm x
        · -- `y` alone: it is the partner of no node of tree 1 (`← dual_cons` refolds the goal for `ihy`)
          rw [if_pos hgt, List.filterMap_cons_none (leftOf_none _), ← dual_cons, ihy h2.2]
          refine List.map_congr_left fun u hu => ?_
          rw [find_cons_lt]
          rcases List.mem_cons.mp hu with rfl | hu
          · exact hgt
          · exact List.lt_trans hgt (h1.1 u hu)
        · -- same name: paired
          have heq : nm x = nm y := List.le_antisymm (List.not_lt.mp hgt) (List.not_lt.mp hlt)
          rw [if_neg hgt, List.filterMap_cons_some (leftOf_some x _), ih ys h1.2 h2.2, List.map_cons, find_cons,
            if_pos heq.symm]
          congr 1
          exact List.map_congr_left fun u hu => by rw [find_cons_lt (heq ▸ h1.1 u hu)]

theorem dual_right (l1 l2 : List Tree) (h1 : LevelSorted l1) (h2 : LevelSorted l2) :
    (dual l1 l2).filterMap rightOf = l2.map (fun y => (find l1 (nm y), y)) := by
  have hsw : ∀ ab, rightOf (Prod.swap ab) = (leftOf ab).map Prod.swap := fun ⟨a, b⟩ => by cases a <;> rfl
  rw [dual_swap l2 l1, List.filterMap_map]
  simp only [Function.comp_def, hsw]
  rw [← List.map_filterMap, dual_left l2 l1 h2 h1, List.map_map]; rfl

theorem dual_isSome (l1 : List Tree) : ∀ l2, ∀ ab ∈ dual l1 l2, ab.1.isSome ∨ ab.2.isSome := by
  induction l1 with
  | nil =>
    intro l2 ab h
    rw [dual_nil_left] at h
    obtain ⟨y, _, rfl⟩ := List.mem_map.mp h
    exact Or.inr rfl
  | cons x xs ih =>
    intro l2
    induction l2 with
    | nil =>
      intro ab h
      rcases List.mem_cons.mp h with rfl | h
      · exact Or.inl rfl
      · exact ih [] ab h
    | cons y ys ihy =>
      intro ab h
      simp only [dual_cons, dualAux] at h ihy
      split at h
      · rcases List.mem_cons.mp h with rfl | h
        · exact Or.inl rfl
        · exact ih _ ab h
      · split at h
        · rcases List.mem_cons.mp h with rfl | h
          · exact Or.inr rfl
          · exact ihy ab h
        · rcases List.mem_cons.mp h with rfl | h
          · exact Or.inl rfl
          · exact ih _ ab h

theorem mem_dual (l1 l2 : List Tree) (h1 : LevelSorted l1) (h2 : LevelSorted l2) (a b : Option Tree) :
    (a, b) ∈ dual l1 l2 ↔ ∃ n, a = find l1 n ∧ b = find l2 n ∧ (a.isSome ∨ b.isSome) := by
  have hl := dual_left l1 l2 h1 h2
  have hr := dual_right l1 l2 h1 h2
  constructor
  · intro h
    cases a with
    | some x =>
      have : (x, b) ∈ (dual l1 l2).filterMap leftOf := List.mem_filterMap.mpr ⟨_, h, rfl⟩
      rw [hl] at this
      obtain ⟨x', hx, he⟩ := List.mem_map.mp this
      cases he
      exact ⟨nm x, (find_self h1 hx).symm, rfl, Or.inl rfl⟩
    | none =>
      cases b with
      | none => exact absurd (dual_isSome l1 l2 _ h) (by simp)
      | some y =>
        have : (none, y) ∈ (dual l1 l2).filterMap rightOf := List.mem_filterMap.mpr ⟨_, h, rfl⟩
        rw [hr] at this
        obtain ⟨y', hy, he⟩ := List.mem_map.mp this
        obtain ⟨hn, rfl⟩ := Prod.mk.inj he
        exact ⟨nm y', hn.symm, (find_self h2 hy).symm, Or.inr rfl⟩
  · rintro ⟨n, rfl, rfl, hs⟩
    cases ha : find l1 n with
    | some x =>
      obtain ⟨hx, rfl⟩ := find_some ha
      have : (x, find l2 (nm x)) ∈ (dual l1 l2).filterMap leftOf := hl ▸ List.mem_map.mpr ⟨x, hx, rfl⟩
      obtain ⟨⟨a, b⟩, hab, he⟩ := List.mem_filterMap.mp this
      cases a <;> cases he
      exact hab
    | none =>
      cases hb : find l2 n with
      | none => simp [ha, hb] at hs
      | some y =>
        obtain ⟨hy, rfl⟩ := find_some hb
        have : (find l1 (nm y), y) ∈ (dual l1 l2).filterMap rightOf := hr ▸ List.mem_map.mpr ⟨y, hy, rfl⟩
        obtain ⟨⟨a, b⟩, hab, he⟩ := List.mem_filterMap.mp this
        cases b <;> cases he
        rw [← ha]; exact hab

end Restic.Proofs.C53
