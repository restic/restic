import Restic.Proofs.C56_Chain
/-!
# C56: the representation invariant of `indexMap` and its preservation by `add` / `preallocate`
-/
namespace Restic.Proofs.C56
open Restic.Model.IndexMap

section
variable (hash : ID → Nat)

/-- `m.hash(id)` for a table with `nb` buckets -/
def bucketOf (nb : Nat) (id : ID) : Nat := hash id &&& (nb - 1)

/-- the model's two spellings of the bucket of an id: `hashOf`, and inline in `rehashStep` -/
theorem hashOf_eq (m : IndexMap) (id : ID) : m.hashOf hash id = bucketOf hash m.buckets.size id := rfl

theorem and_pred_eq_bucketOf (nb : Nat) (id : ID) : hash id &&& (nb - 1) = bucketOf hash nb id := rfl

theorem bucketOf_lt {nb : Nat} (hnb : 0 < nb) (id : ID) : bucketOf hash nb id < nb :=
  Nat.lt_of_le_of_lt Nat.and_le_right (Nat.pred_lt (Nat.ne_of_gt hnb))

/-- the chains of all buckets link exactly the positions `1 .. k-1`, each in the bucket of its id;
    `k` runs up to `hat.size` while the rehash loop links one position after the other (`Part.link`) -/
structure Part (nb : Nat) (bk : Array Nat) (hat : HAT) (k : Nat) : Prop where
  sz : bk.size = nb
  chains : ∀ b w, bk[b]? = some w → ∃ l, Chain hat w l ∧
    ∀ p, p ∈ l ↔ (0 < p ∧ p < k ∧ ∃ id, idAt hat p = some id ∧ bucketOf hash nb id = b)

theorem Part.empty (nb : Nat) (hat : HAT) : Part hash nb (Array.replicate nb 0) hat 1 := by
  refine ⟨Array.size_replicate, fun b w hw => ?_⟩
  cases (Array.mem_replicate.mp (Array.mem_of_getElem? hw)).2
  exact ⟨[], Chain.nil, fun p => ⟨fun h => (nomatch h), fun ⟨h0, h1, _⟩ => absurd h0 (Nat.not_lt.mpr (Nat.le_of_lt_succ h1))⟩⟩

theorem Part.congr {nb : Nat} {bk : Array Nat} {hat hat' : HAT} {k : Nat} (hp : Part hash nb bk hat k)
    (hsz : hat.size ≤ hat'.size) (hpk : ∀ p, p < k → hat'.peek p = hat.peek p) : Part hash nb bk hat' k := by
  refine ⟨hp.sz, fun b w hw => ?_⟩
  obtain ⟨l, cl, ml⟩ := hp.chains b w hw
  refine ⟨l, cl.congr hsz fun p hp' => hpk p ((ml p).mp hp').2.1, fun p => (ml p).trans ?_⟩
  refine and_congr_right fun _ => and_congr_right fun hlt => ?_
  rw [idAt, idAt, hpk p hlt]

/-- linking position `k` in front of the chain of its bucket (the body of the rehash loop and the
    tail of `add`) -/
theorem Part.link {nb : Nat} {bk : Array Nat} {hat : HAT} {k : Nat} (hp : Part hash nb bk hat k)
    (wf : HATWF hat) (hk0 : 0 < k) (hks : k < hat.size) (hkk : k < 2 ^ bloomShift)
    (e' : Entry) (hnxt : bk[bucketOf hash nb e'.v.id]? = some e'.next) :
    Part hash nb (bk.set! (bucketOf hash nb e'.v.id) (bloomInsertID k e'.next e'.v.id)) (hat.set k e') (k + 1) := by
  obtain ⟨e0, he0⟩ := wf.peek_some hks
  have hpk : (hat.set k e').peek k = some e' := by rw [wf.peek_set, if_pos rfl, he0]; rfl
  have hpq : ∀ q, q ≠ k → (hat.set k e').peek q = hat.peek q := fun q hq => by rw [wf.peek_set, if_neg hq]
  have hlt : bucketOf hash nb e'.v.id < bk.size := (Array.getElem?_eq_some_iff.mp hnxt).1
  have hmem : ∀ b p, (0 < p ∧ p < k + 1 ∧ ∃ id, idAt (hat.set k e') p = some id ∧ bucketOf hash nb id = b) ↔
      (p = k ∧ bucketOf hash nb e'.v.id = b) ∨
        (0 < p ∧ p < k ∧ ∃ id, idAt hat p = some id ∧ bucketOf hash nb id = b) := by
    intro b p
    by_cases hpk' : p = k
    · subst hpk'
      simp only [idAt, hpk, hk0, Nat.lt_succ_self, Nat.lt_irrefl, true_and, false_and, and_false, or_false,
        Option.map_some, Option.some.injEq, exists_eq_left']
    · rw [idAt, idAt, hpq p hpk']
      simp only [hpk', false_and, false_or]
      exact and_congr_right fun _ => and_congr_left fun _ =>
        ⟨fun h => Nat.lt_of_le_of_ne (Nat.le_of_lt_succ h) hpk', Nat.lt_succ_of_lt⟩
  refine ⟨by rw [Array.set!_eq_setIfInBounds, Array.size_setIfInBounds, hp.sz], fun b w hw => ?_⟩
  have hold : ∀ w, bk[b]? = some w → ∃ l, Chain (hat.set k e') w l ∧ (∀ q, q ∈ l → q < k) ∧
      ∀ p, p ∈ l ↔ (0 < p ∧ p < k ∧ ∃ id, idAt hat p = some id ∧ bucketOf hash nb id = b) := fun w hw => by
    obtain ⟨l, cl, ml⟩ := hp.chains b w hw
    have hlk : ∀ q, q ∈ l → q < k := fun q hq => ((ml q).mp hq).2.1
    exact ⟨l, cl.congr (by rw [hat_set_size]; exact Nat.le_refl _)
      (fun p hp' => hpq p (Nat.ne_of_lt (hlk p hp'))), hlk, ml⟩
  rw [Array.set!_eq_setIfInBounds, Array.getElem?_setIfInBounds] at hw
  by_cases hb : bucketOf hash nb e'.v.id = b
  · rw [if_pos hb, if_pos hlt] at hw
    cases hw
    obtain ⟨l, cl, hlk, ml⟩ := hold e'.next (hb ▸ hnxt)
    refine ⟨k :: l, Chain.cons hk0 (by rw [hat_set_size]; exact hks) hkk hpk hlk cl, fun p => ?_⟩
    rw [List.mem_cons, hmem, ml]
    simp only [hb, and_true]
  · rw [if_neg hb] at hw
    obtain ⟨l, cl, _, ml⟩ := hold w hw
    refine ⟨l, cl, fun p => ?_⟩
    rw [hmem, ml]
    simp only [hb, and_false, false_or]

/-- the rehash loop of `preallocate` rebuilds all chains and keeps every stored value -/
theorem rehashLoop_spec {nb : Nat} (hnb : 0 < nb) (n k : Nat) (bk : Array Nat) (hat : HAT)
    (hp : Part hash nb bk hat k) (wf : HATWF hat) (hk0 : 0 < k) (hkn : k + n = hat.size)
    (hsm : hat.size ≤ 2 ^ bloomShift) :
    ∃ bk' hat', rehashLoop hash (List.range' k n) (bk, hat) = .ok (bk', hat') ∧
      Part hash nb bk' hat' hat.size ∧ HATWF hat' ∧ hat'.size = hat.size ∧
      ∀ q, (hat'.peek q).map (·.v) = (hat.peek q).map (·.v) := by
  induction n generalizing k bk hat with
  | zero => exact ⟨bk, hat, rfl, hkn ▸ hp, wf, rfl, fun _ => rfl⟩
  | succ n ih =>
    have hks : k < hat.size := hkn ▸ Nat.lt_add_of_pos_right (Nat.succ_pos n)
    obtain ⟨e, hr, he⟩ := wf.ref_eq hks
    have hlt : bucketOf hash nb e.v.id < bk.size := by rw [hp.sz]; exact bucketOf_lt hash hnb _
    have hnxt : bk[bucketOf hash nb e.v.id]? = some _ := Array.getElem?_eq_getElem hlt
    simp only [List.range'_succ, rehashLoop, rehashStep, hr, Res.bind, hp.sz, and_pred_eq_bucketOf, hnxt]
    have hsz' : (hat.set k { e with next := bk[bucketOf hash nb e.v.id] }).size = hat.size := hat_set_size _ _ _
    obtain ⟨bk', hat', hrun, hpart, wf', hsize, hvals⟩ := ih (k + 1) _ _
      (hp.link hash wf hk0 hks (Nat.lt_of_lt_of_le hks hsm) { e with next := bk[bucketOf hash nb e.v.id] } hnxt)
      (wf.set k _) (Nat.succ_pos k) (hsz'.symm ▸ (Nat.succ_add_eq_add_succ k n).trans hkn) (hsz'.symm ▸ hsm)
    refine ⟨bk', hat', hrun, hsz' ▸ hpart, wf', hsize.trans hsz', fun q => ?_⟩
    -- the entry at `k` is rewritten with its value unchanged
    rw [hvals q, wf.peek_set]
    by_cases hq : q = k
    · rw [hq, if_pos rfl, he]; rfl
    · rw [if_neg hq]

/-- representation invariant of an initialised `indexMap` holding the values `ins` (in insertion
    order; value number `i` lives at position `i+1`, position 0 is the null entry) -/
structure Inv (m : IndexMap) (ins : List Val) : Prop where
  wf : HATWF m.blockList
  size : m.blockList.size = ins.length + 1
  num : m.numentries = ins.length
  small : m.blockList.size ≤ 2 ^ bloomShift
  nb : 0 < m.buckets.size
  vals : ∀ i (h : i < ins.length), (m.blockList.peek (i + 1)).map (·.v) = some ins[i]
  part : Part hash m.buckets.size m.buckets m.blockList m.blockList.size

/-- a reachable state: not yet initialised (zero value) or initialised and invariant -/
def State (m : IndexMap) (ins : List Val) : Prop :=
  (m.buckets.size = 0 ∧ m.numentries = 0 ∧ m.blockList.size = 0 ∧ ins = []) ∨ Inv hash m ins

theorem State.empty : State hash IndexMap.empty [] := Or.inl ⟨rfl, rfl, rfl, rfl⟩

theorem init_spec (m : IndexMap) (hn : m.numentries = 0) :
    ∃ m', m.init = .ok m' ∧ Inv hash m' [] := by
  obtain ⟨h', ha, wf', hs', _⟩ := newHAT_wf.alloc
  have hsz0 : newHAT.size = 0 := rfl
  rw [hsz0] at ha hs'
  have hclean : bloomCleanID 0 = 0 := bloomCleanID_of_lt (Nat.two_pow_pos _)
  refine ⟨{ m with buckets := Array.replicate initialBuckets 0, blockList := h' }, ?_, ?_⟩
  · simp [IndexMap.init, IndexMap.newEntry, ha, Res.bind, hclean]
  · exact {
      wf := wf'
      size := by simp [hs']
      num := by simp [hn]
      small := by simp only [hs']; exact Nat.one_le_two_pow
      nb := by simp [initialBuckets]
      vals := fun i h => by simp at h
      part := by simp only [hs', Array.size_replicate]; exact Part.empty hash _ _ }

theorem growBuckets_pos (target : Nat) : ∀ fuel s, 0 < s → 0 < growBuckets target fuel s
  | 0, s, h => by simpa [growBuckets] using h
  | fuel + 1, s, h => by
    simp only [growBuckets]
    split
    · exact growBuckets_pos target fuel _ (by omega)
    · exact h

/-- `preallocate` keeps the contents; afterwards the table is initialised unless `n = 0` -/
theorem preallocate_spec {m : IndexMap} {ins : List Val} (st : State hash m ins) (n : Nat) :
    ∃ m', m.preallocate hash n = .ok m' ∧ State hash m' ins ∧ (0 < n → Inv hash m' ins) := by
  unfold IndexMap.preallocate
  by_cases hn : n = 0
  · subst hn; exact ⟨m, rfl, st, fun h => absurd h (Nat.lt_irrefl 0)⟩
  · rw [if_neg (mt beq_iff_eq.mp hn)]
    obtain ⟨m1, h1, inv⟩ : ∃ m1, (if m.buckets.size == 0 then m.init else Res.ok m) = .ok m1 ∧ Inv hash m1 ins := by
      rcases st with ⟨hb, hnum, _, hins⟩ | inv
      · subst hins
        obtain ⟨m1, h1, i1⟩ := init_spec hash m hnum
        exact ⟨m1, by rw [if_pos (beq_iff_eq.mpr hb), h1], i1⟩
      · exact ⟨m, if_neg (mt beq_iff_eq.mp (Nat.ne_of_gt inv.nb)), inv⟩
    rw [h1]
    simp only [Res.bind]
    split
    · exact ⟨m1, rfl, Or.inr inv, fun _ => inv⟩
    · generalize hns : growBuckets ((n + maxLoad - 1) / maxLoad) ((n + maxLoad - 1) / maxLoad) m1.buckets.size = newSize
      have hpos : 0 < newSize := hns ▸ growBuckets_pos _ _ _ inv.nb
      obtain ⟨bk', hat', hl, hp', wf', hs', hv'⟩ :=
        rehashLoop_spec hash hpos (m1.blockList.size - 1) 1 (Array.replicate newSize 0) m1.blockList
          (Part.empty hash _ _) inv.wf Nat.one_pos (by rw [inv.size, Nat.add_sub_cancel, Nat.add_comm]) inv.small
      rw [hl]
      obtain ⟨wfp, sp, pp, _⟩ := wf'.preallocate n
      have hinv : Inv hash { m1 with buckets := bk', blockList := hat'.preallocate n } ins :=
        { wf := wfp
          size := (sp.trans hs').trans inv.size
          num := inv.num
          small := (sp.trans hs') ▸ inv.small
          nb := hp'.sz ▸ hpos
          vals := fun i h => by
            show ((hat'.preallocate n).peek (i + 1)).map (·.v) = _
            rw [pp _ (by rw [hs', inv.size]; exact Nat.succ_lt_succ h), hv', inv.vals i h]
          part := by
            show Part hash bk'.size bk' (hat'.preallocate n) (hat'.preallocate n).size
            rw [sp, hs', hp'.sz]
            exact hp'.congr hash (Nat.le_of_eq sp.symm) fun p hlt => pp p (hs' ▸ hlt) }
      exact ⟨_, rfl, Or.inr hinv, fun _ => hinv⟩

/-- `add` appends the value (no panic below `2^bloomShift` entries) -/
theorem add_spec {m : IndexMap} {ins : List Val} (st : State hash m ins) (v : Val)
    (hbound : ins.length + 1 < 2 ^ bloomShift) :
    ∃ m', m.add hash v = .ok m' ∧ Inv hash m' (ins ++ [v]) := by
  unfold IndexMap.add
  obtain ⟨m1, h1, _, inv1⟩ := preallocate_spec hash st (m.numentries + 1)
  have inv := inv1 (Nat.succ_pos _)
  obtain ⟨hat2, ha, wf2, hs2, hp2⟩ := inv.wf.alloc
  have hidx : m1.blockList.size < 2 ^ bloomShift := inv.size ▸ hbound
  have hne : (m1.blockList.size != bloomCleanID m1.blockList.size) = false := by
    rw [bloomCleanID_of_lt hidx]; exact bne_self_eq_false' ..
  obtain ⟨nxt, hnxt⟩ : ∃ nxt, m1.buckets[bucketOf hash m1.buckets.size v.id]? = some nxt :=
    ⟨_, Array.getElem?_eq_getElem (bucketOf_lt hash inv.nb v.id)⟩
  simp only [h1, Res.bind, IndexMap.newEntry, ha, hne, Bool.false_eq_true, if_false, hashOf_eq, hnxt]
  refine ⟨_, rfl, ?_⟩
  have hsz3 : (hat2.set m1.blockList.size ⟨v, nxt⟩).size = m1.blockList.size + 1 := (hat_set_size ..).trans hs2
  have hlen : (ins ++ [v]).length = ins.length + 1 := List.length_append
  have hsize : ∀ i w, (m1.buckets.set! i w).size = m1.buckets.size := fun i w => by
    rw [Array.set!_eq_setIfInBounds, Array.size_setIfInBounds]
  exact {
    wf := wf2.set _ _
    size := by rw [hsz3, inv.size, hlen]
    num := by rw [hlen]; exact congrArg (· + 1) inv.num
    small := by rw [hsz3]; exact hidx
    nb := by show 0 < (m1.buckets.set! _ _).size; rw [hsize]; exact inv.nb
    vals := fun i h => by
      show ((hat2.set _ _).peek (i + 1)).map (·.v) = _
      rw [wf2.peek_set]
      by_cases hi : i = ins.length
      · obtain ⟨e0, he0⟩ := wf2.peek_some (pos := m1.blockList.size) (hs2 ▸ Nat.lt_succ_self _)
        subst hi
        rw [if_pos inv.size.symm, he0, List.getElem_concat_length rfl]; rfl
      · have hil : i < ins.length := Nat.lt_of_le_of_ne (Nat.le_of_lt_succ (Nat.lt_of_lt_of_eq h hlen)) hi
        rw [if_neg (fun e => hi (Nat.succ.inj (e.trans inv.size))), hp2 _ (inv.size ▸ Nat.succ_lt_succ hil),
          inv.vals i hil, List.getElem_append_left hil]
    part := by
      -- the old chains are chains of the grown tree; the new position is linked in front of its bucket
      show Part hash (m1.buckets.set! _ _).size _ (hat2.set _ _) (hat2.set _ _).size
      rw [hsz3, hsize]
      exact (inv.part.congr hash (hs2 ▸ Nat.le_succ _) hp2).link hash wf2 (inv.size ▸ Nat.succ_pos _)
        (hs2 ▸ Nat.lt_succ_self _) hidx ⟨v, _⟩ hnxt }

end
end Restic.Proofs.C56
