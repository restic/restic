import Restic.Proofs.C01_Lemmas
import Restic.Proofs.Basics
/-!
# C01 — restore ∘ backup on the abstract tree

The file restorer works pack by pack, so the blobs of one file are written in an order unrelated to
their position in the file (and a blob may be written more than once after a retry). Because every
blob is written at its own cumulative offset into a file that already has its final size, any
sequence of writes that covers every blob index yields the concatenation.

Hard links: `rsOf` is the restored list in closed form; the inode observed at a name is the position
of the path of its `leader`; source and restored partition agree because two files have the same
leader iff they have the same `(ino, dev)` (`leader_eq_iff`, the one place that needs `WF.single`).
-/
namespace Restic.Proofs.C01
open Restic.Model.Backup

theorem withOffsets_getElem? (o : Nat) (blobs : List Bytes) (i : Nat) :
    (withOffsets o blobs)[i]? = blobs[i]?.map fun b => (o + ((blobs.take i).flatten).length, b) := by
  induction blobs generalizing o i with
  | nil => rfl
  | cons b bs ih =>
    cases i with
    | zero => rfl
    | succ i =>
      simp only [withOffsets, List.getElem?_cons_succ, ih, List.take_succ_cons, List.flatten_cons, List.length_append,
        Nat.add_assoc]

/-- One write, with the file seen as a prefix followed by segments aligned with the blobs: blob `i`
    replaces segment `i`, and nothing happens when there is no blob `i`. -/
theorem writeIdx_segments (blobs segs : List Bytes) (hl : segs.map List.length = blobs.map List.length)
    (pre : Bytes) (i : Nat) :
    writeIdx (withOffsets pre.length blobs) (pre ++ segs.flatten) i =
      pre ++ (segs.set i (blobs.getD i [])).flatten := by
  induction blobs generalizing segs pre i with
  | nil => obtain rfl := List.map_eq_nil_iff.mp hl; rfl
  | cons b bs ih =>
    obtain _ | ⟨s, ss⟩ := segs
    · cases hl
    · injection hl with hs hss
      cases i with
      | zero =>
        show (pre ++ (s ++ ss.flatten)).take pre.length ++ b ++ (pre ++ (s ++ ss.flatten)).drop (pre.length + b.length) =
          pre ++ (b ++ ss.flatten)
        rw [List.take_left, ← hs, ← List.length_append, ← List.append_assoc pre s, List.drop_left, List.append_assoc]
      | succ i =>
        show writeIdx (withOffsets (pre.length + b.length) bs) (pre ++ (s ++ ss.flatten)) i =
          pre ++ (s ++ (ss.set i (bs.getD i [])).flatten)
        rw [← hs, ← List.length_append, ← List.append_assoc, ih ss hss, List.append_assoc]

theorem set_getD_self {α : Type} (l : List α) (i : Nat) (d : α) : l.set i (l.getD i d) = l := by
  by_cases h : i < l.length
  · rw [← List.getElem_eq_getD (h := h) d, List.set_getElem_self]
  · exact List.set_eq_of_length_le (Nat.le_of_not_lt h)

/-- `hc` is the invariant of the fold: a segment that is not yet its blob is still to be written. -/
theorem writes_cover (blobs segs : List Bytes) (hl : segs.map List.length = blobs.map List.length) (order : List Nat)
    (hc : ∀ j, j ∈ order ∨ segs[j]? = blobs[j]?) :
    order.foldl (writeIdx (withOffsets 0 blobs)) segs.flatten = blobs.flatten := by
  induction order generalizing segs with
  | nil => exact congrArg List.flatten (List.ext_getElem? fun j => (hc j).resolve_left List.not_mem_nil)
  | cons i rest ih =>
    rw [List.foldl_cons, show writeIdx (withOffsets 0 blobs) segs.flatten i = _ from writeIdx_segments blobs segs hl [] i]
    refine ih _ (by rw [List.map_set, hl, ← List.map_set, set_getD_self]) fun j => ?_
    rw [List.getElem?_set]
    by_cases hij : i = j
    · subst hij
      have hlen : segs.length = blobs.length := by simpa using congrArg List.length hl
      rw [if_pos rfl, hlen]
      by_cases hi : i < blobs.length
      · rw [if_pos hi, ← List.getElem_eq_getD (h := hi) [], List.getElem?_eq_getElem hi]; exact .inr rfl
      · rw [if_neg hi, List.getElem?_eq_none (Nat.le_of_not_lt hi)]; exact .inr rfl
    · rw [if_neg hij]
      exact (hc j).imp_left fun h => (List.mem_cons.mp h).resolve_left (Ne.symm hij)

/-- `order`: any order, repetitions allowed, out-of-range indices ignored. -/
theorem restore_anyorder (blobs : List Bytes) (order : List Nat) (hcover : ∀ i, i < blobs.length → i ∈ order) :
    order.foldl (writeIdx (withOffsets 0 blobs)) (List.replicate blobs.flatten.length 0) = blobs.flatten := by
  have hflat : (blobs.map fun b => List.replicate b.length (0 : UInt8)).flatten = List.replicate blobs.flatten.length 0 := by
    clear hcover
    induction blobs with
    | nil => rfl
    | cons b bs ih => rw [List.map_cons, List.flatten_cons, ih, List.replicate_append_replicate, List.flatten_cons, List.length_append]
  rw [← hflat]
  refine writes_cover blobs _ (by rw [List.map_map]; exact List.map_congr_left fun b _ => List.length_replicate ..) order fun j => ?_
  by_cases hj : j < blobs.length
  · exact .inl (hcover j hj)
  · right
    rw [List.getElem?_eq_none (Nat.le_of_not_lt hj), List.getElem?_eq_none (by rw [List.length_map]; exact Nat.le_of_not_lt hj)]

theorem restore_inorder (blobs : List Bytes) :
    (List.range blobs.length).foldl (writeIdx (withOffsets 0 blobs)) (List.replicate blobs.flatten.length 0)
      = blobs.flatten :=
  restore_anyorder blobs _ fun _ h => List.mem_range.mpr h

/-- well-formed source trees: paths are distinct; regular files with the same (st_dev, st_ino) are
    names of the same inode (same link count, content, metadata); an inode with link count 1 has
    one name. All three hold for every walk of a quiescent POSIX file system. -/
structure WF (t : List Item) : Prop where
  nodup : (t.map (·.path)).Nodup
  sameInode : ∀ a ∈ t, ∀ b ∈ t, a.kind = .file → b.kind = .file → (a.ino, a.dev) = (b.ino, b.dev) →
      a.nlink = b.nlink ∧ a.content = b.content ∧ a.md = b.md
  single : ∀ a ∈ t, ∀ b ∈ t, a.kind = .file → b.kind = .file → (a.ino, a.dev) = (b.ino, b.dev) → a.nlink ≤ 1 → a = b

theorem WF.filter {t : List Item} (h : WF t) (p : Item → Bool) : WF (t.filter p) where
  nodup := h.nodup.sublist (List.filter_sublist.map _)
  sameInode a ha b hb := h.sameInode a (List.mem_filter.mp ha).1 b (List.mem_filter.mp hb).1
  single a ha b hb := h.single a (List.mem_filter.mp ha).1 b (List.mem_filter.mp hb).1

def linkedItem (key : Nat × Nat) (a : Item) : Bool :=
  a.kind = .file && decide (a.nlink > 1) && decide ((a.ino, a.dev) = key)

theorem isLinked_toNode {ID : Type} (hash : Bytes → ID) (split : Bytes → List Bytes) (key : Nat × Nat) (a : Item) :
    isLinked key (toNode hash split a) = linkedItem key a := by
  unfold isLinked linkedItem toNode
  by_cases hk : a.kind = .file
  · simp [hk]
  · simp [hk]

/-- what the restorer leaves at the path of source entry `a` -/
def R (s : List Item) (a : Item) : Restored :=
  if a.kind = .file then
    match (s.find? (linkedItem (a.ino, a.dev))).map (·.path) with
    | some q => if q ≠ a.path then .link q a.md else .fresh .file a.md a.content [] 0
    | none => .fresh .file a.md a.content [] 0
  else .fresh a.kind a.md [] (if a.kind = .symlink then a.target else []) (if a.kind = .dev ∨ a.kind = .chardev then a.rdev else 0)

theorem idx_of_nodes {ID : Type} (hash : Bytes → ID) (split : Bytes → List Bytes) (s : List Item) (key : Nat × Nat) :
    idxValue (hardlinkIndex (s.map (toNode hash split))) key = (s.find? (linkedItem key)).map (·.path) := by
  rw [hardlinkIndex_eq, List.find?_map]
  have : (isLinked key ∘ toNode hash split) = linkedItem key := by
    funext a; exact isLinked_toNode hash split key a
  rw [this]
  cases s.find? (linkedItem key) with
  | none => rfl
  | some b => exact congrArg some (toNode_path hash split b)

theorem restoreNode_other {ID : Type} [DecidableEq ID] (S : Store ID) (idx : List ((Nat × Nat) × Path))
    (order : Path → List Nat) (n : Node ID) (hk : n.kind ≠ .file) :
    restoreNode S idx order n = some (n.path, .fresh n.kind n.md [] n.target n.device) := by
  unfold restoreNode
  split
  · contradiction
  · rfl

theorem restoreNode_eq {ID : Type} [DecidableEq ID] (hash : Bytes → ID) (split : Bytes → List Bytes)
    (hsplit : ∀ c, (split c).flatten = c) (s : List Item) (S : Store ID) (order : Path → List Nat) (a : Item)
    (hord : a.kind = .file → ∀ i, i < (split a.content).length → i ∈ order a.path)
    (hload : a.kind = .file → ∀ c ∈ split a.content, S.get (hash c) = some c) :
    restoreNode S (hardlinkIndex (s.map (toNode hash split))) order (toNode hash split a) = some (a.path, R s a) := by
  by_cases hk : a.kind = .file
  · have hc : restoreContent S ((split a.content).map hash) a.content.length (order a.path) = some a.content := by
      unfold restoreContent
      rw [loadAll_saved hash S _ (hload hk)]
      simp only
      have := restore_anyorder (split a.content) (order a.path) (hord hk)
      rw [hsplit] at this
      rw [this]
    rw [toNode, if_pos hk]
    simp only [restoreNode]
    rw [idx_of_nodes]
    simp only [R, hk, if_true]
    cases (s.find? (linkedItem (a.ino, a.dev))).map (·.path) with
    | none => simp [hc]
    | some q =>
      by_cases hq : q = a.path
      · simp [hq, hc]
      · simp [hq]
  · rw [toNode, if_neg hk, restoreNode_other _ _ _ _ hk, R, if_neg hk]

def rsOf (s : List Item) : List (Path × Restored) := s.map fun a => (a.path, R s a)

theorem find_by_path (G : Item → Restored) {l : List Item} (hn : (l.map (·.path)).Nodup) {b : Item} (hb : b ∈ l) :
    (l.map fun a => (a.path, G a)).find? (·.1 = b.path) = some (b.path, G b) := by
  induction l with
  | nil => cases hb
  | cons x xs ih =>
    simp only [List.map_cons, List.nodup_cons] at hn
    simp only [List.map_cons, List.find?_cons]
    rcases List.mem_cons.mp hb with hb | hb
    · subst hb; simp
    · have hne : x.path ≠ b.path := fun h => hn.1 (h ▸ List.mem_map.mpr ⟨b, hb, rfl⟩)
      simp only [hne, decide_false]
      exact ih hn.2 hb

theorem posOf_inj (rs : List (Path × Restored)) (p q : Path) (hp : p ∈ rs.map (·.1)) (hq : q ∈ rs.map (·.1))
    (h : posOf rs p = posOf rs q) : p = q := by
  unfold posOf at h
  have hex : ∀ p, p ∈ rs.map (·.1) → ∃ x ∈ rs, decide (x.1 = p) = true := fun p hp => by
    obtain ⟨x, hx, hxp⟩ := List.mem_map.mp hp
    exact ⟨x, hx, by simp [hxp]⟩
  have l1 := List.findIdx_lt_length_of_exists (hex p hp)
  have l2 := List.findIdx_lt_length_of_exists (hex q hq)
  have e1 := List.findIdx_getElem (w := l1)
  have e2 := List.findIdx_getElem (w := l2)
  simp only [decide_eq_true_eq] at e1 e2
  rw [← e1, ← e2]
  congr 1
  exact getElem_congr_idx h

/-- the entry whose path carries the inode `a` is a name of: the first entry with that inode and more
    than one link, or `a` itself when there is none -/
def leader (s : List Item) (a : Item) : Item := (s.find? (linkedItem (a.ino, a.dev))).getD a

theorem R_eq (s : List Item) (a : Item) (hk : a.kind = .file) :
    R s a = if (leader s a).path = a.path then .fresh .file a.md a.content [] 0 else .link (leader s a).path a.md := by
  unfold R leader
  rw [if_pos hk]
  cases s.find? (linkedItem (a.ino, a.dev)) with
  | none => exact (if_pos rfl).symm
  | some b =>
    show (if b.path ≠ a.path then _ else _) = if b.path = a.path then _ else _
    by_cases hp : b.path = a.path
    · rw [if_neg (not_not_intro hp), if_pos hp]
    · rw [if_pos hp, if_neg hp]; rfl

structure LeaderOf (s : List Item) (a l : Item) : Prop where
  mem : l ∈ s
  kind : l.kind = .file
  key : (l.ino, l.dev) = (a.ino, a.dev)
  content : l.content = a.content
  idem : leader s l = l

theorem leader_spec {s : List Item} (hwf : WF s) {a : Item} (ha : a ∈ s) (hk : a.kind = .file) :
    LeaderOf s a (leader s a) := by
  unfold leader
  cases hf : s.find? (linkedItem (a.ino, a.dev)) with
  | none => exact { mem := ha, kind := hk, key := rfl, content := rfl, idem := by rw [leader, Option.getD_none, hf]; rfl }
  | some b =>
    have hb := List.mem_of_find?_eq_some hf
    have hp := List.find?_some hf
    simp only [linkedItem, Bool.and_eq_true, decide_eq_true_eq] at hp
    obtain ⟨⟨h1, _⟩, h3⟩ := hp
    exact { mem := hb, kind := h1, key := h3, content := (hwf.sameInode b hb a ha h1 hk h3).2.1
            idem := by rw [leader, Option.getD_some, h3, hf]; rfl }

theorem leader_eq_iff {s : List Item} (hwf : WF s) {a b : Item} (ha : a ∈ s) (hb : b ∈ s)
    (hka : a.kind = .file) (hkb : b.kind = .file) :
    (a.ino, a.dev) = (b.ino, b.dev) ↔ leader s a = leader s b := by
  constructor
  · intro hkey
    unfold leader
    rw [← hkey]
    cases hf : s.find? (linkedItem (a.ino, a.dev)) with
    | some c => rfl
    | none =>
      -- no entry with this inode has a second link, so the inode has one name
      have := List.find?_eq_none.mp hf a ha
      simp only [linkedItem, hka, decide_true, Bool.true_and, Bool.and_true, decide_eq_true_eq] at this
      exact hwf.single a ha b hb hka hkb hkey (Nat.le_of_not_lt this)
  · intro h
    rw [← (leader_spec hwf ha hka).key, ← (leader_spec hwf hb hkb).key, h]

theorem observeOne_ino (s : List Item) (a : Item) (hk : a.kind = .file) :
    (observeOne (rsOf s) (a.path, R s a)).ino = posOf (rsOf s) (leader s a).path ∧
    (observeOne (rsOf s) (a.path, R s a)).dev = 0 := by
  rw [R_eq s a hk]
  by_cases hp : (leader s a).path = a.path
  · rw [if_pos hp, hp]; exact ⟨rfl, rfl⟩
  · rw [if_neg hp]; exact ⟨rfl, rfl⟩

theorem sameEntry_observed {s : List Item} (hwf : WF s) (a : Item) (ha : a ∈ s) :
    sameEntry a (observeOne (rsOf s) (a.path, R s a)) = true := by
  by_cases hk : a.kind = .file
  · have hl := leader_spec hwf ha hk
    rw [R_eq s a hk]
    by_cases hp : (leader s a).path = a.path
    · rw [if_pos hp]; simp [observeOne, sameEntry, hk]
    · -- a hard link shows the content written at its leader's path
      have hR : R s (leader s a) = .fresh .file (leader s a).md (leader s a).content [] 0 := by
        rw [R_eq s _ hl.kind, hl.idem, if_pos rfl]
      rw [if_neg hp]
      simp only [observeOne, rsOf, find_by_path (R s) hwf.nodup hl.mem, hR]
      simp [sameEntry, hk, hl.content]
  · have hR : R s a =
        .fresh a.kind a.md [] (if a.kind = .symlink then a.target else []) (if a.kind = .dev ∨ a.kind = .chardev then a.rdev else 0) := by
      simp [R, hk]
    rw [hR]
    simp only [observeOne, sameEntry]
    -- every clause compares a field with itself or is switched off by the kind
    cases hkk : a.kind with
    | file => exact absurd hkk hk
    | _ => simp

theorem sameInode_iff_pos {s : List Item} (hwf : WF s) (a b : Item) (ha : a ∈ s)
    (hb : b ∈ s) (hka : a.kind = .file) (hkb : b.kind = .file) :
    ((a.dev, a.ino) = (b.dev, b.ino)) ↔
      (posOf (rsOf s) (leader s a).path = posOf (rsOf s) (leader s b).path) := by
  have hmem : ∀ r, r ∈ s → r.path ∈ (rsOf s).map (·.1) := fun r hr => by
    simp only [rsOf, List.map_map]
    exact List.mem_map.mpr ⟨r, hr, rfl⟩
  have hla := (leader_spec hwf ha hka).mem
  have hlb := (leader_spec hwf hb hkb).mem
  -- `sameGrouping` compares `(dev, ino)`
  rw [show (a.dev, a.ino) = (b.dev, b.ino) ↔ (a.ino, a.dev) = (b.ino, b.dev) by simp only [Prod.mk.injEq, and_comm],
    leader_eq_iff hwf ha hb hka hkb]
  exact ⟨fun h => by rw [h], fun h => inj_of_nodup_map (·.path) _ hwf.nodup _ hla _ hlb (posOf_inj _ _ _ (hmem _ hla) (hmem _ hlb) h)⟩

theorem observe_specOK {t : List Item} (hwf : WF t) :
    specOK t (observe (rsOf (t.filter (·.kind != .socket)))) = true := by
  have hwf := hwf.filter (·.kind != .socket)
  unfold specOK
  generalize t.filter (·.kind != .socket) = s at hwf ⊢
  have hobs : observe (rsOf s) = s.map fun a => observeOne (rsOf s) (a.path, R s a) := by
    simp [observe, rsOf, List.map_map, Function.comp_def]
  simp only [Bool.and_eq_true]
  refine ⟨⟨?_, ?_⟩, ?_⟩
  · rw [hobs]; simp
  · rw [hobs, ← List.map_prod_left_eq_zip, List.all_map, List.all_eq_true]
    intro a ha
    exact sameEntry_observed hwf a ha
  · unfold sameGrouping
    rw [hobs, ← List.map_prod_left_eq_zip]
    simp only [List.all_map, List.all_eq_true, Function.comp_def]
    intro a ha b hb
    by_cases hf : a.kind = .file ∧ b.kind = .file
    · have hg := sameInode_iff_pos hwf a b ha hb hf.1 hf.2
      have ia := observeOne_ino s a hf.1
      have ib := observeOne_ino s b hf.2
      simp only [hf.1, hf.2, beq_self_eq_true, Bool.and_self, Bool.not_true, Bool.false_or]
      rw [ia.1, ia.2, ib.1, ib.2, beq_iff_eq, Bool.eq_iff_iff]
      simpa using hg
    · simp [show (a.kind == Kind.file && b.kind == Kind.file) = false by simpa using hf]

end Restic.Proofs.C01
