import Restic.Model.BeFiles
/-!
Lemmas about the backend-file model `Restic.Model.BeFiles` (finite map as association list).
-/
namespace Restic.Proofs.BeFiles
open Restic.Model.BeFiles

theorem get_cons (h' h : Handle) (c : Content) (st : State) :
    get ((h', c) :: st) h = if h' = h then some c else get st h := rfl

theorem get_erase (st : State) (h h' : Handle) :
    get (erase st h) h' = if h' = h then none else get st h' := by
  induction st with
  | nil => exact (ite_self _).symm
  | cons p rest ih =>
    obtain ⟨a, b⟩ := p
    unfold erase at ih ⊢
    rw [List.filter_cons]
    by_cases hp : a = h
    · rw [if_neg (by simpa using hp), ih, get_cons]
      split
      · rfl
      · next hne => rw [if_neg (hp ▸ Ne.symm hne)]
    · rw [if_pos (by simpa using hp), get_cons, get_cons, ih]
      split
      · next ha => rw [if_neg (ha ▸ hp)]
      · rfl

theorem get_put_same (st : State) (h : Handle) (c : Content) : get (put st h c) h = some c := by
  simp only [put, get_cons, if_true]

theorem get_put_ne (st : State) (h h' : Handle) (c : Content) (hne : h' ≠ h) :
    get (put st h c) h' = get st h' := by
  rw [put, get_cons, if_neg (Ne.symm hne), get_erase, if_neg hne]

theorem get_apply_untouched (st : State) (e : Ev) (h : Handle) (hn : e.target ≠ some h) :
    get (apply st e) h = get st h := by
  cases e with
  | save h' c =>
    have : h ≠ h' := fun e => hn (by simp [Ev.target, e])
    exact get_put_ne st h' h c this
  | remove h' =>
    have : h ≠ h' := fun e => hn (by simp [Ev.target, e])
    exact (get_erase st h' h).trans (if_neg this)
  | load _ => rfl
  | stat _ => rfl
  | list _ => rfl

theorem get_applyAll_untouched (evs : List Ev) (st : State) (h : Handle)
    (hn : ∀ e ∈ evs, e.target ≠ some h) : get (applyAll st evs) h = get st h :=
  List.foldlRecOn evs apply (motive := fun s => get s h = get st h) rfl
    fun s hs e he => (get_apply_untouched s e h (hn e he)).trans hs

theorem apply_readonly (st : State) (e : Ev) (hr : e.mutating = false) : apply st e = st := by
  cases e with
  | save | remove => cases hr
  | load | stat | list => rfl

theorem applyAll_readonly (evs : List Ev) (st : State) (hr : ∀ e ∈ evs, e.mutating = false) :
    applyAll st evs = st :=
  List.foldlRecOn evs apply (motive := (· = st)) rfl fun _ hs e he => hs ▸ apply_readonly st e (hr e he)

theorem applyAll_append (st : State) (a b : List Ev) :
    applyAll st (a ++ b) = applyAll (applyAll st a) b := by
  simp only [applyAll, List.foldl_append]

/-- a binding that is listed can be looked up (possibly shadowed by an earlier one) -/
theorem get_of_mem (st : State) (p : Handle × Content) (hp : p ∈ st) : ∃ c, get st p.1 = some c := by
  induction st with
  | nil => cases hp
  | cons q rest ih =>
    obtain ⟨a, b⟩ := q
    simp only [get_cons]
    by_cases ha : a = p.1
    · exact ⟨b, if_pos ha⟩
    · rw [if_neg ha]
      cases hp with
      | head => exact absurd rfl ha
      | tail _ h => exact ih h

theorem mem_of_get (st : State) (h : Handle) (c : Content) (hg : get st h = some c) : (h, c) ∈ st := by
  induction st with
  | nil => cases hg
  | cons q rest ih =>
    obtain ⟨a, b⟩ := q
    simp only [get_cons] at hg
    by_cases ha : a = h
    · simp only [ha, if_true, Option.some.injEq] at hg
      rw [ha, hg]; exact List.mem_cons_self
    · simp only [ha, if_false] at hg
      exact List.mem_cons_of_mem _ (ih hg)

end Restic.Proofs.BeFiles
