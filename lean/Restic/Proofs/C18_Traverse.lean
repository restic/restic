import Restic.Proofs.C18_Ensure
/-!
A state invariant that every visitor callback preserves (when called with paths made of plain
names) is preserved by the whole traversal: `traverseTreeInner` only calls the visitor with
`target`/`location` = the parent's path extended by a node name that passed the name checks.
-/
namespace Restic.Model.RestoreTree
open Restic.Model.RestoreFS

structure VisInv (v : Visitor) (P : St → Prop) : Prop where
  err : ∀ st, P st → P st.err
  nodel : ∀ st, P st → P { st with delete := false }
  enter : ∀ f, v.enterDir = some f → ∀ st rel, PlainPath rel → P st → P (f st rel).1
  visit : ∀ st n rel, PlainPath rel → rel ≠ [] → P st → P (v.visitNode st n rel).1
  -- only the root is left with `n = none`, `rel = []`
  leave : ∀ f, v.leaveDir = some f → ∀ st n rel exp, PlainPath rel → (n.isSome = true → rel ≠ []) →
    P st → P (f st n rel exp).1
  skipped : ∀ g, v.skippedDir = some g → ∀ st rel exp, PlainPath rel → P st → P (g st rel exp).1

theorem VisInv.sanitize {v : Visitor} {P : St → Prop} (h : VisInv v P) (r : St × Bool) (hr : P r.1) :
    P (sanitize r) := by
  unfold RestoreTree.sanitize
  split
  · exact hr
  · exact h.err _ hr

/-- a node name that passes both checks of `traverseTreeInner` is a plain component, and the
    node's path is the parent's path extended by it -/
theorem checks_plain {rel : Path} {name : Name} (hrel : PlainPath rel) (h1 : ¬(!nameCheck1 name) = true)
    (h2 : ¬(joinName rel name == rel || !List.isPrefixOf rel (joinName rel name)) = true) :
    PlainPath (joinName rel name) ∧ joinName rel name ≠ [] := by
  by_cases hs : (name == slash) = true
  · simp [joinName, hs] at h2
  · have : nameCheck1 name = true := by simpa using h1
    rw [nameCheck1, Bool.or_eq_true] at this
    simp only [joinName, hs, Bool.false_eq_true, if_false]
    exact ⟨plainPath_snoc hrel (plainName_of_plain (this.resolve_left hs)), by simp⟩

section
variable {v : Visitor} {P : St → Prop} (h : VisInv v P) {st : St} {rel : Path}
include h

/-! The three state expressions of `traverseNodes` that call the visitor, as they stand in its body. -/

theorem VisInv.enterIf (sel : Bool) (hrel : PlainPath rel) (hP : P st) :
    P (match sel, v.enterDir with
      | true, some f => RestoreTree.sanitize (f st rel)
      | _, _ => st) := by
  split
  · next f hed => exact h.sanitize _ (h.enter f hed st _ hrel hP)
  · exact hP

theorem VisInv.leaveOrSkip (b c : Bool) {n : Node} {fn : List Name} (hrel : PlainPath rel)
    (hne : rel ≠ []) (hP : P st) :
    P (match b, v.leaveDir with
      | true, some f => RestoreTree.sanitize (f st (some n) rel fn)
      | _, _ =>
        if c then
          (match v.skippedDir with
           | some g => RestoreTree.sanitize (g st rel fn)
           | none => st)
        else st) := by
  split
  · next f hed => exact h.sanitize _ (h.leave f hed st (some n) _ fn hrel (fun _ => hne) hP)
  · split
    · split
      · next g hsd => exact h.sanitize _ (h.skipped g hsd st _ fn hrel hP)
      · exact hP
    · exact hP

theorem VisInv.visitIf (sel : Bool) (n : Node) (hrel : PlainPath rel) (hne : rel ≠ []) (hP : P st) :
    P (if sel then RestoreTree.sanitize (v.visitNode st n rel) else st) := by
  split
  · exact h.sanitize _ (h.visit st n _ hrel hne hP)
  · exact hP

end

theorem traverse_inv (cfg : Cfg) (v : Visitor) (P : St → Prop) (hv : VisInv v P) :
    ∀ (rel : Path) (nodes : List Node) (st : St) (fn : List Name) (hr : Bool),
      PlainPath rel → P st → P (traverseNodes cfg v rel nodes st fn hr).1 := by
  -- cases in source order: `traverseDir` 1–3, `traverseNodes` 4–10
  apply traverseNodes.induct_unfolding cfg v
    (motive_1 := fun rel _ st _ _ res => PlainPath rel → P st → P res.1)
    (motive_2 := fun nodeRel _ _ st res => PlainPath nodeRel → P st → P res.1)
  -- `traverseDir` without descent, `[]`, a directory node without subtree: the state is returned
  case case1 | case4 | case8 => intros; assumption
  -- `traverseDir`, the recursive call fatal or not
  case case2 =>
    intros; rename_i heq ih hrel hP
    exact hv.err _ (by simpa only [heq] using ih hrel hP)
  case case3 =>
    intros; rename_i heq _ ih hrel hP
    simpa only [heq] using ih hrel hP
  -- a name that fails the first or the second check
  case case5 | case6 =>
    intros; rename_i ih hrel hP
    exact ih hrel (hv.nodel _ (hv.err _ hP))
  -- socket
  case case7 =>
    intros; rename_i ih hrel hP
    exact ih hrel hP
  -- directory
  case case9 =>
    intro _ _ _ _ _ _ _ h1 _ h2 _ sel _ _ _ _ _ _ _ _ _ hdir _ _ ihDir ihRest hrel hP
    obtain ⟨hnr, hne⟩ := checks_plain hrel h1 h2
    have hP2 := ihDir hnr (hv.enterIf sel hnr hP)
    rw [hdir] at hP2
    exact ihRest hrel (hv.leaveOrSkip _ _ hnr hne hP2)
  -- any other node
  case case10 =>
    intro _ n _ _ _ _ _ h1 _ h2 _ sel _ _ _ _ _ ih hrel hP
    obtain ⟨hnr, hne⟩ := checks_plain hrel h1 h2
    exact ih hrel (hv.visitIf sel n hnr hne hP)

theorem traverseTree_inv (cfg : Cfg) (v : Visitor) (P : St → Prop) (hv : VisInv v P)
    (tree : List Node) (st : St) (hP : P st) : P (traverseTree cfg v tree st).1 := by
  have hnil : PlainPath ([] : Path) := fun n hn => by cases hn
  have hP0 : P (rootEnter v st) := by
    unfold rootEnter
    split
    · next f hed => exact hv.sanitize _ (hv.enter f hed st [] hnil hP)
    · exact hP
  have hP1 := traverse_inv cfg v P hv [] tree (rootEnter v st) [] false hnil hP0
  unfold traverseTree
  generalize traverseNodes cfg v [] tree (rootEnter v st) [] false = r at hP1 ⊢
  obtain ⟨st1, fn, hr, fatal⟩ := r
  unfold rootLeave
  cases fatal with
  | true => exact hP1
  | false =>
    simp only [Bool.false_eq_true, if_false]
    cases hr with
    | false =>
      simp only [Bool.not_false, if_true]
      cases hsd : v.skippedDir with
      | none => exact hP1
      | some g => exact hv.sanitize _ (hv.skipped g hsd st1 [] fn hnil hP1)
    | true =>
      cases hed : v.leaveDir with
      | none => exact hP1
      | some f => exact hv.sanitize _ (hv.leave f hed st1 none [] fn hnil (fun h => by cases h) hP1)

end Restic.Model.RestoreTree
