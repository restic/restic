import Restic.Model.Dedup
/-!
C16: the per-handle invariant of the deduplication model. Every step of a call is an instance of the
one transition `after`; storing a pack only moves handles into the index.
-/
namespace Restic.Proofs.C16
open Restic.Model.Dedup

/-- the call obtained `known = false` from AddPending (it "claimed" the blob) -/
def claims (t : Thread) : Bool :=
  match t.pc with
  | .checked false => true
  | .done false => true
  | _ => false

/-- the call has executed saveAndEncrypt -/
def saved (t : Thread) : Bool :=
  match t.pc with
  | .done k => !k || t.call.dup
  | _ => false

/-- the call was told `known = true` -/
def toldKnown (t : Thread) : Bool :=
  match t.pc with
  | .checked true => true
  | .done true => true
  | _ => false

theorem claims_done {t : Thread} {k : Bool} (h : t.pc = .done k) : claims t = !k := by
  rw [claims, h]; cases k <;> rfl

theorem saved_done {t : Thread} {k : Bool} (h : t.pc = .done k) : saved t = (!k || t.call.dup) := by
  rw [saved, h]

theorem toldKnown_done {t : Thread} {k : Bool} (h : t.pc = .done k) : toldKnown t = k := by
  rw [toldKnown, h]; cases k <;> rfl

def claimers (h : Handle) (ts : List Thread) : Nat := ts.countP fun t => t.call.h == h && claims t
def savers (h : Handle) (ts : List Thread) : Nat := ts.countP fun t => t.call.h == h && saved t

/-- "somebody claimed `h` in this run, or it was in the index from the start" -/
def K (idx0 : List Handle) (h : Handle) (s : St) : Prop := claimers h s.threads = 1 ∨ h ∈ idx0

/-- What is claimed of a handle is `le_one`, `idx0_unclaimed` and `saves_eq` (at most one call is told "not
    known", none if the blob was indexed before, and the saves are those of the claimer and of `dup` calls);
    `saved_somewhere` is what `all_indexed_after_flush` reads. The rest carries the induction: a handle is
    pending, indexed, packed or reported known only if `K` holds, and then nobody can claim it again. -/
structure Inv (idx0 : List Handle) (calls : List Call) (h : Handle) (s : St) : Prop where
  calls_eq : s.threads.map (·.call) = calls
  le_one : claimers h s.threads ≤ 1
  claimed_known : claimers h s.threads = 1 → h ∈ s.pending ∨ h ∈ s.index
  idx_mono : ∀ x ∈ idx0, x ∈ s.index
  idx0_unclaimed : h ∈ idx0 → claimers h s.threads = 0
  pend : h ∈ s.pending → claimers h s.threads = 1
  idx : h ∈ s.index → K idx0 h s
  pack : h ∈ s.packed → K idx0 h s
  told : ∀ t ∈ s.threads, t.call.h = h → toldKnown t = true → K idx0 h s
  saves_eq : s.saves.count h = savers h s.threads
  saved_somewhere : ∀ t ∈ s.threads, t.call.h = h → saved t = true → h ∈ s.packed ∨ h ∈ s.index

theorem init_inv (idx0 : List Handle) (calls : List Call) (h : Handle) : Inv idx0 calls h (St.init idx0 calls) := by
  have hpc : ∀ t ∈ (St.init idx0 calls).threads, t.pc = .start := fun t ht => by
    obtain ⟨c, _, rfl⟩ := List.mem_map.mp ht; rfl
  have hc : claimers h (St.init idx0 calls).threads = 0 :=
    List.countP_eq_zero.mpr fun t ht => by simp only [claims, hpc t ht, Bool.and_false, Bool.false_eq_true, not_false_eq_true]
  have hs : savers h (St.init idx0 calls).threads = 0 :=
    List.countP_eq_zero.mpr fun t ht => by simp only [saved, hpc t ht, Bool.and_false, Bool.false_eq_true, not_false_eq_true]
  exact {
    calls_eq := by simp only [St.init, List.map_map, Function.comp_def, List.map_id']
    le_one := hc ▸ Nat.zero_le 1
    claimed_known := fun h1 => absurd (hc ▸ h1) nofun
    idx_mono := fun x hx => hx
    idx0_unclaimed := fun _ => hc
    pend := nofun
    idx := fun hi => .inr hi
    pack := nofun
    told := fun t ht _ hk => by simp only [toldKnown, hpc t ht, Bool.false_eq_true] at hk
    saves_eq := hs ▸ rfl
    saved_somewhere := fun t ht _ hk => by simp only [saved, hpc t ht, Bool.false_eq_true] at hk }

theorem storePack_inv {idx0 calls h s} (hinv : Inv idx0 calls h s) (hs : List Handle) (hsub : ∀ x ∈ hs, x ∈ s.packed) :
    Inv idx0 calls h (storePack s hs) := by
  have hmove : ∀ {l : List Handle}, (h ∈ l ∨ h ∈ s.index) →
      h ∈ l.filter (fun x => !hs.contains x) ∨ h ∈ hs ++ s.index := fun hl => by
    simp only [List.mem_filter, List.mem_append, Bool.not_eq_true', List.contains_eq_mem, decide_eq_false_iff_not]
    by_cases hh : h ∈ hs
    · exact .inr (.inl hh)
    · exact hl.imp (⟨·, hh⟩) .inr
  exact { hinv with
    claimed_known := fun hc => hmove (hinv.claimed_known hc)
    idx_mono := fun x hx => List.mem_append_right _ (hinv.idx_mono x hx)
    pend := fun hp => hinv.pend (List.mem_filter.mp hp).1
    idx := fun hi => (List.mem_append.mp hi).elim (fun h1 => hinv.pack (hsub h h1)) hinv.idx
    pack := fun hp => hinv.pack (List.mem_filter.mp hp).1
    saved_somewhere := fun t ht hth hsv => hmove (hinv.saved_somewhere t ht hth hsv) }

/-- The state after a step of call `i`: its thread is now `t'`; if the step claimed the blob (`c`) the handle
    is pending, if it saved the blob (`v`) there is one more save, in a pack not yet stored. -/
def after (s : St) (i : Nat) (t' : Thread) (c v : Bool) : St :=
  { s with pending := if c then t'.call.h :: s.pending else s.pending,
           saves := if v then t'.call.h :: s.saves else s.saves,
           packed := if v then t'.call.h :: s.packed else s.packed,
           threads := s.threads.set i t' }

theorem countP_set_thread {p : Thread → Bool} {l : List Thread} {i : Nat} {t : Thread} (ht : l[i]? = some t) (t' : Thread) :
    (l.set i t').countP p + (if p t = true then 1 else 0) = l.countP p + (if p t' = true then 1 else 0) := by
  obtain ⟨hi, rfl⟩ := List.getElem?_eq_some_iff.mp ht
  rw [List.countP_set hi]
  by_cases hp : p l[i] = true
  · have : 0 < l.countP p := List.countP_pos_iff.mpr ⟨_, List.getElem_mem hi, hp⟩
    rw [if_pos hp]; omega
  · rw [if_neg hp]; omega

/-- The hypotheses say what a step may do to its thread: claim only an unknown blob, be told `known` only of a
    known blob, save only after claiming the blob or being told `known`. -/
theorem after_inv {idx0 calls h} {s : St} (hinv : Inv idx0 calls h s) {i : Nat} {t t' : Thread} {c v : Bool}
    (ht : s.threads[i]? = some t) (hcall : t'.call = t.call)
    (hclaims : claims t' = (claims t || c)) (hsaved : saved t = false) (hsaved' : saved t' = v)
    (hc : c = true → claims t = false ∧ t.call.h ∉ s.pending ∧ t.call.h ∉ s.index)
    (hv : v = true → claims t = true ∨ toldKnown t = true)
    (htold : toldKnown t' = true → toldKnown t = true ∨ t.call.h ∈ s.pending ∨ t.call.h ∈ s.index) :
    Inv idx0 calls h (after s i t' c v) := by
  obtain ⟨hi, hti⟩ := List.getElem?_eq_some_iff.mp ht
  have htm : t ∈ s.threads := List.mem_of_getElem? ht
  have hcl : claimers h (s.threads.set i t') =
      claimers h s.threads + (if t.call.h = h ∧ c = true then 1 else 0) := by
    have := countP_set_thread (p := fun t => t.call.h == h && claims t) ht t'
    unfold claimers
    simp only [hcall, hclaims, Bool.and_eq_true, Bool.or_eq_true, beq_iff_eq] at this
    cases c
    · simpa using this
    · simp only [(hc rfl).1, Bool.false_eq_true, and_false, or_true, and_true, if_false] at this ⊢; omega
  have hsv : savers h (s.threads.set i t') = savers h s.threads + (if t.call.h = h ∧ v = true then 1 else 0) := by
    have := countP_set_thread (p := fun t => t.call.h == h && saved t) ht t'
    unfold savers
    simpa only [hcall, hsaved, hsaved', Bool.and_eq_true, beq_iff_eq, Bool.false_eq_true, and_false, if_false,
      Nat.add_zero] using this
  have hcalls : (s.threads.set i t').map (·.call) = calls := by
    have h1 : s.threads.set i t = s.threads := hti ▸ List.set_getElem_self hi
    rw [List.map_set, hcall]
    exact (List.map_set (f := fun x : Thread => x.call)).symm.trans (by rw [h1, hinv.calls_eq])
  have hcons : ∀ {b : Bool} {l : List Handle}, h ∈ (if b = true then t'.call.h :: l else l) ↔
      (t.call.h = h ∧ b = true) ∨ h ∈ l := by
    intro b l; cases b <;> simp [hcall, eq_comm]
  have hsaves : (after s i t' c v).saves.count h = savers h (s.threads.set i t') := by
    rw [hsv, ← hinv.saves_eq]
    show List.count h (if v = true then _ else _) = _
    cases v <;> simp [hcall, List.count_cons]
  have hsomewhere : ∀ x ∈ s.threads.set i t', x.call.h = h → saved x = true →
      h ∈ (after s i t' c v).packed ∨ h ∈ s.index := fun x hx hxh hxs => by
    rcases List.mem_or_eq_of_mem_set hx with hx | rfl
    · exact (hinv.saved_somewhere x hx hxh hxs).imp_left fun hp => hcons.mpr (.inr hp)
    · exact .inl (hcons.mpr (.inl ⟨hcall ▸ hxh, hsaved' ▸ hxs⟩))
  by_cases hd : t.call.h = h ∧ c = true
  · -- the call claims `h`: nobody had claimed it, and it was not in the index
    obtain ⟨rfl, rfl⟩ := hd
    obtain ⟨-, hnp, hni⟩ := hc rfl
    have hzero : claimers t.call.h s.threads = 0 := by
      have h1 := hinv.le_one
      have h2 : claimers t.call.h s.threads ≠ 1 := fun h2 => (hinv.claimed_known h2).elim hnp hni
      omega
    have hone : claimers t.call.h (s.threads.set i t') = 1 := by rw [hcl, hzero, if_pos ⟨rfl, rfl⟩]
    have hK : K idx0 t.call.h (after s i t' true v) := .inl hone
    exact {
      calls_eq := hcalls
      le_one := Nat.le_of_eq hone
      claimed_known := fun _ => .inl (hcons.mpr (.inl ⟨rfl, rfl⟩))
      idx_mono := hinv.idx_mono
      idx0_unclaimed := fun h0 => absurd (hinv.idx_mono _ h0) hni
      pend := fun _ => hone
      idx := fun _ => hK
      pack := fun _ => hK
      told := fun _ _ _ _ => hK
      saves_eq := hsaves
      saved_somewhere := hsomewhere }
  · -- no new claim of `h`: its claimers, and whether it is pending, are as before
    rw [if_neg hd, Nat.add_zero] at hcl
    have hpend : h ∈ (after s i t' c v).pending ↔ h ∈ s.pending := hcons.trans (or_iff_right hd)
    have hK : K idx0 h s → K idx0 h (after s i t' c v) := fun hk => hk.imp (hcl ▸ ·) id
    have hKv : t.call.h = h → v = true → K idx0 h s := fun hh hv' => by
      subst hh
      rcases hv hv' with h1 | h1
      · have : 0 < claimers t.call.h s.threads :=
          List.countP_pos_iff.mpr ⟨t, htm, by simp only [h1, beq_self_eq_true, Bool.and_self]⟩
        have := hinv.le_one
        exact .inl (by omega)
      · exact hinv.told t htm rfl h1
    refine {
      calls_eq := hcalls
      le_one := hcl ▸ hinv.le_one
      claimed_known := fun h1 => (hinv.claimed_known (hcl ▸ h1)).imp_left hpend.mpr
      idx_mono := hinv.idx_mono
      idx0_unclaimed := fun h0 => hcl ▸ hinv.idx0_unclaimed h0
      pend := fun hp => hcl ▸ hinv.pend (hpend.mp hp)
      idx := fun hi => hK (hinv.idx hi)
      pack := fun hp => hK ((hcons.mp hp).elim (fun h1 => hKv h1.1 h1.2) hinv.pack)
      told := fun x hx hxh hxk => hK ?_
      saves_eq := hsaves
      saved_somewhere := hsomewhere }
    rcases List.mem_or_eq_of_mem_set hx with hx | rfl
    · exact hinv.told x hx hxh hxk
    · rw [hcall] at hxh
      subst hxh
      rcases htold hxk with h1 | h1 | h1
      · exact hinv.told t htm rfl h1
      · exact .inl (hinv.pend h1)
      · exact hinv.idx h1

theorem step_checked {s : St} {i : Nat} {t : Thread} {k : Bool} (ht : s.threads[i]? = some t) (hpc : t.pc = .checked k) :
    step s (.thread i) = after s i { t with pc := .done k } false (!k || t.call.dup) := by
  simp only [step, ht, hpc, after]
  split <;> rfl

theorem step_start_known {s : St} {i : Nat} {t : Thread} (ht : s.threads[i]? = some t) (hpc : t.pc = .start)
    (hk : t.call.h ∈ s.pending ∨ t.call.h ∈ s.index) :
    step s (.thread i) = after s i { t with pc := .checked true } false false := by
  rcases hk with h1 | h1 <;> simp [step, ht, hpc, after, addPending, h1]

theorem step_start_new {s : St} {i : Nat} {t : Thread} (ht : s.threads[i]? = some t) (hpc : t.pc = .start)
    (hp : t.call.h ∉ s.pending) (hi : t.call.h ∉ s.index) :
    step s (.thread i) = after s i { t with pc := .checked false } true false := by
  simp [step, ht, hpc, after, addPending, hp, hi]

theorem step_inv {idx0 calls h} {s : St} (hinv : Inv idx0 calls h s) (a : Act) : Inv idx0 calls h (step s a) := by
  cases a with
  | flush => exact storePack_inv hinv _ (fun x hx => hx)
  | store hs => exact storePack_inv hinv _ fun x hx => by simpa using (List.mem_filter.mp hx).2
  | thread i =>
    cases ht : s.threads[i]? with
    | none => simp only [step, ht]; exact hinv
    | some t =>
      cases hpc : t.pc with
      | done k => simp only [step, ht, hpc]; exact hinv
      | checked k =>
        -- `saveAndEncrypt` unless the blob is known and no duplicate was asked for
        rw [step_checked ht hpc]
        exact after_inv hinv ht (hcall := rfl)
          (hclaims := by cases k <;> simp [claims, hpc]) (hsaved := by simp [saved, hpc]) (hsaved' := by simp [saved])
          (hc := nofun) (hv := fun _ => by cases k <;> simp [claims, toldKnown, hpc])
          (htold := by cases k <;> simp [toldKnown, hpc])
      | start =>
        by_cases hk : t.call.h ∈ s.pending ∨ t.call.h ∈ s.index
        · -- `AddPending` finds the blob: told `known`
          rw [step_start_known ht hpc hk]
          exact after_inv hinv ht (hcall := rfl) (hclaims := by simp [claims, hpc]) (hsaved := by simp [saved, hpc])
            (hsaved' := by simp [saved]) (hc := nofun) (hv := nofun) (htold := fun _ => .inr hk)
        · -- `AddPending` inserts it: the call has claimed the blob
          rw [not_or] at hk
          rw [step_start_new ht hpc hk.1 hk.2]
          exact after_inv hinv ht (hcall := rfl) (hclaims := by simp [claims, hpc]) (hsaved := by simp [saved, hpc])
            (hsaved' := by simp [saved]) (hc := fun _ => ⟨by simp [claims, hpc], hk.1, hk.2⟩) (hv := nofun)
            (htold := by simp [toldKnown])

theorem run_inv (idx0 : List Handle) (calls : List Call) (h : Handle) (sched : List Act) :
    Inv idx0 calls h (run idx0 calls sched) :=
  List.foldlRecOn sched step (init_inv idx0 calls h) fun _ hs a _ => step_inv hs a

end Restic.Proofs.C16
