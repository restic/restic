import Restic.Proofs.C44_Packer
import Restic.Proofs.Fold
/-!
C44: the manager invariant `PMInv`; the one case analysis of `SaveBlob` (`saveBlob_cases`: when it panics, that the
slots keep their number, and its `SaveEffect` on the open packers and the queue); the loop invariant `MergeInv` of
`mergePackers` and what `Flush` keeps.
-/
namespace Restic.Proofs.C44
open Restic.Model.Packer

def packers (pm : PM) : List Packer := slotPackers pm ++ pm.queued

/-- `nodup`, `lt_next`: `forgetPacker` clears slots by serial and a new packer takes `next`, so the serials have to
    tell all packers of the manager apart. -/
structure PMInv (c : Cfg) (pm : PM) : Prop where
  opens : ∀ p ∈ slotPackers pm, Open c pm.packSize p
  goods : ∀ q ∈ pm.queued, Good c pm.packSize q
  nodup : ((packers pm).map (·.serial)).Nodup
  lt_next : ∀ p ∈ packers pm, p.serial < pm.next

def cnt (a : Blob) (l : List Packer) : Nat := (l.map (fun p => p.blobs.count a)).sum

theorem cnt_append (a : Blob) (l m : List Packer) : cnt a (l ++ m) = cnt a l + cnt a m := by
  simp only [cnt, List.map_append, List.sum_append]

theorem cnt_cons (a : Blob) (p : Packer) (l : List Packer) : cnt a (p :: l) = p.blobs.count a + cnt a l := rfl

theorem cnt_nil (a : Blob) : cnt a [] = 0 := rfl

theorem cnt_perm (a : Blob) {l m : List Packer} (h : l.Perm m) : cnt a l = cnt a m := (h.map _).sum_nat

theorem count_blobs (a : Blob) (l : List Packer) : (l.flatMap (·.blobs)).count a = cnt a l := List.count_flatMap ..

theorem slotPackers_mk (ps : Nat) (sl : List (Option Packer)) (n : Nat) (q : List Packer) :
    slotPackers ⟨ps, sl, n, q⟩ = sl.filterMap id := rfl

/-- Effect of one accepted `SaveBlob` that queued `q`, on the open packers (up to the order of the slots)
    and on the queue. The blob went to `p`: the packer found in the chosen slot (`old = some p`) or a new
    one with the fresh serial `pm.next` (`old = none`); `R` are the other open packers. -/
structure SaveEffect (c : Cfg) (pm pm' : PM) (b : Blob) (q : Option Packer)
    (R : List Packer) (old : Option Packer) (p : Packer) : Prop where
  slots : (slotPackers pm).Perm (old.toList ++ R)
  pick : old = some p ∨ (old = none ∧ p = Packer.new pm.next ∧ pm'.next = pm.next + 1)
  packSize : pm'.packSize = pm.packSize
  next_le : pm.next ≤ pm'.next
  queued : pm'.queued = q.toList ++ pm.queued
  slots' : (q = none ∧ (slotPackers pm').Perm (p.add b :: R) ∧
              (p.add b).bytes < pm.packSize ∧ hdrFull c (p.add b).n = false) ∨
           (q = some (p.add b) ∧ (slotPackers pm').Perm R)

theorem PMInv.slots_nodup {c : Cfg} {pm : PM} (h : PMInv c pm) : ((slotPackers pm).map (·.serial)).Nodup :=
  ((List.sublist_append_left _ _).map _).nodup h.nodup

theorem PMInv.queued_nodup {c : Cfg} {pm : PM} (h : PMInv c pm) : (pm.queued.map (·.serial)).Nodup :=
  ((List.sublist_append_right _ _).map _).nodup h.nodup

theorem saveBlob_stay {c : Cfg} {pm pm1 : PM} {b : Blob} {idx i : Nat} {p : Packer}
    (h : pm.pickPacker b.len idx = some ⟨p, some i, pm1⟩)
    (hfit : (p.add b).bytes < pm1.packSize ∧ ¬ (p.add b).headerFull c = true) :
    pm.saveBlob c b idx =
      ({ pm1 with slots := pm1.slots.set i (some (p.add b)) }, .ok (b.len + entryBytes c b) none) := by
  simp only [PM.saveBlob, h, if_pos hfit]

theorem saveBlob_queue {c : Cfg} {pm pm1 : PM} {b : Blob} {idx : Nat} {home : Option Nat} {p : Packer}
    (h : pm.pickPacker b.len idx = some ⟨p, home, pm1⟩)
    (hfull : ¬ ((p.add b).bytes < pm1.packSize ∧ ¬ (p.add b).headerFull c = true)) :
    pm.saveBlob c b idx =
      ({ pm1 with slots := forget pm1.slots (p.add b).serial, queued := p.add b :: pm1.queued },
        .ok (b.len + entryBytes c b + c.headerOverhead) (some (p.add b))) := by
  simp only [PM.saveBlob, h, if_neg hfull]

/-- an accepted `SaveBlob`; `PMInv` is asked for only where `forgetPacker` comes in -/
structure SaveOK (c : Cfg) (pm : PM) (b : Blob) (idx : Nat) (pm' : PM) (sz : Nat) (q : Option Packer) : Prop where
  result : pm.saveBlob c b idx = (pm', .ok sz q)
  length : pm'.slots.length = pm.slots.length
  effect : PMInv c pm → ∃ R old p, SaveEffect c pm pm' b q R old p

theorem saveBlob_cases (c : Cfg) (pm : PM) (b : Blob) (idx : Nat) :
    (pm.slots.length ≤ idx ∧ pm.saveBlob c b idx = (pm, .panic)) ∨ ∃ pm' sz q, SaveOK c pm b idx pm' sz q := by
  have hlt : PMInv c pm → ∀ r ∈ slotPackers pm, r.serial ≠ pm.next := fun hinv r hr =>
    Nat.ne_of_lt (hinv.lt_next r (List.mem_append_left _ hr))
  by_cases hov : b.len ≥ pm.packSize
  · -- oversized blob: a packer of its own, always queued
    have hpick : pm.pickPacker b.len idx = some ⟨Packer.new pm.next, none, { pm with next := pm.next + 1 }⟩ :=
      if_pos hov
    have hnofit : ¬ (((Packer.new pm.next).add b).bytes < pm.packSize ∧ ¬ ((Packer.new pm.next).add b).headerFull c = true) :=
      fun h => Nat.lt_irrefl _ (Nat.lt_of_le_of_lt (Nat.le_trans hov (Nat.le_add_left ..)) h.1)
    exact .inr ⟨_, _, _, {
      result := saveBlob_queue hpick hnofit
      length := List.length_map ..
      effect := fun hinv => ⟨slotPackers pm, none, _, {
        slots := .refl _, pick := .inr ⟨rfl, rfl, rfl⟩, packSize := rfl, next_le := Nat.le_succ _, queued := rfl
        slots' := .inr ⟨rfl, forget_perm (old := none) (.refl _) (fun _ h => nomatch h) (hlt hinv)⟩ }⟩ }⟩
  · cases hs : pm.slots[idx]? with
    | none =>
      exact .inl ⟨List.getElem?_eq_none_iff.mp hs, by simp only [PM.saveBlob, PM.pickPacker, if_neg hov, hs]⟩
    | some o =>
      right
      obtain ⟨hsl, hset⟩ := slots_perm hs
      cases o with
      | some p =>
        -- the slot holds `p`: the blob goes there
        have hpick : pm.pickPacker b.len idx = some ⟨p, some idx, pm⟩ := by
          simp only [PM.pickPacker, if_neg hov, hs]
        have hR : PMInv c pm → ∀ r ∈ (pm.slots.eraseIdx idx).filterMap id, r.serial ≠ p.serial := fun hinv r hr e =>
          (List.nodup_cons.mp ((hsl.map (·.serial)).nodup_iff.mp hinv.slots_nodup)).1 (List.mem_map.mpr ⟨r, hr, e⟩)
        by_cases hfit : (p.add b).bytes < pm.packSize ∧ ¬ (p.add b).headerFull c = true
        · exact ⟨_, _, _, {
            result := saveBlob_stay hpick hfit
            length := List.length_set ..
            effect := fun _ => ⟨_, some p, p, {
              slots := hsl, pick := .inl rfl, packSize := rfl, next_le := Nat.le_refl _, queued := rfl
              slots' := .inl ⟨rfl, hset (some (p.add b)), hfit.1, Bool.eq_false_iff.mpr hfit.2⟩ }⟩ }⟩
        · exact ⟨_, _, _, {
            result := saveBlob_queue hpick hfit
            length := List.length_map ..
            effect := fun hinv => ⟨_, some p, p, {
              slots := hsl, pick := .inl rfl, packSize := rfl, next_le := Nat.le_refl _, queued := rfl
              slots' := .inr ⟨rfl, forget_perm hsl (fun _ h => Option.some.inj h ▸ rfl) (hR hinv)⟩ }⟩ }⟩
      | none =>
        -- the slot is empty: a new packer with serial `pm.next` is put there first
        have hpick : pm.pickPacker b.len idx = some ⟨Packer.new pm.next, some idx,
            { pm with next := pm.next + 1, slots := pm.slots.set idx (some (Packer.new pm.next)) }⟩ := by
          simp only [PM.pickPacker, if_neg hov, hs]
        by_cases hfit : ((Packer.new pm.next).add b).bytes < pm.packSize ∧ ¬ ((Packer.new pm.next).add b).headerFull c = true
        · refine ⟨_, _, _, {
            result := saveBlob_stay hpick hfit
            length := by simp only [List.length_set]
            effect := fun _ => ⟨_, none, _, {
              slots := hsl, pick := .inr ⟨rfl, rfl, rfl⟩, packSize := rfl, next_le := Nat.le_succ _, queued := rfl
              slots' := .inl ⟨rfl, ?_, hfit.1, Bool.eq_false_iff.mpr hfit.2⟩ }⟩ }⟩
          rw [slotPackers_mk, List.set_set]
          exact hset _
        · exact ⟨_, _, _, {
            result := saveBlob_queue hpick hfit
            length := (List.length_map ..).trans (List.length_set ..)
            effect := fun hinv => ⟨_, none, _, {
              slots := hsl, pick := .inr ⟨rfl, rfl, rfl⟩, packSize := rfl, next_le := Nat.le_succ _, queued := rfl
              slots' := .inr ⟨rfl, forget_perm (hset (some (Packer.new pm.next))) (fun _ h => Option.some.inj h ▸ rfl)
                fun r hr => hlt hinv r (hsl.mem_iff.mpr hr)⟩ }⟩ }⟩

theorem saveBlob_ok {c : Cfg} {pm pm' : PM} {b : Blob} {idx sz : Nat} {q : Option Packer} (hinv : PMInv c pm)
    (h : pm.saveBlob c b idx = (pm', .ok sz q)) : ∃ R old p, SaveEffect c pm pm' b q R old p := by
  rcases saveBlob_cases c pm b idx with ⟨_, e⟩ | ⟨_, _, _, ok⟩
  · cases e.symm.trans h
  · cases ok.result.symm.trans h; exact ok.effect hinv

theorem SaveEffect.packers_perm {c : Cfg} {pm pm' : PM} {b : Blob} {q R old p}
    (h : SaveEffect c pm pm' b q R old p) :
    (packers pm).Perm (old.toList ++ (R ++ pm.queued)) ∧ (packers pm').Perm (p.add b :: (R ++ pm.queued)) := by
  refine ⟨(h.slots.append_right _).trans (.of_eq (List.append_assoc ..)), ?_⟩
  rw [packers, h.queued]
  rcases h.slots' with ⟨rfl, hs, _⟩ | ⟨rfl, hs⟩
  · exact hs.append_right _
  · exact (hs.append_right _).trans List.perm_middle

theorem SaveEffect.inv {c : Cfg} (hc : CfgOK c) {pm pm' : PM} {b : Blob} {q R old p}
    (hps : 0 < pm.packSize) (hinv : PMInv c pm) (h : SaveEffect c pm pm' b q R old p) : PMInv c pm' := by
  obtain ⟨hP, hP'⟩ := h.packers_perm
  have hR : ∀ r ∈ R, r ∈ slotPackers pm := fun r hr => h.slots.mem_iff.mpr (List.mem_append_right _ hr)
  have hT : ∀ r ∈ R ++ pm.queued, r ∈ packers pm := fun r hr => hP.mem_iff.mpr (List.mem_append_right _ hr)
  have hgood : Good c pm.packSize (p.add b) := by
    refine add_good ?_ b
    rcases h.pick with rfl | ⟨_, rfl, _⟩
    · exact (hinv.opens p (h.slots.mem_iff.mpr List.mem_cons_self)).pre
    · exact new_pre hc hps _
  have hnd := (hP.map (·.serial)).nodup_iff.mp hinv.nodup
  have hser : p.serial < pm'.next ∧ ∀ r ∈ R ++ pm.queued, r.serial ≠ p.serial := by
    rcases h.pick with rfl | ⟨rfl, rfl, hn⟩
    · exact ⟨Nat.lt_of_lt_of_le (hinv.lt_next p (hP.mem_iff.mpr List.mem_cons_self)) h.next_le,
        fun r hr e => (List.nodup_cons.mp hnd).1 (List.mem_map.mpr ⟨r, hr, e⟩)⟩
    · exact ⟨hn ▸ Nat.lt_succ_self _, fun r hr => Nat.ne_of_lt (hinv.lt_next r (hT r hr))⟩
  refine ⟨?_, ?_, ?_, ?_⟩
  · rw [h.packSize]
    intro r hr
    rcases h.slots' with ⟨_, hs, hlt, hnf⟩ | ⟨_, hs⟩
    · rcases List.mem_cons.mp (hs.mem_iff.mp hr) with rfl | hr
      · exact ⟨hgood, hlt, hnf⟩
      · exact hinv.opens r (hR r hr)
    · exact hinv.opens r (hR r (hs.mem_iff.mp hr))
  · rw [h.packSize, h.queued]
    rcases h.slots' with ⟨rfl, _⟩ | ⟨rfl, _⟩
    · exact hinv.goods
    · exact fun r hr => (List.mem_cons.mp hr).elim (· ▸ hgood) (hinv.goods r)
  · rw [(hP'.map (·.serial)).nodup_iff, List.map_cons, List.nodup_cons]
    refine ⟨fun hm => ?_, ((List.sublist_append_right _ _).map _).nodup hnd⟩
    obtain ⟨r, hr, e⟩ := List.mem_map.mp hm
    exact hser.2 r hr e
  · intro r hr
    rcases List.mem_cons.mp (hP'.mem_iff.mp hr) with rfl | hr
    · exact hser.1
    · exact Nat.lt_of_lt_of_le (hinv.lt_next r (hT r hr)) h.next_le

theorem SaveEffect.count_eq {c : Cfg} {pm pm' : PM} {b : Blob} {q R old p}
    (h : SaveEffect c pm pm' b q R old p) (a : Blob) :
    cnt a (packers pm') = cnt a (packers pm) + (if b = a then 1 else 0) := by
  obtain ⟨hP, hP'⟩ := h.packers_perm
  rw [cnt_perm a hP, cnt_perm a hP', cnt_cons, cnt_append, Packer.add]
  simp only [List.count_cons, beq_iff_eq]
  rcases h.pick with rfl | ⟨rfl, rfl, _⟩
  · rw [Option.toList, List.singleton_append, cnt_cons, cnt_append]; exact Nat.add_right_comm ..
  · rw [Option.toList, List.nil_append, cnt_append, Packer.new, List.count_nil, Nat.zero_add, Nat.add_comm]

/-- the packers held by the loop state of `mergePackers`, newest first -/
def fin (r : List Packer × Option Packer) : List Packer :=
  match r.2 with
  | none => r.1
  | some p => p :: r.1

theorem mergeStep_some (c : Cfg) (ps : Nat) (acc : List Packer × Option Packer) (q : Packer) :
    (∃ p rest, fin acc = p :: rest ∧ p.bytes + q.bytes < ps ∧ p.n + q.n ≤ c.maxHeaderEntries ∧
        fin (mergeStep c ps acc (some q)) = p.merge q :: rest) ∨
    fin (mergeStep c ps acc (some q)) = q :: fin acc := by
  rcases acc with ⟨pend, _ | p⟩
  · exact .inr rfl
  · by_cases h : p.bytes + q.bytes < ps ∧ p.n + q.n ≤ c.maxHeaderEntries
    · exact .inl ⟨p, pend, rfl, h.1, h.2, by simp only [mergeStep, if_pos h, fin]⟩
    · exact .inr (by simp only [mergeStep, if_neg h, fin])

/-- What the loop of `mergePackers` maintains: `M` are the packers it holds, `L` the open packers visited so far.
    `M` is newest first and a merged packer keeps the serial of the one visited first (`merge_serial`), hence `L.reverse`. -/
structure MergeInv (c : Cfg) (ps : Nat) (M L : List Packer) : Prop where
  good : ∀ p ∈ M, Good c ps p
  cnt : ∀ a, cnt a M = cnt a L
  serials : (M.map (·.serial)).Sublist (L.reverse.map (·.serial))

theorem MergeInv.step {c : Cfg} (hc : CfgOK c) {ps : Nat} {acc L} (h : MergeInv c ps (fin acc) L) :
    ∀ s : Option Packer, (∀ q ∈ s, Good c ps q) → MergeInv c ps (fin (mergeStep c ps acc s)) (L ++ s.toList)
  | none, _ => by rw [Option.toList, List.append_nil]; exact h
  | some q, hq => by
    rw [Option.toList]
    rcases mergeStep_some c ps acc q with ⟨p, rest, hacc, hb, hn, hfin⟩ | hfin <;> rw [hfin]
    · rw [hacc] at h
      refine ⟨fun x hx => ?_, fun a => ?_, ?_⟩
      · rcases List.mem_cons.mp hx with rfl | hx
        · exact merge_good hc (h.good p List.mem_cons_self) (hq q rfl) hb hn
        · exact h.good x (List.mem_cons_of_mem _ hx)
      · have := h.cnt a
        rw [cnt_cons] at this
        rw [cnt_cons, merge_blobs, List.count_append, cnt_append, cnt_cons, cnt_nil, ← this]; omega
      · rw [List.reverse_append]; exact .cons _ (by rw [List.map_cons, merge_serial]; exact h.serials)
    · refine ⟨fun x hx => ?_, fun a => ?_, ?_⟩
      · exact (List.mem_cons.mp hx).elim (· ▸ hq q rfl) (h.good x)
      · rw [cnt_cons, h.cnt, cnt_append, cnt_cons, cnt_nil]; omega
      · rw [List.reverse_append]; exact .cons_cons _ h.serials

theorem mergePackers_eq (c : Cfg) (pm : PM) :
    pm.mergePackers c = fin (pm.slots.foldl (mergeStep c pm.packSize) ([], none)) := rfl

theorem mergePackers_inv {c : Cfg} (hc : CfgOK c) {pm : PM} (hinv : PMInv c pm) :
    MergeInv c pm.packSize (pm.mergePackers c) (slotPackers pm) := by
  rw [mergePackers_eq]
  refine Restic.Proofs.foldl_seen (f := mergeStep c pm.packSize)
    (P := fun seen acc => (∀ q ∈ seen.filterMap id, Good c pm.packSize q) →
      MergeInv c pm.packSize (fin acc) (seen.filterMap id))
    (fun seen acc x h hg => ?_) pm.slots (fun _ => ⟨fun _ h => (nomatch h), fun _ => rfl, List.Sublist.slnil⟩)
    fun q hq => (hinv.opens q hq).1
  have e : [x].filterMap id = x.toList := by cases x <;> rfl
  rw [List.filterMap_append, e] at hg ⊢
  exact (h fun q hq => hg q (List.mem_append_left _ hq)).step hc x
    fun q hq => hg q (List.mem_append_right _ (Option.mem_toList.mpr hq))

theorem slotPackers_flush (c : Cfg) (pm : PM) : slotPackers (pm.flush c) = [] := by
  simp only [slotPackers, PM.flush]
  induction pm.slots with
  | nil => rfl
  | cons a l ih => exact ih

theorem flush_inv {c : Cfg} (hc : CfgOK c) {pm : PM} (hinv : PMInv c pm) : PMInv c (pm.flush c) := by
  obtain ⟨good, _, ser⟩ := mergePackers_inv hc hinv
  have hpk : packers (pm.flush c) = pm.mergePackers c ++ pm.queued := by
    rw [packers, slotPackers_flush]; rfl
  have hsub : ((packers (pm.flush c)).map (·.serial)).Sublist
      (((slotPackers pm).reverse ++ pm.queued).map (·.serial)) := by
    rw [hpk, List.map_append, List.map_append]; exact ser.append_right _
  refine ⟨?_, ?_, ?_, ?_⟩
  · rw [slotPackers_flush]; exact fun _ h => nomatch h
  · exact fun q hq => (List.mem_append.mp hq).elim (good q) (hinv.goods q)
  · exact hsub.nodup ((((List.reverse_perm _).append_right _).map _).nodup_iff.mpr hinv.nodup)
  · intro q hq
    obtain ⟨y, hy, e⟩ := List.mem_map.mp (hsub.subset (List.mem_map_of_mem hq))
    exact e ▸ hinv.lt_next y (((List.reverse_perm _).append_right _).mem_iff.mp hy)

theorem flush_cnt {c : Cfg} (hc : CfgOK c) {pm : PM} (hinv : PMInv c pm) (a : Blob) :
    cnt a (packers (pm.flush c)) = cnt a (packers pm) := by
  rw [packers, slotPackers_flush, List.nil_append]
  show cnt a (pm.mergePackers c ++ pm.queued) = _
  rw [cnt_append, (mergePackers_inv hc hinv).cnt a, packers, cnt_append]

end Restic.Proofs.C44
