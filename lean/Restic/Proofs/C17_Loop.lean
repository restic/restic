import Restic.Model.Chunk
/-!
# C17 — Content-defined chunking is lossless, bounded and shift-resistant

The theorems of C17 that hold for restic's chunk loop (`Restic.Model.Chunk`) over an ARBITRARY
splitter, under the laws below where a law is needed; they carry the property's namespace.

One invariant carries everything: `pending`, the bytes not yet handed out. `readNextChunk` returns
a prefix of them and leaves the rest pending (`rnc_post`), so the loop's chunks concatenate to the
file (`chunkLoop_post`); under the streaming law that prefix ends where the splitter, handed all
pending bytes at once, reports its split, so the loop computes `refChunks` whatever the buffer size.
Bounds and edit locality are then facts about `refChunks` alone.
-/
namespace Restic.Props.C17
open Restic.Model.Chunk

/-- L0 — range law of the library: a split point lies inside the buffer it was found in and is
    not 0 (`idx + i + 1` in `nextSplitPoint`). -/
structure InRange {σ : Type} (sp : Splitter σ) : Prop where
  pos_le : ∀ s a k s', sp.next s a = (some k, s') → 0 < k ∧ k ≤ a.length

/-- L1 — streaming law: cutting the input of `NextSplitPoint` into several buffers does not
    change where the split is found (the library keeps window, digest and counters across calls). -/
structure Streaming {σ : Type} (sp : Splitter σ) : Prop where
  none_append : ∀ s a b s', sp.next s a = (none, s') →
    sp.next s (a ++ b) = ((sp.next s' b).1.map (· + a.length), (sp.next s' b).2)
  some_append : ∀ s a b k s', sp.next s a = (some k, s') → sp.next s (a ++ b) = (some k, s')

/-- L2 — size bounds of the library: starting from the initial state a split is reported only
    between `min` and `max` bytes, and at the latest after `max` bytes. -/
structure Bounded {σ : Type} (sp : Splitter σ) (min max : Nat) : Prop where
  cut_in_range : ∀ a k s', sp.next sp.init a = (some k, s') → min ≤ k ∧ k ≤ max
  cut_by_max : ∀ a s', max ≤ a.length → sp.next sp.init a ≠ (none, s')

/-- L3 — after reporting a split the chunker is in its initial state again (`c.reset()`). -/
structure ResetsAfterCut {σ : Type} (sp : Splitter σ) : Prop where
  reset_after_cut : ∀ s a k s', sp.next s a = (some k, s') → s' = sp.init

def pending (cs : CState) (rd : Reader) : Bytes := cs.buf.drop cs.bpos ++ rd.data

/-! What `refill` does when it returns. The case that goes on to the split, `refill_inr`, stands next to `refill` in the model file: the
termination of `readNextChunk` needs it. -/

/-- what `io.ReadFull` has seen, by the error it reports -/
theorem readFull_err (rd : Reader) (n : Nat) :
    match (readFull rd n).2.1 with
    | .nil => (readFull rd n).1 = [] → n = 0
    | .eof => rd.data = [] ∧ rd.failAtEnd = false ∧ (readFull rd n).2.2 = rd
    | .unexpectedEOF => (readFull rd n).1 ≠ []
    | .other => rd.failAtEnd = true := by
  fun_cases readFull rd n
  case case1 hn => exact fun ht => (List.take_eq_nil_iff.mp ht).elim id fun h0 => by simpa [h0] using hn
  case case2 hf => exact hf
  case case3 hf he => exact ⟨List.isEmpty_iff.mp he, by simpa using hf, rfl⟩
  case case4 he => exact mt List.isEmpty_iff.mpr he

theorem refill_inl {bufSize : Nat} {cs : CState} {rd : Reader} {data : Bytes} {r : Next} {cs' : CState} {rd' : Reader}
    (h : refill bufSize cs rd data = .inl (r, cs', rd')) :
    ((r = .chunk data ∧ data ≠ [] ∨ r = .eof ∧ (cs.closed = false → data = [])) ∧
      pending cs rd = [] ∧ pending cs' rd' = [] ∧ rd.failAtEnd = false ∧ rd' = rd) ∨
    (r = .error ∧ rd.failAtEnd = true) ∨ (r = .spin ∧ bufSize = 0) := by
  unfold refill at h
  by_cases hb : cs.bpos ≥ cs.buf.length
  case neg => rw [if_neg hb] at h; cases h
  rw [if_pos hb] at h
  have hrf := readFull_err rd bufSize
  generalize readFull rd bufSize = res at h hrf
  obtain ⟨got, e, rd1⟩ := res
  cases e <;> simp only [reduceCtorEq, if_false, false_and, if_true, true_and] at h hrf
  case nil =>
    by_cases he : got.isEmpty = true
    · rw [if_pos he] at h; cases h
      exact .inr (.inr ⟨rfl, hrf (List.isEmpty_iff.mp he)⟩)
    · rw [if_neg he] at h; cases h
  case unexpectedEOF => rw [if_neg (mt List.isEmpty_iff.mp hrf)] at h; cases h
  case other => cases h; exact .inr (.inl ⟨rfl, hrf⟩)
  case eof =>
    obtain ⟨he, hf, rfl⟩ := hrf
    have hp : pending cs rd1 = [] := by rw [pending, List.drop_eq_nil_of_le hb, he]; rfl
    by_cases hc : cs.closed = false
    · rw [if_pos hc] at h
      by_cases hne : data ≠ []
      · rw [if_pos hne] at h; cases h; exact .inl ⟨.inl ⟨rfl, hne⟩, hp, hp, hf, rfl⟩
      · rw [if_neg hne] at h; cases h
        exact .inl ⟨.inr ⟨rfl, fun _ => Decidable.not_not.mp hne⟩, hp, hp, hf, rfl⟩
    · rw [if_neg hc] at h; cases h; exact .inl ⟨.inr ⟨rfl, fun h => absurd h hc⟩, hp, hp, hf, rfl⟩

theorem refill_inr_pending {bufSize : Nat} {cs : CState} {rd : Reader} {data : Bytes} {cs' : CState} {rd' : Reader}
    (h : refill bufSize cs rd data = .inr (cs', rd')) :
    pending cs rd = pending cs' rd' ∧ cs'.buf.drop cs'.bpos ≠ [] ∧ cs'.closed = cs.closed ∧
      rd'.failAtEnd = rd.failAtEnd := by
  rcases refill_inr h with ⟨h1, rfl, rfl⟩ | ⟨h1, h2, h3, h4, h5, h6⟩
  · exact ⟨rfl, fun h => by have := List.drop_eq_nil_iff.mp h; omega, rfl, rfl⟩
  · refine ⟨?_, by rwa [h2], h4, h6⟩
    rw [pending, pending, List.drop_eq_nil_of_le h1, h2, h5]; rfl

/-- the splitter, started in `s0` at the beginning of the current chunk, has been fed `data` and is now in `st` -/
def Fed {σ : Type} (sp : Splitter σ) (s0 : σ) (data : Bytes) (st : σ) : Prop :=
  (data = [] ∧ st = s0) ∨ sp.next s0 data = (none, st)

theorem fed_none {σ : Type} {sp : Splitter σ} (hs : Streaming sp) {s0 st st' : σ} {data piece : Bytes}
    (hf : Fed sp s0 data st) (hn : sp.next st piece = (none, st')) : Fed sp s0 (data ++ piece) st' := by
  rcases hf with ⟨rfl, rfl⟩ | h
  · exact .inr hn
  · exact .inr (by rw [hs.none_append _ _ _ _ h, hn]; rfl)

theorem fed_some {σ : Type} {sp : Splitter σ} (hs : Streaming sp) {s0 st st' : σ} {data piece : Bytes} {k : Nat}
    (hf : Fed sp s0 data st) (hn : sp.next st piece = (some k, st')) (rest : Bytes) :
    sp.next s0 (data ++ (piece ++ rest)) = (some (k + data.length), st') := by
  have h1 : sp.next st (piece ++ rest) = (some k, st') := hs.some_append _ _ _ _ _ hn
  rcases hf with ⟨rfl, rfl⟩ | h
  · exact h1
  · rw [hs.none_append _ _ _ _ h, h1]; rfl

/-- `closed` is set when `ReadFull` has reported EOF and what was accumulated has been returned: from
    then on nothing is pending, so the next call can only answer `eof` -/
def Inv (cs : CState) (rd : Reader) (data : Bytes) : Prop :=
  cs.closed = true → pending cs rd = [] ∧ data = []

theorem Inv.open {cs : CState} {rd : Reader} {data : Bytes} (hinv : Inv cs rd data) (hne : pending cs rd ≠ []) :
    cs.closed = false :=
  Bool.eq_false_iff.mpr fun hc => hne (hinv hc).1

/-- the library, handed `a` bytes, reported a split `k` outside them -/
def BadSplit {σ : Type} (sp : Splitter σ) (k a : Nat) : Prop :=
  ∃ s piece, (sp.next s piece).1 = some k ∧ a = piece.length ∧ (k = 0 ∨ piece.length < k)

/-- What a chunk `d` returned by `readNextChunk` means: nothing is lost, and if the library streams
    and was fed `data` since `s0`, the chunk ends where the library, handed everything at once from
    `s0`, reports its split — or it is everything that was left. -/
structure ChunkPost {σ : Type} (sp : Splitter σ) (cs : CState) (rd : Reader) (st : σ) (data d : Bytes)
    (cs' : CState) (rd' : Reader) (st' : σ) : Prop where
  lossless : data ++ pending cs rd = d ++ pending cs' rd'
  nonempty : d ≠ []
  inv : Inv cs' rd' []
  failAtEnd : rd'.failAtEnd = rd.failAtEnd
  atSplit : Streaming sp → ∀ s0, Fed sp s0 data st →
    sp.next s0 (data ++ pending cs rd) = (some d.length, st') ∨
    (pending cs' rd' = [] ∧ ∃ s', sp.next s0 d = (none, s'))

def RncPost {σ : Type} (sp : Splitter σ) (bufSize : Nat) (cs : CState) (rd : Reader) (st : σ) (data : Bytes)
    (res : Next × CState × Reader × σ) : Prop :=
  match res with
  | (.chunk d, cs', rd', st') => ChunkPost sp cs rd st data d cs' rd' st'
  | (.eof, cs', rd', _) => data = [] ∧ pending cs rd = [] ∧ rd.failAtEnd = false ∧ Inv cs' rd' []
  | (.error, _, _, _) => rd.failAtEnd = true
  | (.badSplit k a, _, _, _) => BadSplit sp k a
  | (.spin, _, _, _) => bufSize = 0

theorem rnc_post {σ : Type} (sp : Splitter σ) (bufSize : Nat) (cs : CState) (rd : Reader) (st : σ) (data : Bytes)
    (hinv : Inv cs rd data) : RncPost sp bufSize cs rd st data (readNextChunk sp bufSize cs rd st data) := by
  fun_induction readNextChunk sp bufSize cs rd st data with
  -- `refill` returns: end of input (with what was accumulated, if anything), read error, empty buffer
  | case1 cs rd st data r cs' rd' h =>
    rcases refill_inl h with ⟨hr, hp, hp', hf, rfl⟩ | ⟨rfl, hf⟩ | ⟨rfl, hb⟩
    · rcases hr with ⟨rfl, hd⟩ | ⟨rfl, hd⟩
      · refine {
          lossless := by rw [hp, hp']
          nonempty := hd
          inv := fun _ => ⟨hp', rfl⟩
          failAtEnd := rfl
          atSplit := fun _ s0 hfed => .inr ⟨hp', ?_⟩ }
        rcases hfed with ⟨h0, _⟩ | h0
        · exact absurd h0 hd
        · exact ⟨st, h0⟩
      · refine ⟨?_, hp, hf, fun _ => ⟨hp', rfl⟩⟩
        cases hc : cs.closed
        · exact hd hc
        · exact (hinv hc).2
    · exact hf
    · exact hb
  -- a split outside the piece
  | case2 cs rd st data cs' rd' h piece k st' hn hk => exact ⟨st, piece, by rw [hn], rfl, hk⟩
  -- a split inside the piece: the chunk is returned
  | case3 cs rd st data cs' rd' h piece k st' hn hk =>
    obtain ⟨hp, hne, hcl, hf⟩ := refill_inr_pending h
    have hk' : 0 < k ∧ k ≤ piece.length := by omega
    have hp' : pending cs' rd' = piece ++ rd'.data := rfl
    have hopen := hinv.open (by rw [hp, hp']; exact fun h => hne (List.append_eq_nil_iff.mp h).1)
    have hp2 : pending { cs' with bpos := cs'.bpos + k } rd' = piece.drop k ++ rd'.data := by
      simp only [pending, piece, List.drop_drop]
    exact {
      lossless := by
        rw [hp, hp', hp2, List.append_assoc, ← List.append_assoc (piece.take k), List.take_append_drop]
      nonempty := fun h =>
        hne (List.take_eq_nil_iff.mp (List.append_eq_nil_iff.mp h).2 |>.resolve_left (by omega))
      inv := fun hc => by rw [show _ = cs.closed from hcl, hopen] at hc; cases hc
      failAtEnd := hf
      atSplit := fun hs s0 hfed => .inl (by
        rw [hp, hp', fed_some hs hfed hn, List.length_append, List.length_take, Nat.min_eq_left hk'.2,
          Nat.add_comm]) }
  -- no split in the piece: it is accumulated and the loop goes round
  | case4 cs rd st data cs' rd' h piece st' hn ih =>
    obtain ⟨hp, hne, hcl, hf⟩ := refill_inr_pending h
    have hp' : pending cs' rd' = piece ++ rd'.data := rfl
    have hopen := hinv.open (by rw [hp, hp']; exact fun h => hne (List.append_eq_nil_iff.mp h).1)
    have hp2 : pending { cs' with bpos := cs'.buf.length } rd' = rd'.data := by simp [pending]
    have ih := ih fun hc => by rw [show _ = cs.closed from hcl, hopen] at hc; cases hc
    revert ih
    generalize readNextChunk sp bufSize { cs' with bpos := cs'.buf.length } rd' st' (data ++ piece) = res
    obtain ⟨r, cs2, rd2, st2⟩ := res
    cases r with
    | chunk d =>
      intro (ih : ChunkPost ..)
      refine { ih with
        lossless := by rw [hp, hp', ← ih.lossless, hp2, List.append_assoc]
        failAtEnd := ih.failAtEnd.trans hf
        atSplit := fun hs s0 hfed => ?_ }
      have := ih.atSplit hs s0 (fed_none hs hfed hn)
      rwa [hp2, List.append_assoc, ← hp', ← hp] at this
    | eof => exact fun h1 => absurd (List.append_eq_nil_iff.mp h1.1).2 hne
    | error => exact fun h1 => hf.symm.trans h1
    | badSplit k a => exact id
    | spin => exact id

theorem refChunks_nil {σ : Type} (sp : Splitter σ) (st : σ) : refChunks sp st [] = [] := by
  rw [refChunks]; rfl

theorem refChunks_none {σ : Type} (sp : Splitter σ) (st s' : σ) (x : Bytes) (hx : x ≠ [])
    (h : sp.next st x = (none, s')) : refChunks sp st x = [x] := by
  rw [refChunks, if_neg hx, h]

theorem refChunks_some {σ : Type} (sp : Splitter σ) (st s' : σ) (x : Bytes) (k : Nat) (hx : x ≠ [])
    (h : sp.next st x = (some k, s')) (hk : 0 < k ∧ k ≤ x.length) :
    refChunks sp st x = x.take k :: refChunks sp s' (x.drop k) := by
  rw [refChunks, if_neg hx, h]; exact dif_pos hk

/-- the chunks `new` of a successful loop that started in splitter state `st` with `pend` pending -/
structure OkPost {σ : Type} (sp : Splitter σ) (st : σ) (pend : Bytes) (failAtEnd : Bool) (new : List Bytes) : Prop where
  flatten : new.flatten = pend
  nonempty : ∀ c ∈ new, c ≠ []
  readable : failAtEnd = false
  ref : Streaming sp → new = refChunks sp st pend

def LoopPost {σ : Type} (sp : Splitter σ) (bufSize : Nat) (st : σ) (acc : List Bytes) (pend : Bytes) (failAtEnd : Bool) :
    Out → Prop
  | .ok cs => ∃ new, cs = acc ++ new ∧ OkPost sp st pend failAtEnd new
  | .error => failAtEnd = true
  | .badSplit k a => BadSplit sp k a
  | .spin => bufSize = 0
  | .fuel => False

theorem chunkLoop_post {σ : Type} (sp : Splitter σ) (bufSize : Nat) (fuel : Nat) (cs : CState) (rd : Reader) (st : σ)
    (acc : List Bytes) (hinv : Inv cs rd []) (hfuel : (pending cs rd).length < fuel) :
    LoopPost sp bufSize st acc (pending cs rd) rd.failAtEnd (chunkLoop sp bufSize fuel cs rd st acc).1 := by
  induction fuel generalizing cs rd st acc with
  | zero => omega
  | succ fuel ih =>
    unfold chunkLoop
    have hp := rnc_post sp bufSize cs rd st [] hinv
    revert hp
    generalize readNextChunk sp bufSize cs rd st [] = res
    obtain ⟨r, cs', rd', st'⟩ := res
    cases r with
    | chunk d =>
      intro (hc : ChunkPost ..)
      have h1 := hc.lossless
      have h2 := hc.nonempty
      rw [List.nil_append] at h1
      have hd : 0 < d.length := List.length_pos_iff.mpr h2
      have ih := ih cs' rd' st' (acc ++ [d]) hc.inv (by have := congrArg List.length h1; simp at this; omega)
      revert ih
      generalize (chunkLoop sp bufSize fuel cs' rd' st' (acc ++ [d])).1 = o
      cases o with
      | ok cs2 =>
        rintro ⟨new, e1, e⟩
        refine ⟨d :: new, by rw [e1, List.append_assoc]; rfl, {
          flatten := by rw [h1, List.flatten_cons, e.flatten]
          nonempty := fun c hc => (List.mem_cons.mp hc).elim (· ▸ h2) (e.nonempty c)
          readable := hc.failAtEnd ▸ e.readable
          ref := fun hs => ?_ }⟩
        have hx : d ++ pending cs' rd' ≠ [] := fun h => h2 (List.append_eq_nil_iff.mp h).1
        rw [e.ref hs, h1]
        rcases hc.atSplit hs st (.inl ⟨rfl, rfl⟩) with hk | ⟨hk, s', hn⟩
        · rw [List.nil_append, h1] at hk
          rw [refChunks_some sp st st' _ _ hx hk ⟨hd, by simp⟩, List.take_left, List.drop_left]
        · rw [hk, refChunks_nil, List.append_nil, refChunks_none sp st s' d h2 hn]
      | error => exact fun e => hc.failAtEnd ▸ e
      | badSplit k a => exact id
      | spin => exact id
      | fuel => exact id
    | eof =>
      rintro ⟨_, h2, h3, _⟩
      rw [h2]
      exact ⟨[], (List.append_nil _).symm, rfl, fun _ h => (nomatch h), h3, fun _ => (refChunks_nil sp st).symm⟩
    | error => exact id
    | badSplit k a => exact id
    | spin => exact id

theorem saveFile_post {σ : Type} (sp : Splitter σ) (bufSize : Nat) (cs : CState) (st : σ) (file : Reader) :
    LoopPost sp bufSize sp.init [] file.data file.failAtEnd (saveFile sp bufSize cs st file).1 :=
  chunkLoop_post sp bufSize (file.data.length + 2) cs.reset file sp.init [] (fun hc => nomatch hc)
    (Nat.lt_add_right 1 (Nat.lt_succ_self _))

theorem saveFile_ok {σ : Type} {sp : Splitter σ} {bufSize : Nat} {cs0 : CState} {st0 : σ} {file : Reader}
    {cs : List Bytes} (h : (saveFile sp bufSize cs0 st0 file).1 = .ok cs) :
    OkPost sp sp.init file.data file.failAtEnd cs := by
  have := saveFile_post sp bufSize cs0 st0 file
  rw [h] at this
  obtain ⟨new, rfl, h⟩ := this
  exact h

theorem saveFile_ne_fuel {σ : Type} (sp : Splitter σ) (bufSize : Nat) (cs : CState) (st : σ) (file : Reader) :
    (saveFile sp bufSize cs st file).1 ≠ .fuel :=
  fun h => (h ▸ saveFile_post sp bufSize cs st file : LoopPost sp bufSize sp.init [] file.data file.failAtEnd .fuel)

/-- Lossless (every splitter, every read-buffer size, no law assumed): whenever
    chunking a file succeeds, the chunks concatenate to the file and none is empty. -/
theorem chunks_concat {σ : Type} (sp : Splitter σ) (bufSize : Nat) (file : Bytes) (cs : List Bytes)
    (h : chunks sp bufSize file = .ok cs) : cs.flatten = file ∧ ∀ c ∈ cs, c ≠ [] :=
  have := saveFile_ok h
  ⟨this.flatten, this.nonempty⟩

/-- the same for the real `saveFile` signature: any incoming worker state, any reader -/
theorem saveFile_concat {σ : Type} (sp : Splitter σ) (bufSize : Nat) (cs0 : CState) (st0 : σ) (file : Reader)
    (cs : List Bytes) (h : (saveFile sp bufSize cs0 st0 file).1 = .ok cs) :
    cs.flatten = file.data ∧ file.failAtEnd = false :=
  have := saveFile_ok h
  ⟨this.flatten, this.readable⟩

/-- With a splitter obeying the range law and a non-empty read buffer, chunking a
    readable file always succeeds; a reader that fails makes `saveFile` fail (no partial node). -/
theorem saveFile_total {σ : Type} (sp : Splitter σ) (hr : InRange sp) (bufSize : Nat) (hb : 0 < bufSize)
    (cs0 : CState) (st0 : σ) (file : Reader) :
    (file.failAtEnd = false → ∃ cs, (saveFile sp bufSize cs0 st0 file).1 = .ok cs) ∧
    (file.failAtEnd = true → (saveFile sp bufSize cs0 st0 file).1 = .error) := by
  have := saveFile_post sp bufSize cs0 st0 file
  revert this
  generalize (saveFile sp bufSize cs0 st0 file).1 = o
  cases o with
  | ok cs => rintro ⟨_, _, h⟩; exact ⟨fun _ => ⟨cs, rfl⟩, fun h' => absurd (h.readable.symm.trans h') nofun⟩
  | error => exact fun (h : _ = true) => ⟨fun h' => absurd (h.symm.trans h') nofun, fun _ => rfl⟩
  | badSplit k a =>
    rintro ⟨s, piece, h1, _, h3⟩
    have := hr.pos_le s piece k (sp.next s piece).2 (by rw [← h1])
    omega
  | spin => exact fun (h : bufSize = 0) => absurd h (by omega)
  | fuel => exact False.elim

theorem saveFile_eq {σ : Type} (sp : Splitter σ) (hr : InRange sp) (hs : Streaming sp) (bufSize : Nat) (hb : 0 < bufSize)
    (cs0 : CState) (st0 : σ) (file : Reader) :
    (saveFile sp bufSize cs0 st0 file).1 =
      if file.failAtEnd then .error else .ok (refChunks sp sp.init file.data) := by
  have ht := saveFile_total sp hr bufSize hb cs0 st0 file
  cases hf : file.failAtEnd with
  | true => exact ht.2 hf
  | false =>
    obtain ⟨cs, hcs⟩ := ht.1 hf
    rw [hcs, (saveFile_ok hcs).ref hs]; rfl

/-- Boundaries do not depend on the read-buffer size (nor, through `io.ReadFull`,
    on how the source delivers its bytes): under the streaming and range laws, chunking with any
    read-buffer size yields the reference chunking, which hands the splitter the whole file at once. -/
theorem chunks_eq_ref {σ : Type} (sp : Splitter σ) (hr : InRange sp) (hs : Streaming sp) (bufSize : Nat)
    (hb : 0 < bufSize) (file : Bytes) : chunks sp bufSize file = .ok (refChunks sp sp.init file) :=
  saveFile_eq sp hr hs bufSize hb _ _ { data := file, failAtEnd := false }

theorem chunks_buffer_indep {σ : Type} (sp : Splitter σ) (hr : InRange sp) (hs : Streaming sp)
    (bufA bufB : Nat) (ha : 0 < bufA) (hb : 0 < bufB) (file : Bytes) :
    chunks sp bufA file = chunks sp bufB file := by
  rw [chunks_eq_ref sp hr hs bufA ha, chunks_eq_ref sp hr hs bufB hb]

/-- Boundaries do not depend on previously processed files. In the model
    this holds by definition: `saveFile` starts the loop from `cs.reset` and `sp.init` and never looks
    at the state the worker hands in. That the Go code does reset both before the loop is the T1 fact
    `reset_before_loop`; `worker_file_indep` draws the consequence for a worker's whole job list. -/
theorem saveFile_state_indep {σ : Type} (sp : Splitter σ) (bufSize : Nat) (cs cs' : CState) (st st' : σ)
    (file : Reader) : (saveFile sp bufSize cs st file).1 = (saveFile sp bufSize cs' st' file).1 := rfl

theorem worker_file_indep {σ : Type} (sp : Splitter σ) (bufSize : Nat) (cs : CState) (st : σ) (files : List Reader) :
    worker sp bufSize cs st files =
      files.map fun f => (saveFile sp bufSize { buf := [], bpos := 0, closed := false } sp.init f).1 := by
  induction files generalizing cs st with
  | nil => rfl
  | cons f fs ih => simp only [worker, List.map_cons, ih]; rfl

/-- bounds part of the executable statement -/
def boundsOK (min max : Nat) (cs : List Bytes) : Bool :=
  (allButLast cs).all (fun c => min ≤ c.length && c.length ≤ max) &&
  cs.all (fun c => 0 < c.length && c.length ≤ max)

theorem refChunks_flatten {σ : Type} (sp : Splitter σ) (st : σ) (file : Bytes) :
    (refChunks sp st file).flatten = file := by
  fun_induction refChunks sp st file with
  | case1 => rfl
  | case2 => exact List.append_nil _
  | case3 st file _ k st' _ _ ih => rw [List.flatten_cons, ih, List.take_append_drop]
  | case4 => exact List.append_nil _

theorem boundsOK_cons (min max : Nat) (c : Bytes) (cs : List Bytes)
    (h1 : min ≤ c.length) (h2 : c.length ≤ max) (h3 : 0 < c.length) (h : boundsOK min max cs = true) :
    boundsOK min max (c :: cs) = true := by
  cases cs with
  | nil => simp [boundsOK, allButLast, h2, h3]
  | cons d ds =>
    simp only [boundsOK, allButLast, List.all_cons, Bool.and_eq_true, decide_eq_true_eq] at h ⊢
    exact ⟨⟨⟨h1, h2⟩, h.1⟩, ⟨h3, h2⟩, h.2⟩

theorem refChunks_bounds {σ : Type} (sp : Splitter σ) (hr : InRange sp) (h3 : ResetsAfterCut sp) (min max : Nat)
    (h2 : Bounded sp min max) (file : Bytes) : boundsOK min max (refChunks sp sp.init file) = true := by
  generalize hst : sp.init = st
  fun_induction refChunks sp st file with
  | case1 => rfl
  | case2 st file hx s' hn =>
    -- the last chunk: no split reported, so it is shorter than `max`
    subst hst
    have hlt : file.length < max := Nat.lt_of_not_le fun hc => h2.cut_by_max file s' hc hn
    simp [boundsOK, allButLast, List.length_pos_iff.mpr hx, Nat.le_of_lt hlt]
  | case3 st file hx k st' hn hk ih =>
    subst hst
    have hb := h2.cut_in_range _ _ _ hn
    have hlen : (file.take k).length = k := List.length_take_of_le hk.2
    exact boundsOK_cons _ _ _ _ (hlen.symm ▸ hb.1) (hlen.symm ▸ hb.2) (hlen.symm ▸ hk.1)
      (ih (h3.reset_after_cut _ _ _ _ hn).symm)
  | case4 st file hx k st' hn hk => exact absurd (hr.pos_le _ _ _ _ hn) hk

/-- For a library obeying L0–L3, every read-buffer size ≥ 1 and every file,
    restic's chunk loop succeeds and its chunk list satisfies the executable statement `specOK`: the
    concatenation is the file, every chunk but the last has a size in `[min, max]`, the last one is
    non-empty and at most `max`. -/
theorem chunks_specOK {σ : Type} (sp : Splitter σ) (hr : InRange sp) (hs : Streaming sp) (h3 : ResetsAfterCut sp)
    (min max : Nat) (h2 : Bounded sp min max) (bufSize : Nat) (hb : 0 < bufSize) (file : Bytes) :
    ∃ cs, chunks sp bufSize file = .ok cs ∧ specOK min max file cs = true := by
  refine ⟨_, chunks_eq_ref sp hr hs bufSize hb file, ?_⟩
  have hbd := refChunks_bounds sp hr h3 min max h2 file
  unfold boundsOK at hbd
  unfold specOK
  rw [refChunks_flatten]
  simpa using hbd

theorem cut_in_prefix {σ : Type} (sp : Splitter σ) (hr : InRange sp) (hs : Streaming sp) (s s' : σ) (p x y : Bytes)
    (k : Nat) (h : sp.next s (p ++ x) = (some k, s')) (hk : k ≤ p.length) : sp.next s (p ++ y) = (some k, s') := by
  cases hp : sp.next s p with
  | mk o s'' =>
    cases o with
    | some k' => rw [hs.some_append _ _ y _ _ hp, ← h, hs.some_append _ _ x _ _ hp]
    | none =>
      -- impossible: a split found after `p` lies beyond `p`
      rw [hs.none_append _ _ x _ hp] at h
      cases hx : sp.next s'' x with
      | mk o2 s3 =>
        rw [hx] at h
        cases o2 with
        | none => cases h
        | some k0 =>
          have := hr.pos_le _ _ _ _ hx
          simp only [Option.map_some, Prod.mk.injEq, Option.some.injEq] at h
          omega

/-- `off` is the offset at which the chunking is resumed after the chunks already compared -/
theorem edit_prefix_stable_go {σ : Type} (sp : Splitter σ) (hr : InRange sp) (hs : Streaming sp)
    (s : σ) (f p x y : Bytes) (off : Nat) (hf : f = p ++ x) :
    stablePrefixCount.go (off + p.length) off (refChunks sp s f) ≤
      commonPrefixLen (refChunks sp s f) (refChunks sp s (p ++ y)) := by
  fun_induction refChunks sp s f generalizing p off with
  | case1 => exact Nat.zero_le _
  | case2 => exact Nat.zero_le _
  | case4 => exact Nat.zero_le _
  | case3 s f hx k s' hn hk ih =>
    subst hf
    cases hrest : refChunks sp s' ((p ++ x).drop k) with
    | nil => exact Nat.zero_le _
    | cons d ds =>
      simp only [stablePrefixCount.go, List.length_take_of_le hk.2]
      split
      next hle =>
        have hkp : k ≤ p.length := by omega
        have hy : p ++ y ≠ [] := fun hc => by rw [(List.append_eq_nil_iff.mp hc).1] at hkp; simp at hkp; omega
        rw [← hrest, refChunks_some sp _ s' _ k hy (cut_in_prefix sp hr hs s s' p x y k hn hkp) ⟨hk.1, by simp; omega⟩,
          List.take_append_of_le_length hkp, List.take_append_of_le_length hkp, commonPrefixLen,
          if_pos (beq_self_eq_true _), List.drop_append_of_le_length hkp, List.drop_append_of_le_length hkp]
        have := ih (p.drop k) (off + k) (List.drop_append_of_le_length hkp)
        rw [List.length_drop, show off + k + (p.length - k) = off + p.length by omega,
          List.drop_append_of_le_length hkp] at this
        omega
      next => exact Nat.zero_le _

/-- Edit locality, part 1: the chunks of `p ++ x` that end inside `p` (and
    are not the file's last chunk) are also the leading chunks of `p ++ y`, for any `x`, `y`: an edit
    never changes a chunk that ends before it. Stated with the predicate run on the implementation. -/
theorem edit_prefix_stable {σ : Type} (sp : Splitter σ) (hr : InRange sp) (hs : Streaming sp) (p x y : Bytes) :
    editLocalOK p.length (refChunks sp sp.init (p ++ x)) (refChunks sp sp.init (p ++ y)) = true := by
  have := edit_prefix_stable_go sp hr hs sp.init _ p x y 0 rfl
  rw [Nat.zero_add] at this
  exact decide_eq_true this

theorem chunksAfter_some {c : Nat} {cs a : List Bytes} (h : chunksAfter c cs = some a) :
    ∃ pre, cs = pre ++ a ∧ pre.flatten.length = c := by
  fun_induction chunksAfter c cs with
  | case1 cs => exact ⟨[], Option.some.inj h, rfl⟩
  | case2 => cases h
  | case3 n x r hle ih =>
    obtain ⟨pre, e, hl⟩ := ih h
    exact ⟨x :: pre, congrArg (x :: ·) e, by rw [List.flatten_cons, List.length_append, hl]; omega⟩
  | case4 => cases h

/-- The library is in its initial state after every cut, so what follows any number of chunks of a
    reference chunking is the reference chunking of the remaining bytes. `hst`: the start state `st`
    matters only if no chunk precedes. -/
theorem refChunks_suffix {σ : Type} (sp : Splitter σ) (hr : InRange sp) (h3 : ResetsAfterCut sp)
    (st : σ) (file : Bytes) (pre a : List Bytes) (h : refChunks sp st file = pre ++ a) (hst : pre = [] → st = sp.init) :
    a = refChunks sp sp.init (file.drop pre.flatten.length) := by
  induction pre generalizing st file with
  | nil => rw [hst rfl] at h; exact h.symm
  | cons c pre ih =>
    revert h
    fun_cases refChunks sp st file with
    | case1 => exact fun h => nomatch h
    | case2 hx s' hn =>
      intro h
      obtain ⟨rfl, h'⟩ := List.cons.inj h
      obtain ⟨rfl, rfl⟩ := List.append_eq_nil_iff.mp h'.symm
      rw [List.flatten_cons, List.flatten_nil, List.append_nil, List.drop_length, refChunks_nil]
    | case3 hx k st' hn hk =>
      intro h
      obtain ⟨rfl, h'⟩ := List.cons.inj h
      rw [ih _ _ h' fun _ => h3.reset_after_cut _ _ _ _ hn, List.drop_drop, List.flatten_cons, List.length_append,
        List.length_take_of_le hk.2]
    | case4 hx k st' hn hk => exact absurd (hr.pos_le _ _ _ _ hn) hk

theorem chunksAfter_ref {σ : Type} (sp : Splitter σ) (hr : InRange sp) (h3 : ResetsAfterCut sp)
    (file : Bytes) (c : Nat) (a : List Bytes)
    (h : chunksAfter c (refChunks sp sp.init file) = some a) : a = refChunks sp sp.init (file.drop c) := by
  obtain ⟨pre, e, rfl⟩ := chunksAfter_some h
  exact refChunks_suffix sp hr h3 _ _ pre a e fun _ => rfl

/-- Edit locality, part 2: if the chunking of `u ++ t` has a cut exactly
    after `u` and the chunking of `u' ++ t` has a cut exactly after `u'`, the two files have the
    same chunks from there on — whatever `u` and `u'` are. -/
theorem edit_resync {σ : Type} (sp : Splitter σ) (hr : InRange sp) (h3 : ResetsAfterCut sp) (u u' t : Bytes)
    (a b : List Bytes)
    (ha : chunksAfter u.length (refChunks sp sp.init (u ++ t)) = some a)
    (hb : chunksAfter u'.length (refChunks sp sp.init (u' ++ t)) = some b) : a = b := by
  rw [chunksAfter_ref sp hr h3 _ _ _ ha, chunksAfter_ref sp hr h3 _ _ _ hb,
    List.drop_left, List.drop_left]

/-- the executable form checked on the implementation's chunk lists -/
theorem edit_resyncOK {σ : Type} (sp : Splitter σ) (hr : InRange sp) (h3 : ResetsAfterCut sp) (p x y t : Bytes) :
    resyncOK p.length x.length y.length (refChunks sp sp.init (p ++ x ++ t)) (refChunks sp sp.init (p ++ y ++ t)) = true := by
  unfold resyncOK
  rw [List.all_eq_true]
  intro c _
  split
  next hc =>
    split
    next a b ha hb =>
      -- both cuts lie in `t`, at the same distance from its start
      have e : ∀ z : Bytes, List.drop (c - x.length + z.length) (p ++ z ++ t) = List.drop (c - p.length - x.length) t := by
        intro z
        rw [List.drop_append, List.drop_of_length_le (by simp; omega), List.nil_append]
        congr 1
        simp; omega
      have e1 := e x
      rw [Nat.sub_add_cancel (by omega)] at e1
      rw [chunksAfter_ref sp hr h3 _ _ _ ha, chunksAfter_ref sp hr h3 _ _ _ hb, e1, e y]
      exact beq_self_eq_true _
    next => rfl
  next => rfl

def iter {α : Type} (f : α → α) : Nat → α → α
  | 0, a => a
  | n + 1, a => iter f n (f a)

theorem iter_add {α : Type} (f : α → α) (m n : Nat) (a : α) : iter f (m + n) a = iter f n (iter f m a) := by
  induction m generalizing a with
  | zero => rw [Nat.zero_add]; rfl
  | succ m ih => rw [Nat.succ_add]; exact ih (f a)

theorem runPool_proj {σ : Type} (sp : Splitter σ) (bufSize : Nat) (sched : List Nat) (ws : List (WState σ)) (w : Nat) :
    (runPool sp bufSize sched ws)[w]? = ws[w]?.map (iter (wstep sp bufSize) (sched.count w)) := by
  unfold runPool
  induction sched generalizing ws with
  | nil => simp [iter]
  | cons i rest ih =>
    rw [List.foldl_cons, ih, List.getElem?_modify]
    by_cases h : i = w
    · subst h
      simp only [if_true, List.count_cons_self, Option.map_eq_map, Option.map_map]
      rfl
    · simp only [h, if_false, Option.map_eq_map, Option.map_id', List.count_cons_of_ne h]

theorem iter_done {σ : Type} (sp : Splitter σ) (bufSize : Nat) (n : Nat) (w : WState σ) (o : Out) (h : w.out = some o) :
    (iter (wstep sp bufSize) n w).out = some o := by
  induction n generalizing w with
  | zero => exact h
  | succ n ih => exact ih _ (by simp only [wstep, h])

theorem chunkLoop_iter {σ : Type} (sp : Splitter σ) (bufSize : Nat) (fuel : Nat) (cs : CState) (rd : Reader) (st : σ) (acc : List Bytes) :
    (chunkLoop sp bufSize fuel cs rd st acc).1 =
      ((iter (wstep sp bufSize) fuel { cs := cs, rd := rd, st := st, acc := acc, out := none }).out).getD .fuel := by
  induction fuel generalizing cs rd st acc with
  | zero => rfl
  | succ fuel ih =>
    simp only [chunkLoop, iter, wstep]
    generalize readNextChunk sp bufSize cs rd st [] = res
    obtain ⟨r, cs', rd', st'⟩ := res
    cases r with
    | chunk d => exact ih cs' rd' st' (acc ++ [d])
    | eof => rw [iter_done sp bufSize fuel _ (.ok acc) rfl]; rfl
    | error => rw [iter_done sp bufSize fuel _ .error rfl]; rfl
    | badSplit k a => rw [iter_done sp bufSize fuel _ (.badSplit k a) rfl]; rfl
    | spin => rw [iter_done sp bufSize fuel _ .spin rfl]; rfl

/-- Boundaries do not depend on what other workers do. In a pool of any number
    of file workers in any states, for EVERY schedule that gives worker `w` enough turns to finish
    its file, the outcome of `w` is the outcome of `saveFile` on that file alone. -/
theorem pool_worker_indep {σ : Type} (sp : Splitter σ) (bufSize : Nat) (ws : List (WState σ)) (w : Nat)
    (cs : CState) (st : σ) (file : Reader) (hw : ws[w]? = some (wstart sp cs st file))
    (sched : List Nat) (hturns : file.data.length + 2 ≤ sched.count w) :
    ((runPool sp bufSize sched ws)[w]?).bind (·.out) = some (saveFile sp bufSize cs st file).1 := by
  rw [runPool_proj, hw, Option.map_some, Option.bind_some, ← Nat.add_sub_cancel' hturns, iter_add]
  -- after `|file| + 2` turns the worker has finished (the loop does not run out of fuel) …
  have hloop := chunkLoop_iter sp bufSize (file.data.length + 2) cs.reset file sp.init []
  have hne := saveFile_ne_fuel sp bufSize cs st file
  unfold saveFile at hne ⊢
  unfold wstart
  cases ho : (iter (wstep sp bufSize) (file.data.length + 2) { cs := cs.reset, rd := file, st := sp.init, acc := [], out := none }).out with
  | none => rw [ho] at hloop; exact absurd hloop hne
  | some o =>
    -- … and the remaining turns leave its outcome alone
    rw [ho] at hloop
    rw [iter_done sp bufSize _ _ o ho, hloop]
    rfl

/-- … in particular it is the chunking of a fresh single worker (`chunks`) for a readable file -/
theorem pool_worker_chunks {σ : Type} (sp : Splitter σ) (bufSize : Nat) (ws : List (WState σ)) (w : Nat)
    (cs : CState) (st : σ) (file : Bytes) (hw : ws[w]? = some (wstart sp cs st { data := file, failAtEnd := false }))
    (sched : List Nat) (hturns : file.length + 2 ≤ sched.count w) :
    ((runPool sp bufSize sched ws)[w]?).bind (·.out) = some (chunks sp bufSize file) :=
  pool_worker_indep sp bufSize ws w cs st _ hw sched hturns

end Restic.Props.C17
