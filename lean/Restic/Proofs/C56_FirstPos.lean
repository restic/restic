import Restic.Model.IndexMap
/-!
# `firstPos`: the position of the first entry of an id in the list of inserted values

This is what `indexMap.firstIndex` computes (C56) and what `MasterIndex.blobIndex` hands out as the
slot of a blob (C48).
-/
namespace Restic.Proofs.C56
open Restic.Model.IndexMap

theorem firstPos_cases (m : List Val) (id : ID) :
    (firstPos m id = -1 ∧ ∀ v, v ∈ m → v.id ≠ id) ∨
    (∃ i, firstPos m id = ((i + 1 : Nat) : Int) ∧ ∃ h : i < m.length, m[i].id = id ∧
      ∀ j (hj : j < i), (m[j]'(Nat.lt_trans hj h)).id ≠ id) := by
  unfold firstPos
  cases hf : m.findIdx? (fun v => v.id == id) with
  | none =>
    exact .inl ⟨rfl, fun v hv => beq_eq_false_iff_ne.mp (List.findIdx?_eq_none_iff.mp hf v hv)⟩
  | some i =>
    obtain ⟨h, h1, h2⟩ := List.findIdx?_eq_some_iff_getElem.mp hf
    exact .inr ⟨i, rfl, h, beq_iff_eq.mp h1, fun j hj => beq_eq_false_iff_ne.mp (Bool.not_eq_true _ ▸ h2 j hj)⟩

theorem firstPos_nat (m : List Val) (id : ID) : firstPos m id = -1 ∨ ∃ i : Nat, firstPos m id = i := by
  rcases firstPos_cases m id with ⟨h, _⟩ | ⟨i, h, _⟩
  · exact .inl h
  · exact .inr ⟨_, h⟩

/-- a slot belongs to one id only -/
theorem firstPos_inj (m : List Val) (a b : ID) (h : firstPos m a = firstPos m b) (hv : firstPos m a ≠ -1) :
    a = b := by
  rcases firstPos_cases m a with ⟨ha, _⟩ | ⟨i, hi, _, hia, _⟩
  · exact absurd ha hv
  · rcases firstPos_cases m b with ⟨hb, _⟩ | ⟨j, hj, _, hjb, _⟩
    · cases hi.symm.trans (h.trans hb)
    · cases Int.ofNat_inj.mp (hi.symm.trans (h.trans hj))
      rw [← hia, ← hjb]

theorem firstPos_append_of_ne (m s : List Val) (id : ID) (h : firstPos m id ≠ -1) :
    firstPos (m ++ s) id = firstPos m id := by
  unfold firstPos at h ⊢
  rw [List.findIdx?_append]
  cases hf : m.findIdx? (fun v => v.id == id) with
  | some i => rfl
  | none => simp [hf] at h

theorem firstPos_append_of_eq (m s : List Val) (id : ID) (h : firstPos m id = -1) :
    firstPos (m ++ s) id = -1 ∨ (m.length : Int) < firstPos (m ++ s) id := by
  unfold firstPos at h ⊢
  rw [List.findIdx?_append]
  cases hf : m.findIdx? (fun v => v.id == id) with
  | some i => rw [hf] at h; cases h
  | none =>
    cases s.findIdx? (fun v => v.id == id) with
    | none => exact .inl rfl
    | some j => exact .inr (Int.lt_add_one_of_le (Int.ofNat_le.mpr (Nat.le_add_left _ _)))

end Restic.Proofs.C56
