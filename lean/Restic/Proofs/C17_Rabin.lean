import Restic.Model.Rabin
import Restic.Proofs.C17_Loop
/-!
# C17 — the laws L0–L3 hold for the transcription of github.com/restic/chunker

`Restic.Model.Rabin.splitter` (the transcription that the T2 run compares byte for byte with the
real library) satisfies the laws assumed in `Restic.Props.C17`, for every polynomial, table content
and mask.
-/
namespace Restic.Proofs.C17Rabin
open Restic.Model.Chunk Restic.Model.Rabin Restic.Props.C17

theorem scan_range (cfg : RCfg) (s s' : Scan) (buf : Bytes) (i r : Nat)
    (h : scan cfg s buf i = (some r, s')) : i < r ∧ r ≤ i + buf.length := by
  fun_induction scan cfg s buf i with
  | case1 => cases h
  | case2 => cases h; simp
  | case3 _ _ _ _ _ _ ih => have := ih h; simp only [List.length_cons]; omega

theorem scan_none_add (cfg : RCfg) (s s' : Scan) (buf : Bytes) (i : Nat)
    (h : scan cfg s buf i = (none, s')) : s'.add = s.add + buf.length := by
  fun_induction scan cfg s buf i with
  | case1 => cases h; rfl
  | case2 => cases h
  | case3 s b _ _ _ _ ih =>
    rw [ih h, List.length_cons]; show s.add + 1 + _ = _; omega

theorem scan_append (cfg : RCfg) (s : Scan) (a b : Bytes) (i : Nat) :
    scan cfg s (a ++ b) i =
      match scan cfg s a i with
      | (some r, s') => (some r, s')
      | (none, s') => scan cfg s' b (i + a.length) := by
  induction a generalizing s i with
  | nil => rfl
  | cons x rest ih =>
    simp only [List.cons_append, scan]
    by_cases hx : (scanByte cfg s x).2 = true
    · simp only [hx, if_true]
    · simp only [hx, ih, List.length_cons, Nat.add_right_comm i 1]; rfl

/-- the scan loop only looks at `wpos` modulo the window size -/
def snorm (s : Scan) : Scan := { s with wpos := s.wpos % windowSize }

theorem scanByte_congr (cfg : RCfg) (s1 s2 : Scan) (b : UInt8) (h : snorm s1 = snorm s2) :
    (scanByte cfg s1 b).2 = (scanByte cfg s2 b).2 ∧ snorm (scanByte cfg s1 b).1 = snorm (scanByte cfg s2 b).1 := by
  injection h with hd hwin hw hadd
  have hw1 : (s1.wpos + 1) % windowSize = (s2.wpos + 1) % windowSize := by
    rw [Nat.add_mod, hw, ← Nat.add_mod]
  unfold scanByte
  simp only [hd, hwin, hadd, hw, snorm, hw1, and_self]

/-- a scan with its index shifted by `n`, from a state equal up to `snorm`, finds the same split `n` later -/
theorem scan_congr (cfg : RCfg) (s1 s2 : Scan) (buf : Bytes) (i n : Nat) (h : snorm s1 = snorm s2) :
    (scan cfg s1 buf (i + n)).1 = (scan cfg s2 buf i).1.map (· + n) ∧
      snorm (scan cfg s1 buf (i + n)).2 = snorm (scan cfg s2 buf i).2 := by
  induction buf generalizing s1 s2 i with
  | nil => exact ⟨rfl, h⟩
  | cons b rest ih =>
    have hb := scanByte_congr cfg s1 s2 b h
    simp only [scan, hb.1]
    by_cases hc : (scanByte cfg s2 b).2 = true
    · rw [if_pos hc, if_pos hc]; exact ⟨congrArg some (Nat.add_right_comm i n 1), hb.2⟩
    · rw [if_neg hc, if_neg hc, Nat.add_right_comm i n 1]; exact ih _ _ _ hb.2

theorem norm_norm (s : Scan) : snorm (snorm s) = snorm s := by
  simp [snorm]

/-- the locals of the scan loop as `nextSplitPoint` sets them up once `c.pre` bytes are skipped -/
def load (c : RState) : Scan := { digest := c.digest, win := c.window, wpos := c.wpos, add := c.count + c.pre }

/-- the chunker as `nextSplitPoint` leaves it when the scan used up the buffer without a split -/
def store (s : Scan) : RState :=
  { window := s.win, wpos := s.wpos % windowSize, digest := s.digest, pre := 0, count := s.add,
    hw := Nat.mod_lt _ (by decide) }

/-- the chunker after skipping `n` of the `c.pre` bytes it need not look at -/
def skipped (c : RState) (n : Nat) : RState := { c with pre := c.pre - n, count := c.count + n }

/-- what `nextSplitPoint` answers after the scan of `buf[idx:]` -/
def finish (cfg : RCfg) (idx : Nat) : Option Nat × Scan → Option Nat × RState
  | (some i, _) => (some (idx + i), reset cfg)
  | (none, s) => (none, store s)

theorem load_store (s : Scan) : load (store s) = snorm s := rfl

theorem store_congr {s s' : Scan} (h : snorm s = snorm s') : store s = store s' := by
  injection h with hd hwin hw hadd
  simp only [store, hd, hwin, hw, hadd]

/-- `c.hw` at work: the stored `wpos` is already reduced -/
theorem store_load (c : RState) (h : c.pre = 0) : store (load c) = c := by
  obtain ⟨_, _, _, _, _, hw⟩ := c
  subst h
  simp only [store, load, Nat.mod_eq_of_lt hw, Nat.add_zero]

theorem load_skipped (c : RState) (n : Nat) (h : n ≤ c.pre) : load (skipped c n) = load c := by
  simp only [load, skipped, Nat.add_assoc, Nat.add_sub_cancel' h]

theorem skipped_skipped (c : RState) (n m : Nat) : skipped (skipped c n) m = skipped c (n + m) := by
  simp only [skipped, Nat.sub_sub, Nat.add_assoc]

theorem nsp_skip (cfg : RCfg) (c : RState) (buf : Bytes) (h : c.pre > 0 ∧ c.pre ≥ buf.length) :
    nextSplitPoint cfg c buf = (none, skipped c buf.length) := by
  simp only [nextSplitPoint, h, and_self, if_true, skipped]

theorem nsp_scan (cfg : RCfg) (c : RState) (buf : Bytes) (h : ¬(c.pre > 0 ∧ c.pre ≥ buf.length)) :
    nextSplitPoint cfg c buf = finish cfg c.pre (scan cfg (load c) (buf.drop c.pre) 0) := by
  simp only [nextSplitPoint, h, if_false]
  change (match scan cfg (load c) (buf.drop c.pre) 0 with | (some i, _) => _ | (none, s) => _) = _
  cases hr : scan cfg (load c) (buf.drop c.pre) 0 with
  | mk o s => cases o with
    | some i => rfl
    | none =>
      -- the count Go writes back is the scan's own byte counter
      simp only [finish, store, scan_none_add cfg _ _ _ _ hr]; rfl

theorem nsp_some {cfg : RCfg} {c c' : RState} {buf : Bytes} {k : Nat} (h : nextSplitPoint cfg c buf = (some k, c')) :
    ¬(c.pre > 0 ∧ c.pre ≥ buf.length) ∧ c' = reset cfg ∧
      ∃ i s, scan cfg (load c) (buf.drop c.pre) 0 = (some i, s) ∧ k = c.pre + i := by
  by_cases hc : c.pre > 0 ∧ c.pre ≥ buf.length
  · rw [nsp_skip cfg c buf hc] at h; cases h
  · rw [nsp_scan cfg c buf hc] at h
    cases hs : scan cfg (load c) (buf.drop c.pre) 0 with
    | mk o s =>
      rw [hs] at h
      cases o with
      | none => cases h
      | some i => cases h; exact ⟨hc, rfl, i, s, rfl, rfl⟩

theorem nsp_none {cfg : RCfg} {c c' : RState} {buf : Bytes} (h : nextSplitPoint cfg c buf = (none, c')) :
    (c.pre > 0 ∧ c.pre ≥ buf.length ∧ c' = skipped c buf.length) ∨
    (¬(c.pre > 0 ∧ c.pre ≥ buf.length) ∧ ∃ s, scan cfg (load c) (buf.drop c.pre) 0 = (none, s) ∧ c' = store s) := by
  by_cases hc : c.pre > 0 ∧ c.pre ≥ buf.length
  · rw [nsp_skip cfg c buf hc] at h; cases h; exact .inl ⟨hc.1, hc.2, rfl⟩
  · rw [nsp_scan cfg c buf hc] at h
    cases hs : scan cfg (load c) (buf.drop c.pre) 0 with
    | mk o s =>
      rw [hs] at h
      cases o with
      | none => cases h; exact .inr ⟨hc, s, rfl, rfl⟩
      | some i => cases h

theorem not_skip_append {c : RState} {a : Bytes} (b : Bytes) (h : ¬(c.pre > 0 ∧ c.pre ≥ a.length)) :
    ¬(c.pre > 0 ∧ c.pre ≥ (a ++ b).length) ∧ c.pre ≤ a.length := by
  rw [List.length_append]; omega

theorem rabin_inRange (cfg : RCfg) : InRange (splitter cfg) := by
  constructor
  intro c a k c' (h : nextSplitPoint cfg c a = _)
  obtain ⟨hc, -, i, s, hs, rfl⟩ := nsp_some h
  have := scan_range cfg _ _ _ _ _ hs
  rw [List.length_drop] at this
  omega

theorem rabin_resets (cfg : RCfg) : ResetsAfterCut (splitter cfg) :=
  ⟨fun _ _ _ _ h => (nsp_some h).2.1⟩

theorem rabin_some_append (cfg : RCfg) (c : RState) (a b : Bytes) (k : Nat) (c' : RState)
    (h : nextSplitPoint cfg c a = (some k, c')) : nextSplitPoint cfg c (a ++ b) = (some k, c') := by
  obtain ⟨hc, rfl, i, s, hs, rfl⟩ := nsp_some h
  rw [nsp_scan cfg c (a ++ b) (not_skip_append b hc).1, List.drop_append_of_le_length (not_skip_append b hc).2, scan_append, hs]
  rfl

/-- `finish` commutes with such a shift when the base indices differ by the same amount -/
theorem finish_shift (cfg : RCfg) {r r' : Option Nat × Scan} {idx idx' m n : Nat}
    (h : r.1 = r'.1.map (· + m) ∧ snorm r.2 = snorm r'.2) (hn : idx + m = idx' + n) :
    finish cfg idx r = ((finish cfg idx' r').1.map (· + n), (finish cfg idx' r').2) := by
  obtain ⟨o, s⟩ := r
  obtain ⟨o', s'⟩ := r'
  obtain ⟨rfl, h2⟩ := h
  cases o' with
  | none => simp only [finish, Option.map_none, store_congr h2]
  | some i => simp only [finish, Option.map_some, Prod.mk.injEq, Option.some.injEq, and_true]; omega

theorem rabin_none_append (cfg : RCfg) (c : RState) (a b : Bytes) (c' : RState)
    (h : nextSplitPoint cfg c a = (none, c')) :
    nextSplitPoint cfg c (a ++ b) =
      ((nextSplitPoint cfg c' b).1.map (· + a.length), (nextSplitPoint cfg c' b).2) := by
  rcases nsp_none h with ⟨hp, hge, rfl⟩ | ⟨hc, s1, hs1, rfl⟩
  · -- all of `a` is skipped
    have hpre : (skipped c a.length).pre = c.pre - a.length := rfl
    by_cases hall : c.pre ≥ a.length + b.length
    · -- so is all of `a ++ b`
      rw [nsp_skip cfg c (a ++ b) ⟨hp, by rw [List.length_append]; exact hall⟩, List.length_append, ← skipped_skipped]
      by_cases hpos : c.pre - a.length > 0
      · rw [nsp_skip cfg _ b ⟨hpos, Nat.le_sub_of_add_le' hall⟩]; rfl
      · -- the skip ends with `a`, and `b` is empty
        obtain rfl : b = [] := List.length_eq_zero_iff.mp (by omega)
        rw [nsp_scan cfg _ [] fun h => hpos h.1]
        simp only [List.drop_nil, scan, finish, store_load (skipped c a.length) (Nat.eq_zero_of_not_pos hpos)]
        rfl
    · -- the skip ends inside `b`: both calls scan the same bytes from the same state
      rw [nsp_scan cfg c (a ++ b) fun h => hall (List.length_append ▸ h.2), nsp_scan cfg _ b fun h => hall (Nat.add_comm .. ▸ Nat.add_le_of_le_sub hge h.2), hpre,
        load_skipped c _ hge, List.drop_append, List.drop_of_length_le hge, List.nil_append]
      exact finish_shift cfg (m := 0) ⟨by simp, rfl⟩ (Nat.sub_add_cancel hge).symm
  · -- `a` was scanned (after the skip) without finding a split: the scan of `b` goes on from `s1`,
    -- which the second call reloads up to `snorm`
    have hle := (not_skip_append b hc).2
    rw [nsp_scan cfg c (a ++ b) (not_skip_append b hc).1, nsp_scan cfg (store s1) b fun h => Nat.lt_irrefl _ h.1,
      List.drop_append_of_le_length hle, scan_append, hs1, load_store]
    refine finish_shift cfg (scan_congr cfg s1 (snorm s1) b 0 _ (norm_norm s1).symm) ?_
    show c.pre + (a.drop c.pre).length = 0 + a.length
    rw [List.length_drop, Nat.zero_add, Nat.add_sub_cancel' hle]

theorem rabin_streaming (cfg : RCfg) : Streaming (splitter cfg) :=
  ⟨fun s a b s' h => rabin_none_append cfg s a b s' h, fun s a b k s' h => rabin_some_append cfg s a b k s' h⟩

theorem scanByte_true (cfg : RCfg) (s : Scan) (b : UInt8) (h : (scanByte cfg s b).2 = true) :
    cfg.minSize ≤ s.add + 1 := by
  unfold scanByte at h
  by_cases hm : s.add + 1 < cfg.minSize
  · simp only [hm, if_true, ite_self] at h; cases h
  · omega

theorem scanByte_false (cfg : RCfg) (hmm : cfg.minSize ≤ cfg.maxSize) (s : Scan) (b : UInt8)
    (h : (scanByte cfg s b).2 = false) : s.add + 1 < cfg.maxSize := by
  unfold scanByte at h
  by_cases hx : s.add + 1 ≥ cfg.maxSize
  · have hm : ¬ s.add + 1 < cfg.minSize := by omega
    simp only [hx, or_true, if_true, hm, if_false] at h; cases h
  · omega

/-- `s.add + (r - i)` is the value of the byte counter at the split. The disjunct `r = i + 1` is a cut
    on the first scanned byte, where the counter may already be past `maxSize` (the skipped `pre` bytes). -/
theorem scan_some_bounds (cfg : RCfg) (hmm : cfg.minSize ≤ cfg.maxSize) (s s' : Scan) (buf : Bytes) (i r : Nat)
    (h : scan cfg s buf i = (some r, s')) :
    cfg.minSize + i ≤ s.add + r ∧ (s.add + r ≤ cfg.maxSize + i ∨ r = i + 1) := by
  fun_induction scan cfg s buf i with
  | case1 => cases h
  | case2 s b _ i _ ht =>
    cases h
    have := scanByte_true cfg s b ht
    exact ⟨by omega, .inr rfl⟩
  | case3 s b _ i _ hf ih =>
    have hb := scanByte_false cfg hmm s b (by simpa using hf)
    have : _ ≤ s.add + 1 + r ∧ (s.add + 1 + r ≤ _ ∨ _) := ih h
    omega

theorem scan_none_lt (cfg : RCfg) (hmm : cfg.minSize ≤ cfg.maxSize) (s s' : Scan) (buf : Bytes) (i : Nat)
    (hs : s.add < cfg.maxSize) (h : scan cfg s buf i = (none, s')) : s.add + buf.length < cfg.maxSize := by
  fun_induction scan cfg s buf i with
  | case1 => exact hs
  | case2 => cases h
  | case3 s b rest i _ hf ih =>
    have : s.add + 1 + rest.length < _ := ih (scanByte_false cfg hmm s b (by simpa using hf)) h
    rw [List.length_cons]; omega

theorem rabin_bounded (cfg : RCfg) (hmm : cfg.minSize ≤ cfg.maxSize) (hmax : 0 < cfg.maxSize) :
    Bounded (splitter cfg) cfg.minSize cfg.maxSize := by
  -- all that matters of the initial state: it skips fewer than `maxSize` bytes and has counted no others
  have hw : 0 < windowSize := by decide
  obtain ⟨c, hc, hpre, hadd⟩ : ∃ c, c = reset cfg ∧ c.pre < cfg.maxSize ∧ (load c).add = c.pre :=
    ⟨_, rfl, show cfg.minSize - windowSize < _ by omega, Nat.zero_add _⟩
  constructor
  · intro a k s' h
    dsimp only [splitter] at h
    rw [← hc] at h
    obtain ⟨-, -, i, s, hs, rfl⟩ := nsp_some h
    have hb := scan_some_bounds cfg hmm _ _ _ _ _ hs
    rw [hadd] at hb
    -- a cut right after the skipped bytes is still below `maxSize`
    exact ⟨hb.1, hb.2.elim id fun h => h ▸ hpre⟩
  · intro a s' hlen h
    dsimp only [splitter] at h
    rw [← hc] at h
    rcases nsp_none h with ⟨-, hge, -⟩ | ⟨-, s, hs, -⟩
    · exact absurd (Nat.le_trans hlen hge) (Nat.not_le_of_lt hpre)
    · have := scan_none_lt cfg hmm _ _ _ _ (hadd ▸ hpre) hs
      rw [hadd, List.length_drop] at this
      omega

/-- Restic's chunk loop over the transcription of github.com/restic/chunker,
    for every polynomial / table content / mask, every `min ≤ max` with `max > 0`, every read-buffer size ≥ 1
    and every file, yields chunks satisfying the executable statement. -/
theorem rabin_chunks_specOK (cfg : RCfg) (hmm : cfg.minSize ≤ cfg.maxSize) (hmax : 0 < cfg.maxSize)
    (bufSize : Nat) (hb : 0 < bufSize) (file : Bytes) :
    ∃ cs, chunks (splitter cfg) bufSize file = .ok cs ∧ specOK cfg.minSize cfg.maxSize file cs = true :=
  chunks_specOK (splitter cfg) (rabin_inRange cfg) (rabin_streaming cfg) (rabin_resets cfg) _ _
    (rabin_bounded cfg hmm hmax) bufSize hb file

theorem rabin_buffer_indep (cfg : RCfg) (bufA bufB : Nat) (ha : 0 < bufA) (hb : 0 < bufB) (file : Bytes) :
    chunks (splitter cfg) bufA file = chunks (splitter cfg) bufB file :=
  chunks_buffer_indep _ (rabin_inRange cfg) (rabin_streaming cfg) bufA bufB ha hb file

end Restic.Proofs.C17Rabin
