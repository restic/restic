import Restic.Props.C15
import Restic.Props.C09
import Restic.Proofs.Writer
import Std.Data.String.ToNat
/-!
# C15 — composition with the acceptors of the prune model and of the writer model

`Restic.Props.C15` proves `CheckOK'` for histories whose commands stay inside the command
languages of `Restic.Model.CheckHist`. Here that hypothesis is replaced, for `prune` and for
`backup` / `tag` / `rewrite`, by the acceptors under which those commands are proved safe:

* the prune model (suffix `11`): `Restic.Model.Prune.accept` (phase automaton of
  `PrunePlan.Execute`) with `planOKRepo`, theorem `Restic.Props.C09.prune_prefix_safe`;
* the writer model (suffix `12`): `Restic.Model.RepoTrace.accept_backup`, `accept_rewrites`
  (C11, C26).

`abs11`, `abs12` send their repository states and events to `CheckHist` states and events (blob
entries are reduced to a token of their handle; the writer model's numeric file ids go through an
injective encoding); accepted traces map to traces of the `CheckHist` languages, guards included,
and the maps commute with `apply`.

Why `…_partial`: both acceptors allow an index file to list only *part* of a pack's header
(`idxSaveOK` / `entryOK`: every listed entry occurs in the pack). `check` does not: it computes the
pack size from the index entries and compares the header with the index (`checkPackInner`), so
`CheckHist.evGuard` demands that an index entry equals the stored pack's blob list. The simulations
therefore carry one extra executable hypothesis, `exact11` / `exact12` ("every saved index entry is
the blob list of a stored pack"); writer traces additionally need `RepoTrace.freshOK` (file names
are fresh), which the prune acceptor already enforces.
-/
namespace Restic.Proofs.C15_Compose
open Restic.Model
open Restic.Props.C15 (Inv inv_empty inv_checkok run_inv_every_prefix accept_guarded)
open Restic.Proofs.RepoTrace (isRemoveSnap acceptW_guarded acceptAdds_guarded acceptW_of_rewrites)

/-! Both abstraction maps send a list of named files `(id, content)` to `(enc id, f content)` with an
injective `enc` (the identity for the prune model's string ids). -/

theorem contains_map_fresh {κ α β : Type} [BEq β] [LawfulBEq β] {enc : κ → CheckHist.Id}
    (henc : Function.Injective enc) (f : α → β) {l : List (κ × α)} {p : κ} (y : β)
    (hf : ∀ q ∈ l, q.1 ≠ p) : (l.map fun x => (enc x.1, f x.2)).contains (enc p, y) = false :=
  Bool.eq_false_iff.mpr fun hc => by
    obtain ⟨x, hx, hxe⟩ := List.mem_map.mp (List.contains_iff_mem.mp hc)
    exact hf x hx (henc (congrArg Prod.fst hxe))

theorem filter_map_ne {κ α β : Type} [DecidableEq κ] {enc : κ → CheckHist.Id}
    (henc : Function.Injective enc) (l : List (κ × α)) (s : κ) (f : α → β) :
    (l.filter fun x => x.1 != s).map (fun x => (enc x.1, f x.2)) =
    (l.map fun x => (enc x.1, f x.2)).filter fun q => q.1 != enc s := by
  rw [List.filter_map]
  congr 1
  apply List.filter_congr
  intro x _
  by_cases h : x.1 = s
  · simp only [Function.comp_apply, h, bne_self_eq_false]
  · simp only [Function.comp_apply, bne_iff_ne.mpr h, bne_iff_ne.mpr fun he => h (henc he)]

abbrev CH.Repo := CheckHist.Repo

section prune
variable (tok : Repo.BlobH → CheckHist.Id)

def absEntries (es : List Repo.Entry) : CheckHist.Blobs := es.map fun e => tok e.blob

def absIdx (f : Repo.IdxFile) : List (CheckHist.Id × CheckHist.Blobs) :=
  f.map fun x => (x.1, absEntries tok x.2)

def abs11 (r : Repo.Repo) : CheckHist.Repo :=
  { packs := r.packs.map fun p => (p.1, absEntries tok p.2),
    idx := r.indexes.map fun i => (i.1, absIdx tok i.2),
    snaps := r.snaps.map fun s => (s.1, s.2.reach.map tok) }

def absEv11 : Repo.Ev → CheckHist.Ev
  | .save .pack p (.pack es) => .savePack p (absEntries tok es)
  | .save .index i (.index f) => .saveIndex i (absIdx tok f)
  | .save .snapshot s (.snap sn) => .saveSnap s (sn.reach.map tok)
  | .remove .pack p => .removePack p
  | .remove .index i => .removeIndex i
  | .remove .snapshot s => .removeSnap s
  | _ => .other

def exact11 : Repo.Repo → List Repo.Ev → Bool
  | _, [] => true
  | r, e :: tr =>
    (match e with
     | .save .index _ (.index f) => f.all fun x => r.packs.contains x
     | _ => true) && exact11 (Repo.apply r e) tr

def whole11 (r : Repo.Repo) : Repo.Ev → Bool
  | .save .index _ (.index f) => f.all fun x => r.packs.contains x
  | _ => true

theorem exact11_guarded : Restic.Proofs.Trace.Guarded Repo.apply whole11 exact11 :=
  ⟨fun _ => rfl, fun _ e _ => by
    cases e with
    | save t id c => cases t <;> cases c <;> rfl
    | _ => rfl⟩

theorem rm_noop {α : Type} (l : List (Repo.ID × α)) (id : Repo.ID) (h : ∀ x ∈ l, x.1 ≠ id) :
    Repo.rm l id = l :=
  List.filter_eq_self.mpr fun x hx => decide_eq_true (h x hx)

theorem rm_map {α β : Type} (l : List (Repo.ID × α)) (id : Repo.ID) (f : α → β) :
    (Repo.rm l id).map (fun x => (x.1, f x.2)) = (l.map fun x => (x.1, f x.2)).filter fun q => q.1 != id := by
  have : Repo.rm l id = l.filter fun x => x.1 != id :=
    List.filter_congr fun x _ => by by_cases h : x.1 = id <;> simp [h]
  rw [this]
  exact filter_map_ne (enc := fun k => k) (fun _ _ h => h) l id f

theorem abs11_indexedWithout (r : Repo.Repo) (i : Repo.ID) (b : Repo.BlobH)
    (h : Repo.Indexed (Repo.apply r (.remove .index i)) b = true) :
    CheckHist.indexedWithout i (abs11 tok r) (tok b) = true := by
  simp only [Repo.Indexed, Repo.apply, Repo.rm, List.any_eq_true, Bool.and_eq_true, List.mem_filter,
    decide_eq_true_eq] at h
  obtain ⟨j, ⟨hj, hji⟩, x, hx, ⟨e, he, heb⟩, _⟩ := h
  simp only [CheckHist.indexedWithout, abs11, List.any_eq_true, Bool.and_eq_true, List.mem_map,
    bne_iff_ne, ne_eq, List.contains_iff_mem]
  refine ⟨(j.1, absIdx tok j.2), ⟨j, hj, rfl⟩, hji, (x.1, absEntries tok x.2), ?_, ?_⟩
  · exact List.mem_map.mpr ⟨x, hx, rfl⟩
  · exact List.mem_map.mpr ⟨e, he, by rw [heb]⟩

/-- One prune event seen through `abs11` is a guarded `CheckHist` step. `snaps` lets the safety
    hypothesis of `sim11`, stated over the snapshots of the start state, be used at every later state. -/
structure Sim11 (r : Repo.Repo) (e : Repo.Ev) : Prop where
  allowed : CheckHist.allowed .prune (absEv11 tok e) = true
  guard : CheckHist.evGuard (abs11 tok r) (absEv11 tok e) = true
  commutes : abs11 tok (Repo.apply r e) = CheckHist.apply (abs11 tok r) (absEv11 tok e)
  snaps : (Repo.apply r e).snaps = r.snaps

theorem sim11_removePack {r : Repo.Repo} {id : Repo.ID} (hni : Prune.noIndexNames r id = true) :
    Sim11 tok r (.remove .pack id) := by
  simp only [Prune.noIndexNames, List.all_eq_true, decide_eq_true_eq] at hni
  refine { allowed := rfl, guard := ?_, commutes := ?_, snaps := rfl }
  · simp only [CheckHist.evGuard, absEv11, abs11, List.all_eq_true, List.mem_map, bne_iff_ne]
    rintro _ ⟨i, hi, rfl⟩ e he
    obtain ⟨x, hx, rfl⟩ := List.mem_map.mp he
    exact hni i hi x hx
  · simp only [Repo.apply, absEv11, CheckHist.apply, abs11]
    congr 1
    exact rm_map r.packs id (absEntries tok)

theorem sim11_removeIndex {r : Repo.Repo} {id : Repo.ID}
    (hsafe : ∀ s ∈ r.snaps, ∀ b ∈ s.2.reach, Repo.Indexed (Repo.apply r (.remove .index id)) b = true) :
    Sim11 tok r (.remove .index id) := by
  refine { allowed := rfl, guard := ?_, commutes := ?_, snaps := rfl }
  · simp only [CheckHist.evGuard, absEv11, abs11, List.all_eq_true, List.mem_map]
    rintro _ ⟨s, hs', rfl⟩ tb htb
    obtain ⟨b, hb, rfl⟩ := List.mem_map.mp htb
    exact abs11_indexedWithout tok r id b (hsafe s hs' b hb)
  · simp only [Repo.apply, absEv11, CheckHist.apply, abs11]
    congr 1
    exact rm_map r.indexes id (absIdx tok)

theorem sim11_savePack {r : Repo.Repo} {id : Repo.ID} {es : List Repo.Entry}
    (hp : Repo.packPresent r id = false) : Sim11 tok r (.save .pack id (.pack es)) := by
  have hfresh : ∀ x ∈ r.packs, x.1 ≠ id := by
    simpa only [Repo.packPresent, List.any_eq_false, decide_eq_true_eq] using hp
  refine { allowed := rfl, guard := ?_, commutes := ?_, snaps := rfl }
  · simp only [CheckHist.evGuard, absEv11, abs11, List.all_eq_true, List.mem_map, Bool.or_eq_true,
      bne_iff_ne, ne_eq]
    rintro _ ⟨x, hx, rfl⟩
    exact Or.inl (hfresh x hx)
  · simp only [absEv11, CheckHist.apply, abs11, Bool.false_eq_true, if_false, Repo.apply,
      contains_map_fresh (enc := fun k => k) (fun _ _ h => h) (absEntries tok) _ hfresh,
      rm_noop r.packs id hfresh, List.map_cons]

theorem sim11_saveIndex {pl : Prune.XPlan} {r : Repo.Repo} {id : Repo.ID} {f : Repo.IdxFile}
    (hok : Prune.idxSaveOK pl r id f = true) (hex : whole11 r (.save .index id (.index f)) = true) :
    Sim11 tok r (.save .index id (.index f)) := by
  have hfresh : ∀ x ∈ r.indexes, x.1 ≠ id := by
    simp only [Prune.idxSaveOK, Bool.and_eq_true, List.all_eq_true, decide_eq_true_eq] at hok
    exact hok.1
  refine { allowed := rfl, guard := ?_, commutes := ?_, snaps := rfl }
  · simp only [whole11, List.all_eq_true, List.contains_iff_mem] at hex
    simp only [CheckHist.evGuard, absEv11, absIdx, abs11, List.all_eq_true, List.mem_map,
      List.contains_iff_mem]
    rintro _ ⟨x, hx, rfl⟩
    exact ⟨x, hex x hx, rfl⟩
  · simp only [absEv11, CheckHist.apply, abs11, Bool.false_eq_true, if_false, Repo.apply,
      contains_map_fresh (enc := fun k => k) (fun _ _ h => h) (absIdx tok) _ hfresh,
      rm_noop r.indexes id hfresh, List.map_cons]

theorem step11 (pl : Prune.XPlan) (ph ph' : Nat) (r : Repo.Repo) (e : Repo.Ev)
    (hs : Prune.step pl ph r e = some ph')
    (hex : whole11 r e = true)
    (hsafe : ∀ s ∈ r.snaps, ∀ b ∈ s.2.reach, Repo.Indexed (Repo.apply r e) b = true) : Sim11 tok r e := by
  rcases Restic.Proofs.C09Exec.step_cases hs with ⟨_, _, _, _, he⟩ | ⟨p, es, rfl, _, hp⟩ | ⟨i, f, rfl, _, hi⟩ |
    ⟨p, rfl, hn, _⟩ | ⟨i, rfl, _⟩
  -- `step_cases`: reads and lock files (nothing `CheckHist` sees); save pack, save index, remove pack, remove index
  · rcases he with ⟨t, id, rfl⟩ | ⟨id, c, rfl⟩ | ⟨id, rfl⟩
    · exact ⟨rfl, rfl, rfl, rfl⟩
    · cases c <;> exact ⟨rfl, rfl, rfl, rfl⟩
    · exact ⟨rfl, rfl, rfl, rfl⟩
  · exact sim11_savePack tok hp
  · exact sim11_saveIndex tok hi hex
  · exact sim11_removePack tok hn
  · exact sim11_removeIndex tok hsafe

/-- Not an instance of `Trace.Guarded.sim`: the guard of `removeIndex` comes from `hsafe`, a hypothesis on every
    prefix of the trace, not from `Prune.step`. -/
theorem sim11 (pl : Prune.XPlan) (tr : List Repo.Ev) : ∀ (ph : Nat) (r : Repo.Repo),
    Prune.acceptFrom pl ph r tr = true → exact11 r tr = true →
    (∀ k, ∀ s ∈ r.snaps, ∀ b ∈ s.2.reach, Repo.Indexed (Repo.applyAll r (tr.take k)) b = true) →
    CheckHist.accept .prune (abs11 tok r) (tr.map (absEv11 tok)) = true ∧
    ∀ k, abs11 tok (Repo.applyAll r (tr.take k)) =
      CheckHist.run (abs11 tok r) ((tr.take k).map (absEv11 tok)) := by
  induction tr with
  | nil => intro ph r _ _ _; exact ⟨rfl, fun k => by rw [List.take_nil]; rfl⟩
  | cons e tr ih =>
    intro ph r hacc hex hsafe
    obtain ⟨hg, hacc⟩ := (Restic.Proofs.C09Exec.acceptFrom_guarded pl).cons_iff (s := (ph, r)).mp hacc
    obtain ⟨ph', hstep⟩ := Option.isSome_iff_exists.mp hg
    simp only [hstep, Option.getD_some] at hacc
    obtain ⟨hex1, hex2⟩ := exact11_guarded.cons_iff.mp hex
    -- `hsafe` at prefix `k + 1` of `e :: tr` speaks of prefix `k` of `tr` after `e`
    have h11 := step11 tok pl ph ph' r e hstep hex1 (hsafe 1)
    obtain ⟨ih1, ih2⟩ := ih ph' (Repo.apply r e) hacc hex2 fun k s hs => hsafe (k + 1) s (h11.snaps ▸ hs)
    refine ⟨?_, ?_⟩
    · simp only [List.map_cons, CheckHist.accept, h11.allowed, h11.guard, Bool.and_self, Bool.true_and]
      rw [← h11.commutes]; exact ih1
    · intro k
      cases k with
      | zero => rfl
      | succ k =>
        have := ih2 k
        simp only [List.take_succ_cons, List.map_cons, Repo.applyAll, List.foldl_cons, CheckHist.run] at this ⊢
        rw [← h11.commutes]; exact this

/-- Prune, composed with C09: a run accepted by the phase automaton `Prune.accept`, with a plan that
    is OK for the start state (`planOKRepo`, established by `plan_ok` / `planOK_repo` in C09), all
    snapshot blobs among the used blobs, and exact index entries, is a run of the `CheckHist` prune
    language, guards included. The index-removal guard is discharged by `C09.prune_prefix_safe`. -/
theorem prune_in_language_partial (pl : Prune.XPlan) (used : List Repo.BlobH) (r0 : Repo.Repo)
    (tr : List Repo.Ev)
    (hacc : Prune.accept pl r0 tr = true) (hplan : Restic.Props.C09.planOKRepo pl used r0 = true)
    (hs : ∀ s ∈ r0.snaps, ∀ b ∈ s.2.reach, b ∈ used) (hex : exact11 r0 tr = true) :
    CheckHist.accept .prune (abs11 tok r0) (tr.map (absEv11 tok)) = true ∧
    ∀ k, abs11 tok (Repo.applyAll r0 (tr.take k)) =
      CheckHist.run (abs11 tok r0) ((tr.take k).map (absEv11 tok)) :=
  sim11 tok pl tr 0 r0 hacc hex
    (fun k s hs' b hb => Restic.Props.C09.prune_prefix_safe pl used r0 tr hacc hplan k b (hs s hs' b hb))

theorem prune_inv_partial (pl : Prune.XPlan) (used : List Repo.BlobH) (r0 : Repo.Repo)
    (tr : List Repo.Ev) (hI : Inv (abs11 tok r0))
    (hacc : Prune.accept pl r0 tr = true) (hplan : Restic.Props.C09.planOKRepo pl used r0 = true)
    (hs : ∀ s ∈ r0.snaps, ∀ b ∈ s.2.reach, b ∈ used) (hex : exact11 r0 tr = true) (k : Nat) :
    Inv (abs11 tok (Repo.applyAll r0 (tr.take k))) := by
  obtain ⟨h1, h2⟩ := prune_in_language_partial tok pl used r0 tr hacc hplan hs hex
  rw [h2 k, List.map_take]
  exact run_inv_every_prefix .prune _ _ hI h1 k

end prune

section writer
variable (enc : Nat → CheckHist.Id) (tokH : RepoTrace.Handle → CheckHist.Id)

def absBlobs (bs : List RepoTrace.Blob) : CheckHist.Blobs := bs.map fun b => tokH b.h

def absEntries12 (es : List RepoTrace.IndexEntry) : List (CheckHist.Id × CheckHist.Blobs) :=
  es.map fun e => (enc e.1, absBlobs tokH e.2)

def abs12 (r : RepoTrace.Repo) : CheckHist.Repo :=
  { packs := r.packs.map fun p => (enc p.1, absBlobs tokH p.2),
    idx := r.indexes.map fun i => (enc i.1, absEntries12 enc tokH i.2),
    snaps := r.snaps.map fun s => (enc s.1, s.2.needs.map tokH) }

def absEv12 : RepoTrace.Ev → CheckHist.Ev
  | .savePack p bs => .savePack (enc p) (absBlobs tokH bs)
  | .saveIndex i es => .saveIndex (enc i) (absEntries12 enc tokH es)
  | .saveSnap s sn => .saveSnap (enc s) (sn.needs.map tokH)
  | .removePack p => .removePack (enc p)
  | .removeIndex i => .removeIndex (enc i)
  | .removeSnap s => .removeSnap (enc s)

def exact12 : RepoTrace.Repo → List RepoTrace.Ev → Bool
  | _, [] => true
  | r, e :: tr =>
    (match e with
     | .saveIndex _ es => es.all fun x => r.packs.contains x
     | _ => true) && exact12 (RepoTrace.apply r e) tr

def freshName (r : RepoTrace.Repo) : RepoTrace.Ev → Bool
  | .savePack p _ => !(r.packs.any fun q => q.1 == p)
  | .saveIndex i _ => !(r.indexes.any fun q => q.1 == i)
  | .saveSnap s _ => !(r.snaps.any fun q => q.1 == s)
  | _ => true

theorem freshOK_guarded : Restic.Proofs.Trace.Guarded RepoTrace.apply freshName RepoTrace.freshOK :=
  ⟨fun _ => rfl, fun _ e _ => by cases e <;> rfl⟩

theorem exact12_guarded : Restic.Proofs.Trace.Guarded RepoTrace.apply Restic.Proofs.Writer.idxWhole exact12 :=
  ⟨fun _ => rfl, fun _ e _ => by cases e <;> rfl⟩

theorem step12 (henc : Function.Injective enc) (r : RepoTrace.Repo) (e : RepoTrace.Ev)
    (hg : (RepoTrace.addGuard r e || isRemoveSnap e) = true)
    (hfresh : freshName r e = true) (hex : Restic.Proofs.Writer.idxWhole r e = true) :
    CheckHist.evGuard (abs12 enc tokH r) (absEv12 enc tokH e) = true ∧
    abs12 enc tokH (RepoTrace.apply r e) = CheckHist.apply (abs12 enc tokH r) (absEv12 enc tokH e) := by
  -- a save adds a file under a fresh name, so `CheckHist.apply` conses it like `RepoTrace.apply`
  cases e with
  | savePack p bs =>
    simp only [freshName, Bool.not_eq_true', List.any_eq_false, beq_iff_eq] at hfresh
    refine ⟨?_, ?_⟩
    · simp only [CheckHist.evGuard, absEv12, abs12, List.all_eq_true, List.mem_map, Bool.or_eq_true,
        bne_iff_ne, ne_eq]
      rintro _ ⟨x, hx, rfl⟩
      exact Or.inl fun he => hfresh x hx (henc he)
    · simp only [absEv12, CheckHist.apply, abs12, contains_map_fresh henc (absBlobs tokH) _ hfresh,
        Bool.false_eq_true, if_false, RepoTrace.apply, List.map_cons]
  | saveIndex i es =>
    simp only [freshName, Bool.not_eq_true', List.any_eq_false, beq_iff_eq] at hfresh
    refine ⟨?_, ?_⟩
    · -- `exact12`: the entries are stored packs, and so are their images
      simp only [Restic.Proofs.Writer.idxWhole, List.all_eq_true, List.contains_iff_mem] at hex
      simp only [CheckHist.evGuard, absEv12, absEntries12, abs12, List.all_eq_true, List.mem_map,
        List.contains_iff_mem]
      rintro _ ⟨x, hx, rfl⟩
      exact ⟨x, hex x hx, rfl⟩
    · simp only [absEv12, CheckHist.apply, abs12, contains_map_fresh henc (absEntries12 enc tokH) _ hfresh,
        Bool.false_eq_true, if_false, RepoTrace.apply, List.map_cons]
  | saveSnap s sn =>
    simp only [freshName, Bool.not_eq_true', List.any_eq_false, beq_iff_eq] at hfresh
    refine ⟨?_, ?_⟩
    · -- the guard `restorable`: every needed handle is indexed, and so is its token
      have hres := Restic.Proofs.RepoTrace.restorable_iff.mp ((Bool.or_false _).symm.trans hg)
      simp only [CheckHist.evGuard, absEv12, List.all_eq_true, List.mem_map]
      rintro _ ⟨h, hh, rfl⟩
      obtain ⟨ix, hix, e, he, b, hb, hbh, _⟩ := Restic.Proofs.RepoTrace.indexed_iff.mp (hres h hh)
      exact (Restic.Props.C15.indexed_iff _ _).mpr
        ⟨_, List.mem_map.mpr ⟨ix, hix, rfl⟩, _, List.mem_map.mpr ⟨e, he, rfl⟩, List.mem_map.mpr ⟨b, hb, by rw [hbh]⟩⟩
    · simp only [absEv12, CheckHist.apply, abs12, contains_map_fresh henc (fun sn : RepoTrace.Snap => sn.needs.map tokH) _ hfresh,
        Bool.false_eq_true, if_false, RepoTrace.apply, List.map_cons]
  | removeSnap s =>
    refine ⟨rfl, ?_⟩
    simp only [RepoTrace.apply, absEv12, CheckHist.apply, abs12]
    congr 1
    exact filter_map_ne henc r.snaps s fun sn => sn.needs.map tokH
  | removePack p => cases hg
  | removeIndex i => cases hg

/-- Any language of guarded additions and snapshot removals whose events command `c` allows, with
    fresh names and whole index entries, maps into the language of `c`. -/
theorem sim12 (henc : Function.Injective enc) (c : CheckHist.Cmd) {G : RepoTrace.Repo → RepoTrace.Ev → Bool}
    {L : RepoTrace.Repo → List RepoTrace.Ev → Bool} (hL : Restic.Proofs.Trace.Guarded RepoTrace.apply G L)
    (hG : ∀ r e, G r e = true →
      (RepoTrace.addGuard r e || isRemoveSnap e) = true ∧ CheckHist.allowed c (absEv12 enc tokH e) = true)
    {r : RepoTrace.Repo} {tr : List RepoTrace.Ev} (hacc : L r tr = true)
    (hfresh : RepoTrace.freshOK r tr = true) (hex : exact12 r tr = true) :
    CheckHist.accept c (abs12 enc tokH r) (tr.map (absEv12 enc tokH)) = true ∧
    ∀ k, abs12 enc tokH (RepoTrace.applyAll r (tr.take k)) =
      CheckHist.run (abs12 enc tokH r) ((tr.take k).map (absEv12 enc tokH)) := by
  refine ((hL.and freshOK_guarded).and exact12_guarded).sim (accept_guarded c) (fun r s => abs12 enc tokH r = s)
    (absEv12 enc tokH) (fun r _ e hR hg => ?_) rfl (by rw [hacc, hfresh, hex]; rfl)
  subst hR
  simp only [Bool.and_eq_true] at hg
  obtain ⟨hev, hc⟩ := step12 enc tokH henc r e (hG r e hg.1.1).1 hg.1.2 hg.2
  exact ⟨Bool.and_eq_true_iff.mpr ⟨(hG r e hg.1.1).2, hev⟩, hc⟩

/-- Backup, composed with C11: a (prefix of a) backup run accepted by `accept_backup`, with fresh
    file names (`freshOK`) and exact index entries, is a run of the `CheckHist` backup language. -/
theorem backup_in_language_partial (henc : Function.Injective enc) (r : RepoTrace.Repo) (tr : List RepoTrace.Ev)
    (hacc : RepoTrace.accept_backup r tr = true) (hfresh : RepoTrace.freshOK r tr = true)
    (hex : exact12 r tr = true) :
    CheckHist.accept .backup (abs12 enc tokH r) (tr.map (absEv12 enc tokH)) = true ∧
    ∀ k, abs12 enc tokH (RepoTrace.applyAll r (tr.take k)) =
      CheckHist.run (abs12 enc tokH r) ((tr.take k).map (absEv12 enc tokH)) := by
  refine sim12 enc tokH henc .backup acceptAdds_guarded (fun r e hg => ⟨Bool.or_eq_true_iff.mpr (Or.inl hg), ?_⟩)
    (Restic.Proofs.RepoTrace.accept_backup_iff.mp hacc).1 hfresh hex
  cases e <;> first | rfl | cases hg

/-- tag / rewrite / repair snapshots, composed with C26: a run accepted by `accept_rewrites` maps
    into the `CheckHist` rewrite language (which contains the tag language's events: snapshot saves
    and removals, plus uploads). -/
theorem rewrites_in_language_partial (henc : Function.Injective enc) (ek : List Nat) (r : RepoTrace.Repo)
    (tr : List RepoTrace.Ev)
    (hacc : RepoTrace.accept_rewrites ek r none tr = true) (hfresh : RepoTrace.freshOK r tr = true)
    (hex : exact12 r tr = true) :
    CheckHist.accept .rewrite (abs12 enc tokH r) (tr.map (absEv12 enc tokH)) = true ∧
    ∀ k, abs12 enc tokH (RepoTrace.applyAll r (tr.take k)) =
      CheckHist.run (abs12 enc tokH r) ((tr.take k).map (absEv12 enc tokH)) := by
  refine sim12 enc tokH henc .rewrite acceptW_guarded (fun r e hg => ⟨hg, ?_⟩) (acceptW_of_rewrites hacc) hfresh hex
  cases e <;> first | rfl | cases hg

end writer

/-! `exact12` is not implied by `accept_backup`, but it does hold for every trace of `backupRun`
(the transcription of `savePacker` / `saveFullIndex` / `flush` / `Archiver.Snapshot`, all job
lists, schedules and failure points): an index file is always written from `pending`, whose
entries are the `(pack id, blobs)` pairs of packs uploaded before (`Writer.acceptWhole`, carried by
the writer's invariant). -/
section writerExact
open RepoTrace Restic.Proofs.Writer

theorem exact12_of_acceptWhole {r : RepoTrace.Repo} {l : List RepoTrace.Ev} (h : acceptWhole r l = true) :
    exact12 r l = true :=
  acceptWhole_guarded.mono exact12_guarded (fun _ _ hg => (Bool.and_eq_true_iff.mp hg).2) h

theorem backupRun_exact (r0 : RepoTrace.Repo) (jobs : List PackJob) (sched : List (Nat × Bool)) (fid : Nat)
    (flushFails : Bool) (sid : Nat) (sn : RepoTrace.Snap) (snapFails : Bool) :
    exact12 r0 (backupRun jobs sched fid flushFails sid sn snapFails) = true := by
  refine backupRun_cases (P := fun tr => exact12 r0 tr = true) r0 jobs sched fid flushFails sid sn snapFails
    (fun h => exact12_of_acceptWhole h.acc) (fun h => exact12_of_acceptWhole h.acc) fun h0 _ _ _ _ => ?_
  -- a snapshot save adds no condition
  rw [List.reverse_cons, exact12_guarded.append, exact12_of_acceptWhole (flushIndex_inv h0 fid flushFails).1.acc]
  rfl

end writerExact

section writerRun
variable (enc : Nat → CheckHist.Id) (tokH : RepoTrace.Handle → CheckHist.Id)

/-- Every trace of `backupRun` (any packer jobs, uploader schedule, failure points; `PlanOK` as in
    C11; fresh file names) is a run of the `CheckHist` backup language — here the exact-index
    condition is proved, not assumed. -/
theorem backupRun_in_language (henc : Function.Injective enc) (r0 : RepoTrace.Repo)
    (jobs : List RepoTrace.PackJob) (sched : List (Nat × Bool)) (fid : Nat) (flushFails : Bool) (sid : Nat)
    (sn : RepoTrace.Snap) (snapFails : Bool) (hplan : Restic.Proofs.Writer.PlanOK r0 jobs sn)
    (hfresh : RepoTrace.freshOK r0 (RepoTrace.backupRun jobs sched fid flushFails sid sn snapFails) = true) :
    CheckHist.accept .backup (abs12 enc tokH r0)
      ((RepoTrace.backupRun jobs sched fid flushFails sid sn snapFails).map (absEv12 enc tokH)) = true :=
  (backup_in_language_partial enc tokH henc r0 _
    (Restic.Proofs.Writer.backupRun_accepted r0 jobs sched fid flushFails sid sn snapFails hplan) hfresh
    (backupRun_exact r0 jobs sched fid flushFails sid sn snapFails)).1

end writerRun

section histories
variable (tok : Repo.BlobH → CheckHist.Id) (enc : Nat → CheckHist.Id) (tokH : RepoTrace.Handle → CheckHist.Id)

/-- `CheckHist` states produced, from the empty repository, by backup / rewrite runs accepted by
    `accept_backup` / `accept_rewrites` and prune runs accepted by `Prune.accept`, each cut after an
    arbitrary number `k` of backend operations. The state is handed from one run to the next through
    the abstraction maps: a run starts in a `RepoTrace.Repo` / `Repo.Repo` whose abstraction is the
    current state. -/
inductive Produced : CheckHist.Repo → Prop
  | empty : Produced CheckHist.Repo.empty
  | backup (r : RepoTrace.Repo) (tr : List RepoTrace.Ev) (k : Nat) :
      Produced (abs12 enc tokH r) → RepoTrace.accept_backup r tr = true →
      RepoTrace.freshOK r tr = true → exact12 r tr = true →
      Produced (abs12 enc tokH (RepoTrace.applyAll r (tr.take k)))
  | rewrite (ek : List Nat) (r : RepoTrace.Repo) (tr : List RepoTrace.Ev) (k : Nat) :
      Produced (abs12 enc tokH r) → RepoTrace.accept_rewrites ek r none tr = true →
      RepoTrace.freshOK r tr = true → exact12 r tr = true →
      Produced (abs12 enc tokH (RepoTrace.applyAll r (tr.take k)))
  | prune (pl : Prune.XPlan) (used : List Repo.BlobH) (r : Repo.Repo) (tr : List Repo.Ev) (k : Nat) :
      Produced (abs11 tok r) → Prune.accept pl r tr = true →
      Restic.Props.C09.planOKRepo pl used r = true →
      (∀ s ∈ r.snaps, ∀ b ∈ s.2.reach, b ∈ used) → exact11 r tr = true →
      Produced (abs11 tok (Repo.applyAll r (tr.take k)))

theorem produced_inv_partial (henc : Function.Injective enc) (s : CheckHist.Repo)
    (h : Produced tok enc tokH s) : Inv s := by
  induction h with
  | empty => exact inv_empty
  | backup r tr k _ hacc hfresh hex ih =>
    obtain ⟨h1, h2⟩ := backup_in_language_partial enc tokH henc r tr hacc hfresh hex
    rw [h2 k, List.map_take]
    exact run_inv_every_prefix .backup _ _ ih h1 k
  | rewrite ek r tr k _ hacc hfresh hex ih =>
    obtain ⟨h1, h2⟩ := rewrites_in_language_partial enc tokH henc ek r tr hacc hfresh hex
    rw [h2 k, List.map_take]
    exact run_inv_every_prefix .rewrite _ _ ih h1 k
  | prune pl used r tr k _ hacc hplan hs hex ih =>
    exact prune_inv_partial tok pl used r tr ih hacc hplan hs hex k

/-- C15 by composition: after every history of backup, tag/rewrite and prune runs accepted by the
    acceptors of C11, C26 and C09 (plus `freshOK`, `planOKRepo`, and the exact-index condition that
    `check` needs and those acceptors do not enforce), each run cut at an arbitrary prefix, `check`
    reports no error. -/
theorem produced_checkok_backup_prune_partial (henc : Function.Injective enc) (s : CheckHist.Repo)
    (h : Produced tok enc tokH s) : CheckHist.CheckOK' s = true :=
  inv_checkok s (produced_inv_partial tok enc tokH henc s h)

end histories

section examples
open RepoTrace

def encNat : Nat → CheckHist.Id := Nat.repr
theorem encNat_injective : Function.Injective encNat := fun _ _ h => Nat.repr_injective h
def tokHandle : RepoTrace.Handle → CheckHist.Id := fun h => Nat.repr h.1 ++ ":" ++ Nat.repr h.2
def tokBlobH : Repo.BlobH → CheckHist.Id := fun b => (if b.tpe = .tree then "t" else "d") ++ b.id

def exB : Blob := ⟨1, 12, 0, 60⟩
/-- a backup from the empty repository, cut after the index file (the snapshot is never written) -/
def exBackup : List Ev :=
  [.savePack 20 [exB], .saveIndex 21 [(20, [exB])], .saveSnap 22 { key := 2, tree := 12, orig := none, needs := [(1, 12)] }]

example : accept_backup RepoTrace.Repo.empty exBackup = true := by decide +kernel
example : freshOK RepoTrace.Repo.empty exBackup = true := by decide +kernel
example : exact12 RepoTrace.Repo.empty exBackup = true := by decide +kernel

/-- the hypotheses of the composition are satisfiable: a state produced by a cut backup run -/
example : CheckHist.CheckOK' (abs12 encNat tokHandle (applyAll RepoTrace.Repo.empty (exBackup.take 2))) = true :=
  produced_checkok_backup_prune_partial tokBlobH encNat tokHandle encNat_injective _
    (Produced.backup RepoTrace.Repo.empty exBackup 2 Produced.empty (by decide) (by decide) (by decide))

def exB2 : Blob := ⟨0, 13, 60, 10⟩
/-- what `exact12` excludes and `accept_backup` admits: an index file listing part of a pack -/
def exPartial : List Ev := [.savePack 20 [exB, exB2], .saveIndex 21 [(20, [exB])]]
example : accept_backup RepoTrace.Repo.empty exPartial = true := by decide +kernel
example : exact12 RepoTrace.Repo.empty exPartial = false := by decide +kernel
/-- … and the classification model of check rejects the state it leads to (pack differs from index) -/
example : CheckHist.CheckOK' (abs12 (fun n => String.ofList (List.replicate n 'a')) (fun h => String.ofList (List.replicate (h.1 + 2 * h.2) 'b'))
    (applyAll RepoTrace.Repo.empty exPartial)) = false := by decide +kernel

end examples

end Restic.Proofs.C15_Compose
