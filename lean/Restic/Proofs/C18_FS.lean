import Restic.Model.RestoreFS
/-!
Lemmas about the file system model of C18: lookups after updates, the two frames (`Only p`: only
`p` and what lies below it changes; `Frame dst`: only locations strictly inside `dst` change),
and path resolution along a chain without symlinks.
-/
namespace Restic.Model.RestoreFS

namespace FS

theorem get_cons (p : Path) (e : Entry) (l : List (Path × Entry)) (q : Path) :
    (FS.mk ((p, e) :: l)).get q = if p = q then some e else (FS.mk l).get q := by
  by_cases h : p = q <;> simp [get, h]

theorem get_filter (c : Path → Bool) (l : List (Path × Entry)) (q : Path) :
    (FS.mk (l.filter fun e => c e.1)).get q = if c q then (FS.mk l).get q else none := by
  induction l with
  | nil => simp [get]
  | cons a l ih =>
    obtain ⟨k, e⟩ := a
    rw [List.filter_cons, get_cons]
    by_cases hc : c k = true
    · rw [if_pos hc, get_cons, ih]
      by_cases hk : k = q
      · subst hk; simp [hc]
      · simp [hk]
    · rw [if_neg hc, ih]
      by_cases hk : k = q
      · subst hk; simp [hc]
      · simp [hk]

theorem get_erase (fs : FS) (p q : Path) : (fs.erase p).get q = if q = p then none else fs.get q := by
  rw [erase, get_filter (fun k => !(k == p))]
  by_cases h : q = p <;> simp [h]

theorem get_set (fs : FS) (p : Path) (e : Entry) (q : Path) :
    (fs.set p e).get q = if q = p then some e else fs.get q := by
  rw [set, get_cons, show FS.mk (fs.erase p).ents = fs.erase p from rfl, get_erase]
  by_cases h : q = p <;> simp [h, Ne.symm]

theorem get_removeTree (fs : FS) (p q : Path) :
    (fs.removeTree p).get q = if p <+: q then none else fs.get q := by
  rw [removeTree, get_filter (fun k => !(p.isPrefixOf k))]
  by_cases h : p <+: q <;> simp [h, List.isPrefixOf_iff_prefix.mpr]

end FS

def Only (p : Path) (a b : FS) : Prop := ∀ q, ¬ p <+: q → b.get q = a.get q

theorem Only.refl (p : Path) (a : FS) : Only p a a := fun _ _ => rfl

theorem Only.trans {p : Path} {a b c : FS} (h1 : Only p a b) (h2 : Only p b c) : Only p a c :=
  fun q hq => by rw [h2 q hq, h1 q hq]

theorem Only.mono {p p' : Path} {a b : FS} (h : Only p' a b) (hp : p <+: p') : Only p a b :=
  fun q hq => h q (fun h' => hq (List.IsPrefix.trans hp h'))

theorem Only.ite {p : Path} {a x y : FS} {c : Prop} [Decidable c] (hx : Only p a x) (hy : Only p a y) :
    Only p a (if c then x else y) := by
  split
  · exact hx
  · exact hy

theorem only_set (fs : FS) (p : Path) (e : Entry) : Only p fs (fs.set p e) := by
  intro q hq
  rw [FS.get_set, if_neg (fun h : q = p => hq (h ▸ List.prefix_refl _))]

theorem only_erase (fs : FS) (p : Path) : Only p fs (fs.erase p) := by
  intro q hq
  rw [FS.get_erase, if_neg (fun h : q = p => hq (h ▸ List.prefix_refl _))]

theorem only_removeTree (fs : FS) (p : Path) : Only p fs (fs.removeTree p) := by
  intro q hq
  rw [FS.get_removeTree, if_neg hq]

def Inside (dst q : Path) : Prop := dst <+: q ∧ q ≠ dst

def Frame (dst : Path) (a b : FS) : Prop := ∀ q, ¬Inside dst q → b.get q = a.get q

theorem Frame.refl (dst : Path) (a : FS) : Frame dst a a := fun _ _ => rfl

theorem Frame.trans {dst : Path} {a b c : FS} (h1 : Frame dst a b) (h2 : Frame dst b c) : Frame dst a c :=
  fun q hq => by rw [h2 q hq, h1 q hq]

theorem prefix_antisymm {a b : Path} (h1 : a <+: b) (h2 : b <+: a) : a = b :=
  h1.eq_of_length_le h2.length_le

theorem inside_of_prefix {dst p q : Path} (hp : Inside dst p) (hq : p <+: q) : Inside dst q :=
  ⟨hp.1.trans hq, fun h => hp.2 (prefix_antisymm (h ▸ hq) hp.1)⟩

theorem inside_append (dst r : Path) (hr : r ≠ []) : Inside dst (dst ++ r) :=
  ⟨List.prefix_append _ _, fun h => hr (List.append_right_eq_self.mp h)⟩

theorem Only.frame {dst p : Path} {a b : FS} (h : Only p a b) (hin : Inside dst p) : Frame dst a b :=
  fun q hq => h q (fun hp => hq (inside_of_prefix hin hp))

theorem Frame.mono {dst base : Path} {a b : FS} (h : Frame base a b) (hb : dst <+: base) : Frame dst a b :=
  fun q hq => h q fun hin => hq
    ⟨hb.trans hin.1, fun heq => hin.2 (prefix_antisymm hin.1 (heq ▸ hb)).symm⟩

theorem frame_set {dst : Path} (fs : FS) {p : Path} (e : Entry) (hp : Inside dst p) :
    Frame dst fs (fs.set p e) := (only_set fs p e).frame hp

theorem frame_erase {dst : Path} (fs : FS) {p : Path} (hp : Inside dst p) :
    Frame dst fs (fs.erase p) := (only_erase fs p).frame hp

theorem frame_removeTree {dst : Path} (fs : FS) {p : Path} (hp : Inside dst p) :
    Frame dst fs (fs.removeTree p) := (only_removeTree fs p).frame hp

def isSym (fs : FS) (q : Path) : Bool := match fs.get q with | some e => e.isSymlink | none => false
def isDirAt (fs : FS) (q : Path) : Bool := match fs.get q with | some e => e.isDir | none => false

def NoNewSym (a b : FS) : Prop := ∀ q, isSym b q = true → isSym a q = true

theorem NoNewSym.refl (a : FS) : NoNewSym a a := fun _ h => h

theorem NoNewSym.trans {a b c : FS} (h1 : NoNewSym a b) (h2 : NoNewSym b c) : NoNewSym a c :=
  fun q h => h1 q (h2 q h)

theorem noNewSym_set (fs : FS) (p : Path) (e : Entry) (he : e.isSymlink = false) :
    NoNewSym fs (fs.set p e) := by
  intro q h
  unfold isSym at h ⊢
  rw [FS.get_set] at h
  by_cases hq : q = p
  · simp [hq, he] at h
  · simpa [hq] using h

theorem noNewSym_erase (fs : FS) (p : Path) : NoNewSym fs (fs.erase p) := by
  intro q h
  unfold isSym at h ⊢
  rw [FS.get_erase] at h
  by_cases hq : q = p
  · simp [hq] at h
  · simpa [hq] using h

theorem noNewSym_removeTree (fs : FS) (p : Path) : NoNewSym fs (fs.removeTree p) := by
  intro q h
  unfold isSym at h ⊢
  rw [FS.get_removeTree] at h
  by_cases hq : p <+: q
  · simp [hq] at h
  · simpa [hq] using h

/-- a name that is exactly one path component as far as resolution is concerned -/
def PlainName (n : Name) : Prop := n ≠ [] ∧ n ≠ dot ∧ n ≠ dotdot

def PlainPath (p : Path) : Prop := ∀ n ∈ p, PlainName n

theorem plainPath_append {a b : Path} (ha : PlainPath a) (hb : PlainPath b) : PlainPath (a ++ b) :=
  fun n hn => (List.mem_append.mp hn).elim (ha n) (hb n)

theorem plainPath_snoc {p : Path} {n : Name} (hp : PlainPath p) (hn : PlainName n) :
    PlainPath (p ++ [n]) :=
  plainPath_append hp fun _ h => List.mem_singleton.mp h ▸ hn

theorem PlainPath.left {a b : Path} (h : PlainPath (a ++ b)) : PlainPath a :=
  fun n hn => h n (List.mem_append_left _ hn)

theorem plainPath_dropLast {a : Path} (ha : PlainPath a) : PlainPath a.dropLast :=
  fun n hn => ha n (List.dropLast_subset a hn)

def NoSymFrom (fs : FS) (cur : Path) (rest : List Name) : Prop :=
  ∀ k, 1 ≤ k → k ≤ rest.length → isSym fs (cur ++ rest.take k) = false

def RealFrom (fs : FS) (cur : Path) (rest : List Name) : Prop :=
  ∀ k, 1 ≤ k → k ≤ rest.length → isDirAt fs (cur ++ rest.take k) = true

theorem forall_take_iff (Q : Path → Prop) (cur : Path) (rest : List Name) :
    (∀ k, 1 ≤ k → k ≤ rest.length → Q (cur ++ rest.take k)) ↔ ∀ p, p <+: rest → p ≠ [] → Q (cur ++ p) := by
  constructor
  · intro h p hp hne
    have := h p.length (List.length_pos_iff.mpr hne) hp.length_le
    rwa [← List.prefix_iff_eq_take.mp hp] at this
  · intro h k h1 h2
    exact h _ (List.take_prefix k rest) (fun he => by
      rcases List.take_eq_nil_iff.mp he with h0 | h0
      · omega
      · simp [h0] at h2; omega)

theorem noSymFrom_iff {fs : FS} {cur : Path} {rest : List Name} :
    NoSymFrom fs cur rest ↔ ∀ p, p <+: rest → p ≠ [] → isSym fs (cur ++ p) = false :=
  forall_take_iff (isSym fs · = false) cur rest

theorem realFrom_iff {fs : FS} {cur : Path} {rest : List Name} :
    RealFrom fs cur rest ↔ ∀ p, p <+: rest → p ≠ [] → isDirAt fs (cur ++ p) = true :=
  forall_take_iff (isDirAt fs · = true) cur rest

theorem isDirAt_iff {fs : FS} {q : Path} : isDirAt fs q = true ↔ ∃ m, fs.get q = some (.dir m) := by
  unfold isDirAt
  cases fs.get q with
  | none => simp
  | some e => cases e <;> simp [Entry.isDir]

theorem isSym_false_of_isDirAt {fs : FS} {q : Path} (h : isDirAt fs q = true) : isSym fs q = false := by
  obtain ⟨m, hm⟩ := isDirAt_iff.mp h
  simp [isSym, hm, Entry.isSymlink]

theorem RealFrom.noSym {fs : FS} {cur : Path} {rest : List Name} (h : RealFrom fs cur rest) :
    NoSymFrom fs cur rest := fun k h1 h2 => isSym_false_of_isDirAt (h k h1 h2)

theorem RealFrom.congr {fs fs' : FS} {d : Path} (hr : RealFrom fs [] d)
    (h : ∀ p, p <+: d → fs'.get p = fs.get p) : RealFrom fs' [] d :=
  realFrom_iff.mpr fun p hp hne => by
    have := realFrom_iff.mp hr p hp hne
    rwa [List.nil_append, isDirAt, ← h p hp] at *

theorem RealFrom.left {fs : FS} {d r : Path} (hr : RealFrom fs [] (d ++ r)) : RealFrom fs [] d :=
  realFrom_iff.mpr fun p hp hne => realFrom_iff.mp hr p (hp.trans (List.prefix_append _ _)) hne

theorem RealFrom.last {fs : FS} {d : Path} {c : Name} (hr : RealFrom fs [] (d ++ [c])) :
    isDirAt fs (d ++ [c]) = true :=
  realFrom_iff.mp hr _ (List.prefix_refl _) (by simp)

theorem RealFrom.snoc {fs : FS} {d : Path} {c : Name} (hr : RealFrom fs [] d)
    (hc : isDirAt fs (d ++ [c]) = true) : RealFrom fs [] (d ++ [c]) :=
  realFrom_iff.mpr fun p hp hne => by
    rcases List.prefix_concat_iff.mp hp with h | h
    · exact h ▸ hc
    · exact realFrom_iff.mp hr p h hne

theorem resolveDir_plain (fs : FS) (fuel : Nat) (cur : Path) {c : Name} (hc : PlainName c)
    (rest : List Name) :
    resolveDir fs (fuel + 1) cur (c :: rest) =
      match fs.get (cur ++ [c]) with
      | some (.dir _) => resolveDir fs fuel (cur ++ [c]) rest
      | some (.symlink abs tgt) => resolveDir fs fuel (if abs then [] else cur) (tgt ++ rest)
      | _ => none := by
  obtain ⟨h1, h2, h3⟩ := hc
  simp only [resolveDir, beq_eq_false_iff_ne.mpr h1, beq_eq_false_iff_ne.mpr h2,
    beq_eq_false_iff_ne.mpr h3, Bool.or_self, Bool.false_eq_true, if_false]
  rfl

theorem resolveDir_noSym (fs : FS) (fuel : Nat) (cur : Path) (rest : List Name)
    (hp : PlainPath rest) (hs : NoSymFrom fs cur rest) :
    resolveDir fs fuel cur rest = none ∨ resolveDir fs fuel cur rest = some (cur ++ rest) := by
  rw [noSymFrom_iff] at hs
  induction rest generalizing fuel cur with
  | nil => cases fuel <;> simp [resolveDir]
  | cons c rest ih =>
    cases fuel with
    | zero => exact Or.inl rfl
    | succ f =>
      rw [resolveDir_plain fs f cur (hp c List.mem_cons_self)]
      have hsym := hs [c] (by simp) (by simp)
      unfold isSym at hsym
      split
      · have := ih f (cur ++ [c]) (fun n hn => hp n (List.mem_cons_of_mem _ hn))
          (fun p h hne => by simpa using hs (c :: p) (List.cons_prefix_cons.mpr ⟨rfl, h⟩) (by simp))
        simpa using this
      · next hg => simp [hg, Entry.isSymlink] at hsym
      · exact Or.inl rfl

theorem resolveDir_real (fs : FS) (fuel : Nat) (cur : Path) (rest : List Name)
    (hp : PlainPath rest) (hr : RealFrom fs cur rest) (hf : rest.length < fuel) :
    resolveDir fs fuel cur rest = some (cur ++ rest) := by
  rw [realFrom_iff] at hr
  induction rest generalizing fuel cur with
  | nil => cases fuel <;> simp_all [resolveDir]
  | cons c rest ih =>
    cases fuel with
    | zero => omega
    | succ f =>
      rw [resolveDir_plain fs f cur (hp c List.mem_cons_self)]
      obtain ⟨m, hg⟩ := isDirAt_iff.mp (hr [c] (by simp) (by simp))
      have := ih f (cur ++ [c]) (fun n hn => hp n (List.mem_cons_of_mem _ hn))
        (fun p h hne => by simpa using hr (c :: p) (List.cons_prefix_cons.mpr ⟨rfl, h⟩) (by simp))
        (by simp at hf; omega)
      simpa [hg] using this

theorem locate_plain (fs : FS) (d : Path) {name : Name} (hn : PlainName name) :
    locate fs (d ++ [name]) =
      match resolveDir fs (fuelFor (d ++ [name])) [] d with
      | some pp => some (pp ++ [name])
      | none => none := by
  obtain ⟨h1, h2, h3⟩ := hn
  simp only [locate, List.getLast?_concat, List.dropLast_concat, beq_eq_false_iff_ne.mpr h1,
    beq_eq_false_iff_ne.mpr h2, beq_eq_false_iff_ne.mpr h3, Bool.or_self, Bool.false_eq_true, if_false]
  rfl

theorem locate_noSym (fs : FS) (d : Path) (name : Name) (hd : PlainPath d) (hn : PlainName name)
    (hs : NoSymFrom fs [] d) :
    locate fs (d ++ [name]) = none ∨ locate fs (d ++ [name]) = some (d ++ [name]) := by
  rw [locate_plain fs d hn]
  rcases resolveDir_noSym fs (fuelFor (d ++ [name])) [] d hd hs with h | h <;> simp [h]

theorem locate_real (fs : FS) (d : Path) (name : Name) (hd : PlainPath d) (hn : PlainName name)
    (hr : RealFrom fs [] d) : locate fs (d ++ [name]) = some (d ++ [name]) := by
  rw [locate_plain fs d hn, resolveDir_real fs _ [] d hd hr (by simp [fuelFor]; omega)]
  rfl

end Restic.Model.RestoreFS
