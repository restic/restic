import Restic.Model.RepoTrace
import Restic.Proofs.Fold
/-!
`Restic.Model.RepoTrace` for C11, C14, C26 and the writer proof: the observables as statements about
membership, their monotonicity in the pack / index part of the repository, and preservation of `checkOK`
along the two trace languages every other is a sublanguage of — `acceptAdds` (guarded additions) and
`acceptW` (guarded additions and snapshot removals). Both are `Guarded` (`Proofs/Fold`): prefix closure,
invariants along a trace and inclusions come from there, only the step fact is supplied here.
-/
namespace Restic.Proofs.RepoTrace
open Restic.Model.RepoTrace

structure SubPI (r r' : Repo) : Prop where
  packs : ∀ x ∈ r.packs, x ∈ r'.packs
  indexes : ∀ x ∈ r.indexes, x ∈ r'.indexes

structure Sub (r r' : Repo) : Prop extends SubPI r r' where
  snaps : ∀ x ∈ r.snaps, x ∈ r'.snaps

theorem SubPI.refl (r : Repo) : SubPI r r := ⟨fun _ h => h, fun _ h => h⟩
theorem SubPI.trans {a b c : Repo} (h1 : SubPI a b) (h2 : SubPI b c) : SubPI a c :=
  ⟨fun x h => h2.packs x (h1.packs x h), fun x h => h2.indexes x (h1.indexes x h)⟩
theorem Sub.refl (r : Repo) : Sub r r := ⟨SubPI.refl r, fun _ h => h⟩
theorem Sub.trans {a b c : Repo} (h1 : Sub a b) (h2 : Sub b c) : Sub a c :=
  ⟨h1.toSubPI.trans h2.toSubPI, fun x h => h2.snaps x (h1.snaps x h)⟩

def isRemoveSnap : Ev → Bool
  | .removeSnap _ => true
  | _ => false

def acceptW : Repo → List Ev → Bool
  | _, [] => true
  | r, e :: tr => (addGuard r e || isRemoveSnap e) && acceptW (apply r e) tr

theorem packHas_iff {r : Repo} {p : Nat} {b : Blob} :
    packHas r p b = true ↔ ∃ q ∈ r.packs, q.1 = p ∧ b ∈ q.2 := by
  simp only [packHas, List.any_eq_true, Bool.and_eq_true, beq_iff_eq, List.contains_iff_mem]

theorem entryOK_iff {r : Repo} {e : IndexEntry} :
    entryOK r e = true ↔ ∀ b ∈ e.2, packHas r e.1 b = true := by
  simp only [entryOK, List.all_eq_true]

theorem indexed_iff {r : Repo} {x : Handle} :
    indexed r x = true ↔ ∃ ix ∈ r.indexes, ∃ e ∈ ix.2, ∃ b ∈ e.2, b.h = x ∧ packHas r e.1 b = true := by
  simp only [indexed, List.any_eq_true, Bool.and_eq_true, beq_iff_eq]

theorem restorable_iff {r : Repo} {sn : Snap} :
    restorable r sn = true ↔ ∀ x ∈ sn.needs, indexed r x = true := by
  simp only [restorable, List.all_eq_true]

theorem checkOK_iff {r : Repo} :
    checkOK r = true ↔
      (∀ ix ∈ r.indexes, ∀ e ∈ ix.2, entryOK r e = true) ∧ ∀ s ∈ r.snaps, restorable r s.2 = true := by
  simp only [checkOK, indexSound, snapsOK, Bool.and_eq_true, List.all_eq_true]

theorem snapPresent_iff {r : Repo} {s : Nat} : snapPresent r s = true ↔ ∃ x ∈ r.snaps, x.1 = s := by
  simp only [snapPresent, List.any_eq_true, beq_iff_eq]

theorem keyPresent_iff {r : Repo} {k : Nat} : keyPresent r k = true ↔ ∃ x ∈ r.snaps, x.2.key = k := by
  simp only [keyPresent, List.any_eq_true, beq_iff_eq]

theorem snapPresent_of_mem {r : Repo} {x : Nat × Snap} (h : x ∈ r.snaps) : snapPresent r x.1 = true :=
  snapPresent_iff.mpr ⟨x, h, rfl⟩

theorem keyPresent_of_mem {r : Repo} {x : Nat × Snap} (h : x ∈ r.snaps) : keyPresent r x.2.key = true :=
  keyPresent_iff.mpr ⟨x, h, rfl⟩

theorem snapPresent_mono {r r' : Repo} (h : Sub r r') {s : Nat} (hp : snapPresent r s = true) :
    snapPresent r' s = true := by
  rw [snapPresent_iff] at *
  obtain ⟨x, hx, hs⟩ := hp
  exact ⟨x, h.snaps x hx, hs⟩

theorem keyPresent_mono {r r' : Repo} (h : Sub r r') {k : Nat} (hp : keyPresent r k = true) :
    keyPresent r' k = true := by
  rw [keyPresent_iff] at *
  obtain ⟨x, hx, hk⟩ := hp
  exact ⟨x, h.snaps x hx, hk⟩

theorem packHas_mono {r r' : Repo} (h : SubPI r r') {p : Nat} {b : Blob}
    (hp : packHas r p b = true) : packHas r' p b = true := by
  rw [packHas_iff] at *
  obtain ⟨q, hq, hb⟩ := hp
  exact ⟨q, h.packs q hq, hb⟩

theorem entryOK_mono {r r' : Repo} (h : SubPI r r') {e : IndexEntry}
    (he : entryOK r e = true) : entryOK r' e = true := by
  rw [entryOK_iff] at *
  exact fun b hb => packHas_mono h (he b hb)

theorem indexed_mono {r r' : Repo} (h : SubPI r r') {x : Handle}
    (hx : indexed r x = true) : indexed r' x = true := by
  rw [indexed_iff] at *
  obtain ⟨ix, hix, e, he, b, hb, hbx, hp⟩ := hx
  exact ⟨ix, h.indexes ix hix, e, he, b, hb, hbx, packHas_mono h hp⟩

theorem restorable_mono {r r' : Repo} (h : SubPI r r') {sn : Snap}
    (hs : restorable r sn = true) : restorable r' sn = true := by
  rw [restorable_iff] at *
  exact fun x hx => indexed_mono h (hs x hx)

/-- Every `checkOK` result rests on this step: packs and index files grow, and an index file (`hi`) or snapshot
    (`hs`) of `r'` is one of `r` or passes its check in `r`. -/
theorem checkOK_of_subPI {r r' : Repo} (h : SubPI r r')
    (hi : ∀ ix ∈ r'.indexes, ix ∈ r.indexes ∨ ∀ e ∈ ix.2, entryOK r e = true)
    (hs : ∀ x ∈ r'.snaps, x ∈ r.snaps ∨ restorable r x.2 = true)
    (hc : checkOK r = true) : checkOK r' = true := by
  rw [checkOK_iff] at *
  refine ⟨fun ix hix e he => entryOK_mono h ?_, fun x hx => restorable_mono h ?_⟩
  · exact (hi ix hix).elim (fun h' => hc.1 ix h' e he) (fun h' => h' e he)
  · exact (hs x hx).elim (hc.2 x) id

theorem apply_subPI_mono {a b : Repo} (h : SubPI a b) (e : Ev) : SubPI (apply a e) (apply b e) := by
  have cons {α : Type} {l l' : List α} (hl : ∀ x ∈ l, x ∈ l') (y : α) : ∀ x ∈ y :: l, x ∈ y :: l' :=
    fun x hx => (List.mem_cons.mp hx).elim (fun e => e ▸ List.mem_cons_self) (fun hx => List.mem_cons_of_mem _ (hl x hx))
  have filt {α : Type} {l l' : List α} (hl : ∀ x ∈ l, x ∈ l') (p : α → Bool) : ∀ x ∈ l.filter p, x ∈ l'.filter p :=
    fun x hx => List.mem_filter.mpr ⟨hl x (List.mem_filter.mp hx).1, (List.mem_filter.mp hx).2⟩
  cases e with
  | savePack p bs => exact ⟨cons h.packs _, h.indexes⟩
  | saveIndex i es => exact ⟨h.packs, cons h.indexes _⟩
  | removePack p => exact ⟨filt h.packs _, h.indexes⟩
  | removeIndex i => exact ⟨h.packs, filt h.indexes _⟩
  | saveSnap s sn => exact ⟨h.packs, h.indexes⟩
  | removeSnap s => exact ⟨h.packs, h.indexes⟩

theorem addGuard_sub {r : Repo} {e : Ev} (h : addGuard r e = true) : Sub r (apply r e) := by
  cases e with
  | savePack p bs => exact ⟨⟨fun _ hx => List.mem_cons_of_mem _ hx, fun _ hx => hx⟩, fun _ hx => hx⟩
  | saveIndex i es => exact ⟨⟨fun _ hx => hx, fun _ hx => List.mem_cons_of_mem _ hx⟩, fun _ hx => hx⟩
  | saveSnap s sn => exact ⟨⟨fun _ hx => hx, fun _ hx => hx⟩, fun _ hx => List.mem_cons_of_mem _ hx⟩
  | removePack p => cases h
  | removeIndex i => cases h
  | removeSnap s => cases h

theorem addGuard_mono {a b : Repo} (h : SubPI a b) {e : Ev} (hg : addGuard a e = true) :
    addGuard b e = true := by
  cases e with
  | savePack p bs => rfl
  | saveIndex i es => exact List.all_eq_true.mpr fun en hen => entryOK_mono h (List.all_eq_true.mp hg en hen)
  | saveSnap s sn => exact restorable_mono h hg
  | removePack p => cases hg
  | removeIndex p => cases hg
  | removeSnap p => cases hg

theorem apply_snaps {r : Repo} {e : Ev} (hg : addGuard r e = true) (hn : isSaveSnap e = false) :
    (apply r e).snaps = r.snaps := by
  cases e with
  | savePack _ _ | saveIndex _ _ => rfl
  | saveSnap _ _ => cases hn
  | removePack _ | removeIndex _ | removeSnap _ => cases hg

theorem checkOK_step {r : Repo} {e : Ev} (hg : addGuard r e = true) (hc : checkOK r = true) :
    checkOK (apply r e) = true := by
  have hsub := (addGuard_sub hg).toSubPI
  cases e with
  | savePack p bs => exact checkOK_of_subPI hsub (fun _ h => Or.inl h) (fun _ h => Or.inl h) hc
  | saveIndex i es =>
    refine checkOK_of_subPI hsub (fun ix hix => ?_) (fun _ h => Or.inl h) hc
    rcases List.mem_cons.mp hix with rfl | hix
    · exact Or.inr (List.all_eq_true.mp hg)
    · exact Or.inl hix
  | saveSnap s sn =>
    refine checkOK_of_subPI hsub (fun _ h => Or.inl h) (fun x hx => ?_) hc
    rcases List.mem_cons.mp hx with rfl | hx
    · exact Or.inr hg
    · exact Or.inl hx
  | removePack p => cases hg
  | removeIndex i => cases hg
  | removeSnap s => cases hg

theorem checkOK_removeSnap {r : Repo} (s : Nat) (hc : checkOK r = true) :
    checkOK (apply r (.removeSnap s)) = true :=
  checkOK_of_subPI (r := r) ⟨fun _ h => h, fun _ h => h⟩ (fun _ h => Or.inl h)
    (fun _ hx => Or.inl (List.mem_filter.mp hx).1) hc

theorem applyAll_nil (r : Repo) : applyAll r [] = r := rfl
theorem applyAll_cons (r : Repo) (e : Ev) (tr : List Ev) :
    applyAll r (e :: tr) = applyAll (apply r e) tr := rfl
theorem applyAll_append (r : Repo) (a b : List Ev) :
    applyAll r (a ++ b) = applyAll (applyAll r a) b := List.foldl_append

theorem acceptAdds_guarded : Restic.Proofs.Trace.Guarded apply addGuard acceptAdds :=
  ⟨fun _ => rfl, fun _ _ _ => rfl⟩

theorem acceptW_guarded : Restic.Proofs.Trace.Guarded apply (fun r e => addGuard r e || isRemoveSnap e) acceptW :=
  ⟨fun _ => rfl, fun _ _ _ => rfl⟩

theorem acceptAdds_safe {r : Repo} {tr : List Ev} (h : acceptAdds r tr = true) :
    Sub r (applyAll r tr) ∧ (checkOK r = true → checkOK (applyAll r tr) = true) :=
  acceptAdds_guarded.inv (I := fun s => Sub r s ∧ (checkOK r = true → checkOK s = true))
    (fun _ _ hI hg => ⟨hI.1.trans (addGuard_sub hg), fun hc => checkOK_step hg (hI.2 hc)⟩) ⟨Sub.refl r, id⟩ h

theorem acceptAdds_take_sub {r : Repo} {tr : List Ev} (h : acceptAdds r tr = true) {j k : Nat}
    (hjk : j ≤ k) : Sub (applyAll r (tr.take j)) (applyAll r (tr.take k)) := by
  obtain ⟨d, rfl⟩ := Nat.exists_eq_add_of_le hjk
  have hk := acceptAdds_guarded.take h (j + d)
  rw [List.take_add, acceptAdds_guarded.append, Bool.and_eq_true] at hk
  rw [List.take_add, applyAll_append]
  exact (acceptAdds_safe hk.2).1

theorem acceptAdds_snaps {r : Repo} {tr : List Ev} (h : acceptAdds r tr = true)
    (hn : ∀ e ∈ tr, isSaveSnap e = false) : (applyAll r tr).snaps = r.snaps := by
  induction tr generalizing r with
  | nil => rfl
  | cons e tr ih =>
    rw [acceptAdds_guarded.cons_iff] at h
    rw [applyAll_cons, ih h.2 (fun x hx => hn x (List.mem_cons_of_mem _ hx)),
      apply_snaps h.1 (hn e List.mem_cons_self)]

theorem snapOnlyLast_iff {tr : List Ev} :
    snapOnlyLast tr = true ↔ ∀ e ∈ tr.dropLast, isSaveSnap e = false := by
  induction tr with
  | nil => simp [snapOnlyLast]
  | cons a tr ih =>
    cases tr with
    | nil => simp [snapOnlyLast]
    | cons b tr =>
      simp only [snapOnlyLast, Bool.and_eq_true, Bool.not_eq_true', ih, List.dropLast_cons_cons,
        List.forall_mem_cons]

theorem accept_backup_iff {r : Repo} {tr : List Ev} :
    accept_backup r tr = true ↔ acceptAdds r tr = true ∧ snapOnlyLast tr = true := by
  simp only [accept_backup, Bool.and_eq_true]

theorem acceptW_of_rewrites {ek : List Nat} {r : Repo} {last : Option (Nat × Nat)} {tr : List Ev}
    (h : accept_rewrites ek r last tr = true) : acceptW r tr = true := by
  induction tr generalizing r last with
  | nil => rfl
  | cons e tr ih =>
    -- pack and index removals are rejected outright; a snapshot removal has conditions of its own, which do
    -- not matter here; everything else is a guarded addition
    cases e <;> simp only [accept_rewrites, Bool.and_eq_true, Bool.false_eq_true] at h
    case removeSnap o => exact acceptW_guarded.cons_iff.mpr ⟨Bool.or_true _, ih h.2⟩
    all_goals exact acceptW_guarded.cons_iff.mpr ⟨Bool.or_eq_true_iff.mpr (.inl h.1), ih h.2⟩

theorem acceptW_checkOK {r : Repo} {tr : List Ev} (h : acceptW r tr = true) (hc : checkOK r = true) :
    checkOK (applyAll r tr) = true := by
  refine acceptW_guarded.inv (I := fun s => checkOK s = true) (fun s e hc hg => ?_) hc h
  refine (Bool.or_eq_true_iff.mp hg).elim (checkOK_step · hc) fun hr => ?_
  cases e <;> cases hr
  exact checkOK_removeSnap _ hc

end Restic.Proofs.RepoTrace
