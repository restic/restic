import Restic.Model.FileRestore
/-!
A blob in its place in a file: `Present` (its bytes are there) and `Matches` (what is there has
its hash, which is all the loop of `verifyFile` sees); `toBytes_eq_concat_iff` ties the content of
a file to the presence of every blob. Last, `restoreFile` split at its state (`restoreFile_eq`).
-/
namespace Restic.Model.FileRestore

variable {ID : Type}

namespace File

theorem seg_length (f : File) (off n : Nat) : (f.seg off n).length = n := by
  simp [seg]

theorem seg_append (f : File) (off n m : Nat) :
    f.seg off (n + m) = f.seg off n ++ f.seg (off + n) m := by
  simp only [seg, List.range_add, List.map_append, List.map_map, Function.comp_def, Nat.add_assoc]

theorem toBytes_eq_seg (f : File) : f.toBytes = f.seg 0 f.len := by
  simp [toBytes, seg]

theorem toBytes_length (f : File) : f.toBytes.length = f.len := by
  simp [toBytes]

theorem toBytes_getElem? (f : File) (i : Nat) (h : i < f.len) : f.toBytes[i]? = some (f.byte i) := by
  simp [toBytes, h]

theorem read_of_lt (f : File) {i : Nat} (h : i < f.len) : f.read i = f.byte i := by
  simp [read, h]

theorem toBytes_congr {f g : File} (hl : f.len = g.len) (hb : ∀ i, i < f.len → f.byte i = g.byte i) :
    f.toBytes = g.toBytes := by
  unfold toBytes
  rw [← hl]
  exact List.map_congr_left fun i hi => hb i (List.mem_range.mp hi)

@[simp] theorem read_empty (i : Nat) : File.empty.read i = 0 := by simp [read, empty]
@[simp] theorem len_empty : File.empty.len = 0 := rfl
@[simp] theorem len_truncate (f : File) (n : Nat) : (f.truncate n).len = n := rfl
@[simp] theorem len_preallocate (f : File) (n : Nat) : (f.preallocate n).len = max f.len n := rfl

theorem read_truncate (f : File) (n i : Nat) : (f.truncate n).read i = if i < n then f.read i else 0 := rfl

theorem read_ge (f : File) {i : Nat} (h : f.len ≤ i) : f.read i = 0 :=
  if_neg (Nat.not_lt.mpr h)

theorem read_preallocate (f : File) (n i : Nat) : (f.preallocate n).read i = f.read i := by
  show (if i < max f.len n then f.read i else 0) = f.read i
  by_cases h : i < f.len
  · rw [if_pos (Nat.lt_of_lt_of_le h (Nat.le_max_left ..))]
  · rw [read_ge f (Nat.not_lt.mp h), ite_self]

theorem len_writeAt (f : File) (off : Nat) (p : Bytes) :
    (f.writeAt off p).len = if p.isEmpty then f.len else max f.len (off + p.length) := by
  unfold writeAt
  split <;> rfl

theorem read_writeAt (f : File) (off : Nat) (p : Bytes) (i : Nat) :
    (f.writeAt off p).read i =
      if off ≤ i ∧ i < off + p.length then p.getD (i - off) 0 else f.read i := by
  unfold writeAt
  split
  · rename_i hp
    rw [if_neg]
    rw [List.isEmpty_iff.mp hp]
    exact fun h => Nat.lt_irrefl _ (Nat.lt_of_le_of_lt h.1 h.2)
  · show (if i < max f.len (off + p.length) then
        if off ≤ i ∧ i < off + p.length then p.toArray.getD (i - off) 0 else f.read i else 0) = _
    by_cases hin : off ≤ i ∧ i < off + p.length
    · rw [if_pos hin, if_pos hin, if_pos (Nat.lt_of_lt_of_le hin.2 (Nat.le_max_right ..)),
        Array.getD_eq_getD_getElem?, List.getElem?_toArray, List.getD_eq_getElem?_getD]
    · rw [if_neg hin, if_neg hin]
      exact read_preallocate f (off + p.length) i

theorem seg_eq_iff_read (f : File) (off : Nat) (d : Bytes) (hlen : off + d.length ≤ f.len) :
    f.seg off d.length = d ↔ ∀ i, off ≤ i → i < off + d.length → f.read i = d.getD (i - off) 0 := by
  have get : ∀ j (h : j < d.length), d.getD j 0 = d[j] := fun j h => by
    rw [List.getD_eq_getElem?_getD, List.getElem?_eq_getElem h, Option.getD_some]
  simp only [List.ext_getElem_iff, seg, List.length_map, List.length_range, true_and, List.getElem_map,
    List.getElem_range]
  constructor
  · intro h i h1 h2
    have hj : i - off < d.length := Nat.sub_lt_left_of_lt_add h1 h2
    rw [read_of_lt f (Nat.lt_of_lt_of_le h2 hlen), get _ hj, ← h (i - off) hj hj, Nat.add_sub_cancel' h1]
  · intro h j hj _
    have h2 : off + j < off + d.length := Nat.add_lt_add_left hj off
    have := h (off + j) (Nat.le_add_right ..) h2
    rwa [read_of_lt f (Nat.lt_of_lt_of_le h2 hlen), Nat.add_sub_cancel_left, get _ hj] at this

theorem toBytes_eq_iff_read (f : File) (b : Bytes) (hl : f.len = b.length)
    (hr : ∀ i, i < f.len → f.read i = b.getD i 0) : f.toBytes = b := by
  rw [toBytes_eq_seg, hl]
  exact (seg_eq_iff_read f 0 b (by omega)).mpr fun i _ hi => hr i (by omega)

end File

theorem zeroPrefixLen_le (p : Bytes) : zeroPrefixLen p ≤ p.length :=
  (List.takeWhile_sublist _).length_le

theorem zeroPrefixLen_zero (p : Bytes) (j : Nat) (h : j < zeroPrefixLen p) : p.getD j 0 = 0 := by
  induction p generalizing j with
  | nil => cases h
  | cons b rest ih =>
    unfold zeroPrefixLen at h
    rw [List.takeWhile_cons] at h
    split at h
    · rename_i hb
      cases j with
      | zero => exact beq_iff_eq.mp hb
      | succ j => exact ih j (Nat.lt_of_succ_lt_succ h)
    · cases h

theorem concat_length (bs : List (Blob ID)) : (concat bs).length = totalLen bs := by
  induction bs with
  | nil => simp [concat, totalLen]
  | cons b rest ih =>
    simp only [concat, List.flatMap_cons, List.length_append, totalLen] at *
    omega

theorem concat_cons (b : Blob ID) (rest : List (Blob ID)) :
    concat (b :: rest) = b.data ++ concat rest := by
  simp [concat]

/-- the number of leading bytes of a blob that `partialFile.WriteAt` leaves unwritten -/
def skipped (sp : Bool) (p : Bytes) : Nat := if sp then zeroPrefixLen p else 0

theorem pwrite_eq (sp : Bool) (f : File) (w : Write ID) :
    pwrite sp f w = f.writeAt (w.off + skipped sp w.data) (w.data.drop (skipped sp w.data)) := by
  cases sp <;> rfl

theorem skipped_le (sp : Bool) (p : Bytes) : skipped sp p ≤ p.length := by
  cases sp
  · exact Nat.zero_le _
  · exact zeroPrefixLen_le p

def InRange (w : Write ID) (i : Nat) : Prop := w.off ≤ i ∧ i < w.off + w.data.length

/-- the blob of `w` is in `f` at its offset (an empty blob is, wherever the file ends) -/
def Present (f : File) (w : Write ID) : Prop :=
  (w.data = [] ∨ w.off + w.data.length ≤ f.len) ∧ ∀ i, InRange w i → f.read i = w.data.getD (i - w.off) 0

theorem present_iff_seg (f : File) (w : Write ID) (h : w.data = [] ∨ w.off + w.data.length ≤ f.len) :
    Present f w ↔ f.seg w.off w.data.length = w.data := by
  rcases h with he | hb
  · refine iff_of_true ⟨.inl he, fun i hi => ?_⟩ (by rw [he]; rfl)
    unfold InRange at hi
    rw [he] at hi
    exact absurd hi.2 (Nat.not_lt.mpr hi.1)
  · rw [File.seg_eq_iff_read f _ _ hb]
    exact ⟨fun h i h1 h2 => h.2 i ⟨h1, h2⟩, fun h => ⟨.inr hb, fun i hi => h i hi.1 hi.2⟩⟩

theorem read_pwrite_out (sp : Bool) (f : File) (w : Write ID) (i : Nat) (h : ¬InRange w i) :
    (pwrite sp f w).read i = f.read i := by
  have := skipped_le sp w.data
  rw [pwrite_eq, File.read_writeAt, if_neg]
  unfold InRange at h
  rw [List.length_drop]
  omega

/-- a write puts the blob's bytes at its range; in sparse mode provided the skipped positions
    already read as zero (or as the blob) -/
theorem read_pwrite_in (sp : Bool) (f : File) (w : Write ID) (i : Nat) (h : InRange w i)
    (hz : sp = true → f.read i = 0 ∨ f.read i = w.data.getD (i - w.off) 0) :
    (pwrite sp f w).read i = w.data.getD (i - w.off) 0 := by
  have hk := skipped_le sp w.data
  unfold InRange at h
  rw [pwrite_eq, File.read_writeAt, List.length_drop]
  by_cases hs : w.off + skipped sp w.data ≤ i
  · rw [if_pos ⟨hs, by omega⟩, List.getD_eq_getElem?_getD, List.getElem?_drop, ← List.getD_eq_getElem?_getD]
    congr 1
    omega
  · rw [if_neg (fun h' => hs h'.1)]
    -- `i` is among the skipped bytes: the mode is sparse and the blob has a zero there
    cases sp with
    | false => exact absurd (Nat.le_of_eq (Nat.add_zero _)) (fun h' => hs (Nat.le_trans h' h.1))
    | true =>
      have hzero := zeroPrefixLen_zero w.data (i - w.off) (by unfold skipped at hs; simp only [if_true] at hs; omega)
      rcases hz rfl with h0 | h0
      · rw [h0, hzero]
      · exact h0

theorem len_pwrite (sp : Bool) (f : File) (w : Write ID) :
    f.len ≤ (pwrite sp f w).len ∧ (pwrite sp f w).len ≤ max f.len (w.off + w.data.length) ∧
    (sp = false → w.data ≠ [] → w.off + w.data.length ≤ (pwrite sp f w).len) := by
  have := skipped_le sp w.data
  rw [pwrite_eq, File.len_writeAt, List.length_drop]
  split
  · rename_i he
    refine ⟨Nat.le_refl _, Nat.le_max_left .., ?_⟩
    rintro rfl hne
    exact absurd (List.isEmpty_iff.mp he) hne
  · rw [show w.off + skipped sp w.data + (w.data.length - skipped sp w.data) = w.off + w.data.length by omega]
    exact ⟨Nat.le_max_left .., Nat.le_refl _, fun _ _ => Nat.le_max_right ..⟩

theorem read_foldl_out (sp : Bool) (ws : List (Write ID)) (f : File) (i : Nat)
    (h : ∀ w ∈ ws, ¬InRange w i) : (ws.foldl (pwrite sp) f).read i = f.read i :=
  List.foldlRecOn ws _ (motive := fun g => g.read i = f.read i) rfl
    fun g hg w hw => (read_pwrite_out sp g w i (h w hw)).trans hg

def Disj (ws : List (Write ID)) : Prop :=
  ∀ w1 ∈ ws, ∀ w2 ∈ ws, ∀ i, InRange w1 i → InRange w2 i → w1 = w2

theorem read_foldl_in (sp : Bool) (ws : List (Write ID)) (hd : Disj ws) (f : File) (w : Write ID)
    (hw : w ∈ ws) (i : Nat) (hin : InRange w i)
    (hz : sp = true → f.read i = 0 ∨ f.read i = w.data.getD (i - w.off) 0) :
    (ws.foldl (pwrite sp) f).read i = w.data.getD (i - w.off) 0 := by
  induction ws generalizing f with
  | nil => cases hw
  | cons w0 rest ih =>
    rw [List.foldl_cons]
    have hd' : Disj rest := fun a ha b hb => hd a (List.mem_cons_of_mem _ ha) b (List.mem_cons_of_mem _ hb)
    have hfirst : (pwrite sp f w0).read i = w.data.getD (i - w.off) 0 ∨
        (pwrite sp f w0).read i = f.read i := by
      by_cases h0 : InRange w0 i
      · have : w0 = w := hd w0 List.mem_cons_self w hw i h0 hin
        subst this
        exact Or.inl (read_pwrite_in sp f w0 i hin hz)
      · exact Or.inr (read_pwrite_out sp f w0 i h0)
    by_cases hr : w ∈ rest
    · apply ih hd' _ hr
      intro hsp
      rcases hfirst with h1 | h1
      · exact Or.inr h1
      · rw [h1]; exact hz hsp
    · have hw0 : w = w0 := by
        rcases List.mem_cons.mp hw with h | h
        · exact h
        · exact absurd h hr
      subst hw0
      rw [read_foldl_out sp rest _ i]
      · exact read_pwrite_in sp f w i hin hz
      · intro x hx hxin
        have : x = w := hd x (List.mem_cons_of_mem _ hx) w List.mem_cons_self i hxin hin
        exact hr (this ▸ hx)

theorem len_foldl (sp : Bool) (ws : List (Write ID)) (f : File) (n : Nat)
    (h1 : ∀ w ∈ ws, w.off + w.data.length ≤ n) (h2 : f.len ≤ n) :
    f.len ≤ (ws.foldl (pwrite sp) f).len ∧ (ws.foldl (pwrite sp) f).len ≤ n ∧
    (sp = false → ∀ w ∈ ws, w.data ≠ [] → w.off + w.data.length ≤ (ws.foldl (pwrite sp) f).len) := by
  induction ws generalizing f with
  | nil => exact ⟨Nat.le_refl _, h2, fun _ _ hw => nomatch hw⟩
  | cons w rest ih =>
    obtain ⟨hge0, hle0, hend0⟩ := len_pwrite sp f w
    obtain ⟨hge, hle, hend⟩ := ih (pwrite sp f w) (fun x hx => h1 x (List.mem_cons_of_mem _ hx))
      (Nat.le_trans hle0 (Nat.max_le.mpr ⟨h2, h1 w List.mem_cons_self⟩))
    refine ⟨Nat.le_trans hge0 hge, hle, fun hsp x hx hne => ?_⟩
    rcases List.mem_cons.mp hx with rfl | hx
    · exact Nat.le_trans (hend0 hsp hne) hge
    · exact hend hsp x hx hne

structure BlobWriteOf (bs : List (Blob ID)) (k off : Nat) (w : Write ID) : Prop where
  idx_ge : k ≤ w.idx
  idx_lt : w.idx < k + bs.length
  off_ge : off ≤ w.off
  end_le : w.off + w.data.length ≤ off + totalLen bs
  blob : ∃ b ∈ bs, w.id = b.id ∧ w.data = b.data

theorem blobWrites_mem (bs : List (Blob ID)) (k off : Nat) :
    ∀ w ∈ blobWrites bs k off, BlobWriteOf bs k off w := by
  induction bs generalizing k off with
  | nil => intro w hw; cases hw
  | cons b rest ih =>
    intro w hw
    rcases List.mem_cons.mp hw with rfl | h
    · exact ⟨Nat.le_refl _, Nat.lt_add_of_pos_right (Nat.succ_pos _), Nat.le_refl _,
        Nat.add_le_add_left (Nat.le_add_right ..) _, b, List.mem_cons_self, rfl, rfl⟩
    · obtain ⟨h1, h2, h3, h4, b', hb', h5⟩ := ih (k + 1) (off + b.data.length) w h
      exact ⟨by omega, by rw [List.length_cons]; omega, by omega, by rw [totalLen]; omega,
        b', List.mem_cons_of_mem _ hb', h5⟩

theorem blobWrites_idx_ge (bs : List (Blob ID)) (k off : Nat) :
    ∀ w ∈ blobWrites bs k off, k ≤ w.idx :=
  fun w hw => (blobWrites_mem bs k off w hw).idx_ge

theorem blobWrites_disj (bs : List (Blob ID)) (k off : Nat) : Disj (blobWrites bs k off) := by
  induction bs generalizing k off with
  | nil => intro w1 h1; cases h1
  | cons b rest ih =>
    -- the first write ends where the others begin
    have sep : ∀ w ∈ blobWrites rest (k + 1) (off + b.data.length), ∀ i,
        InRange ⟨k, off, b.id, b.data⟩ i → ¬InRange w i := fun w hw i hi hi' =>
      Nat.lt_irrefl i (Nat.lt_of_lt_of_le hi.2 (Nat.le_trans (blobWrites_mem _ _ _ w hw).off_ge hi'.1))
    intro w1 h1 w2 h2 i hi1 hi2
    rcases List.mem_cons.mp h1 with rfl | h1 <;> rcases List.mem_cons.mp h2 with rfl | h2
    · rfl
    · exact absurd hi2 (sep w2 h2 i hi1)
    · exact absurd hi1 (sep w1 h1 i hi2)
    · exact ih (k + 1) (off + b.data.length) w1 h1 w2 h2 i hi1 hi2

theorem blobWrites_last (bs : List (Blob ID)) (k off : Nat) (h : 0 < totalLen bs) :
    ∃ w ∈ blobWrites bs k off, w.data ≠ [] ∧ w.off + w.data.length = off + totalLen bs := by
  induction bs generalizing k off with
  | nil => cases h
  | cons b rest ih =>
    rw [totalLen] at h ⊢
    by_cases hr : 0 < totalLen rest
    · obtain ⟨w, hw, hne, hend⟩ := ih (k + 1) (off + b.data.length) hr
      exact ⟨w, List.mem_cons_of_mem _ hw, hne, by omega⟩
    · rw [Nat.eq_zero_of_not_pos hr] at h ⊢
      exact ⟨⟨k, off, b.id, b.data⟩, List.mem_cons_self, List.ne_nil_of_length_pos h, rfl⟩

theorem seg_eq_concat_iff (f : File) (bs : List (Blob ID)) (k off : Nat) :
    f.seg off (totalLen bs) = concat bs ↔ ∀ w ∈ blobWrites bs k off, f.seg w.off w.data.length = w.data := by
  induction bs generalizing k off with
  | nil => simp [totalLen, concat, File.seg, blobWrites]
  | cons b rest ih =>
    rw [totalLen, File.seg_append, concat_cons, blobWrites, List.forall_mem_cons, ← ih (k + 1) (off + b.data.length)]
    exact ⟨fun h => List.append_inj h (File.seg_length ..), fun ⟨h1, h2⟩ => by rw [h1, h2]⟩

theorem toBytes_eq_concat_iff (f : File) (bs : List (Blob ID)) :
    f.toBytes = concat bs ↔ f.len = totalLen bs ∧ ∀ w ∈ blobWrites bs 0 0, Present f w := by
  have hin : f.len = totalLen bs → ∀ w ∈ blobWrites bs 0 0, w.data = [] ∨ w.off + w.data.length ≤ f.len :=
    fun hl w hw => .inr (by have := (blobWrites_mem bs 0 0 w hw).end_le; omega)
  constructor
  · intro h
    have hl : f.len = totalLen bs := by rw [← File.toBytes_length, h, concat_length]
    rw [File.toBytes_eq_seg, hl] at h
    exact ⟨hl, fun w hw => (present_iff_seg f w (hin hl w hw)).mpr ((seg_eq_concat_iff f bs 0 0).mp h w hw)⟩
  · rintro ⟨hl, h⟩
    rw [File.toBytes_eq_seg, hl]
    exact (seg_eq_concat_iff f bs 0 0).mpr fun w hw => (present_iff_seg f w (h w hw).1).mp (h w hw)

def Collision {ID : Type} (hash : Bytes → ID) : Prop := ∃ a b : Bytes, a ≠ b ∧ hash a = hash b

/-- the node is what a repository serves: every blob id is the hash of its plaintext and the
    recorded size is the sum of the blob lengths -/
structure WF {ID : Type} (hash : Bytes → ID) (node : FNode ID) : Prop where
  ids : ∀ b ∈ node.content, b.id = hash b.data
  size : node.size = totalLen node.content

/-- no other plaintext has the id of a blob of this node: under it `Matches` gives `Present`; a
    `WF` node without it exhibits a `Collision` -/
def NoCol (hash : Bytes → ID) (node : FNode ID) : Prop :=
  ∀ b ∈ node.content, ∀ x : Bytes, hash x = b.id → x = b.data

theorem collision_of_not_noCol (hash : Bytes → ID) (node : FNode ID) (hwf : WF hash node)
    (h : ¬NoCol hash node) : Collision hash := by
  apply Classical.byContradiction
  intro hc
  refine h fun b hb x hx => Classical.byContradiction fun hne => hc ⟨x, b.data, hne, ?_⟩
  rw [hx, hwf.ids b hb]

def Matches (hash : Bytes → ID) (f : File) (w : Write ID) : Prop :=
  (w.data = [] ∨ w.off + w.data.length ≤ f.len) ∧ w.id = hash (f.seg w.off w.data.length)

theorem Matches.present {hash : Bytes → ID} {node : FNode ID} {f : File} {w : Write ID} {k off : Nat}
    (hnc : NoCol hash node) (hw : w ∈ blobWrites node.content k off) (h : Matches hash f w) : Present f w := by
  obtain ⟨b, hb, hid, hdata⟩ := (blobWrites_mem node.content k off w hw).blob
  -- the segment hashes to the id of `b`, so it is `b`
  rw [present_iff_seg f w h.1, hdata]
  exact hnc b hb _ (by rw [← hdata, ← h.2, hid])

theorem Present.matches {hash : Bytes → ID} {node : FNode ID} {f : File} {w : Write ID} {k off : Nat}
    (hids : ∀ b ∈ node.content, b.id = hash b.data) (hw : w ∈ blobWrites node.content k off)
    (h : Present f w) : Matches hash f w := by
  obtain ⟨b, hb, hid, hdata⟩ := (blobWrites_mem node.content k off w hw).blob
  exact ⟨h.1, by rw [(present_iff_seg f w h.1).mp h, hid, hdata, hids b hb]⟩

theorem toBytes_eq_concat_of_matches {hash : Bytes → ID} {node : FNode ID} {f : File} (hnc : NoCol hash node)
    (hlen : f.len = totalLen node.content) (h : ∀ w ∈ blobWrites node.content 0 0, Matches hash f w) :
    f.toBytes = concat node.content :=
  (toBytes_eq_concat_iff f node.content).mpr ⟨hlen, fun w hw => (h w hw).present hnc hw⟩

/-- Both modes of the loop in one induction: a run that ends without error flags only matching
    blobs, and with `failFast` every blob matches. -/
theorem verifyBlobs_sound [DecidableEq ID] (hash : Bytes → ID) (ff : Bool) (f : File) (bs : List (Blob ID))
    (off k : Nat) (ms : List Bool) (full : Bool) (h : verifyBlobs hash ff f bs off = .ok (ms, full)) :
    ms.length = bs.length ∧
    ∀ w ∈ blobWrites bs k off, ff = true ∨ ms.getD (w.idx - k) false = true → Matches hash f w := by
  induction bs generalizing off k ms full with
  | nil =>
    cases h
    exact ⟨rfl, fun w hw => nomatch hw⟩
  | cons b rest ih =>
    simp only [verifyBlobs] at h
    by_cases hEof : b.data.length ≠ 0 ∧ f.len < off + b.data.length
    · -- EOF: an error with `failFast`, otherwise nothing from here on is flagged
      rw [if_pos hEof] at h
      cases ff
      · cases h
        refine ⟨List.length_replicate, fun w _ hw => ?_⟩
        rw [List.getD_eq_getElem?_getD, List.getElem?_replicate] at hw
        rcases hw with hw | hw
        · cases hw
        · split at hw <;> cases hw
      · cases h
    · rw [if_neg hEof] at h
      by_cases hbad : (ff && !decide (b.id = hash (f.seg off b.data.length))) = true
      · rw [if_pos hbad] at h; cases h
      · rw [if_neg hbad] at h
        cases hv : verifyBlobs hash ff f rest (off + b.data.length) with
        | error e => rw [hv] at h; cases h
        | ok r =>
          rw [hv] at h
          cases h
          obtain ⟨hlen, hrest⟩ := ih (off + b.data.length) (k + 1) r.1 r.2 hv
          refine ⟨congrArg (· + 1) hlen, fun w hw hflag => ?_⟩
          rcases List.mem_cons.mp hw with rfl | hw
          · refine ⟨?_, ?_⟩
            · by_cases he : b.data.length = 0
              · exact .inl (List.eq_nil_of_length_eq_zero he)
              · exact .inr (Nat.not_lt.mp fun hlt => hEof ⟨he, hlt⟩)
            · -- with `failFast` a mismatch would have been an error; otherwise the flag says so
              rcases hflag with rfl | hflag
              · simpa using hbad
              · simpa using hflag
          · have := blobWrites_idx_ge rest (k + 1) _ w hw
            rw [show w.idx - k = (w.idx - (k + 1)) + 1 by omega, List.getD_cons_succ] at hflag
            exact hrest w hw hflag

theorem verifyBlobs_failFast_of_matches [DecidableEq ID] (hash : Bytes → ID) (f : File) (bs : List (Blob ID))
    (off k : Nat) (h : ∀ w ∈ blobWrites bs k off, Matches hash f w) :
    ∃ r, verifyBlobs hash true f bs off = .ok r := by
  induction bs generalizing off k with
  | nil => exact ⟨_, rfl⟩
  | cons b rest ih =>
    obtain ⟨hb, hm⟩ : (b.data = [] ∨ off + b.data.length ≤ f.len) ∧ b.id = hash (f.seg off b.data.length) :=
      h ⟨k, off, b.id, b.data⟩ List.mem_cons_self
    obtain ⟨r, hr⟩ := ih (off + b.data.length) (k + 1) fun w hw => h w (List.mem_cons_of_mem _ hw)
    have hEof : ¬(b.data.length ≠ 0 ∧ f.len < off + b.data.length) := fun ⟨h0, hlt⟩ =>
      hb.elim (fun he => h0 (by rw [he]; rfl)) (fun hle => Nat.lt_irrefl _ (Nat.lt_of_lt_of_le hlt hle))
    simp only [verifyBlobs, if_neg hEof, ← hm, decide_true, Bool.not_true, Bool.and_false, Bool.false_eq_true,
      if_false, hr]
    exact ⟨_, rfl⟩

theorem contractBoundary_ifChanged (f : File) (w : Bool) (l : Nat) (m : Int) (node : FNode ID) :
    contractBoundary .ifChanged (.regular f true w l m) node = false ↔
      (m = node.mtime → f.len = node.size → f.toBytes = concat node.content) := by
  simp [contractBoundary]

variable [DecidableEq ID]

theorem verifyFile_ok_regular (hash : Bytes → ID) (t : Target) (node : FNode ID) (failFast tm : Bool)
    (s : FileState) (h : verifyFile hash t node failFast tm = .ok s) : ∃ f w l m, t = .regular f true w l m := by
  rcases t with _ | ⟨f, _ | _, w, l, m⟩ | _ | _ | _
  case regular.true => exact ⟨f, w, l, m, rfl⟩
  all_goals simp [verifyFile] at h

theorem needsRestore_some_eq_false {ms : List Bool} {sz : Bool} :
    needsRestore (some ⟨some ms, sz⟩) = false ↔ sz = true ∧ ∀ m ∈ ms, m = true := by
  simp [needsRestore]

section
variable (hash : Bytes → ID) (cfg : Cfg) (zc : ID) (ow : Overwrite) (t : Target) (node : FNode ID)
  (order : Option FileState → List (Write ID))

/-- the state `restoreFile` goes on with after its overwrite check -/
def stateOf : Option FileState :=
  match verifyFile hash t node false (ow == .ifChanged) with
  | .ok s => dropIfHardlinked cfg t s
  | .error _ => none

/-- what `restoreFile` does with that state -/
def restoreWith (st : Option FileState) : Outcome :=
  if !needsRestore st then .metadataOnly else
  match restoreContent cfg zc t node st (order st) with
  | .ok f => .restored f
  | .error e => .failed e

theorem restoreFile_eq : restoreFile hash cfg zc ow t node order =
    if !shouldOverwrite ow node t then .untouched
    else restoreWith cfg zc t node order (stateOf hash cfg ow t node) := rfl

end

end Restic.Model.FileRestore
